import HawkModel.Rex
/-! The specification matcher of `Rex.lean` against its denotation.  The first part (up to `maxOf_eq_max?`) knows no pattern: it is
about a step function `step` and the relation `R` it lists alone.  Paths are counted (`IterN`; a path `Iter` is a path of some
count), because `closure` runs on fuel and `rep` counts copies.  In `mem_ends`, `step` is `ends` of a sub-pattern and `R` its
`Matches`.  After `matchLL`: `Matches` under case folding, on a suffix of the subject, and under flags the pattern cannot see;
last, the first copy of a `rep` split off, as an equation between patterns. -/
namespace Hawk.Rex

theorem mem_addNew {acc : List Nat} {x y : Nat} : y ∈ addNew acc x ↔ y ∈ acc ∨ y = x := by
  unfold addNew
  split
  · rename_i h
    have hx : x ∈ acc := by simpa using h
    exact ⟨Or.inl, fun h => h.elim id (· ▸ hx)⟩
  · simp

theorem mem_union {a b : List Nat} {y : Nat} : y ∈ union a b ↔ y ∈ a ∨ y ∈ b := by
  unfold union
  induction b generalizing a with
  | nil => simp
  | cons x b ih => simp only [List.foldl_cons, ih, mem_addNew, List.mem_cons, or_assoc]

theorem mem_foldl_union {step : Nat → List Nat} {l acc : List Nat} {y : Nat} :
    y ∈ l.foldl (fun acc x => union acc (step x)) acc ↔ y ∈ acc ∨ ∃ x, x ∈ l ∧ y ∈ step x := by
  induction l generalizing acc with
  | nil => simp
  | cons x l ih =>
    simp only [List.foldl_cons, ih, mem_union, List.mem_cons, or_and_right, exists_or, exists_eq_left, or_assoc]

theorem mem_stepAll {step : Nat → List Nat} {l : List Nat} {y : Nat} :
    y ∈ stepAll step l ↔ ∃ x, x ∈ l ∧ y ∈ step x := by
  unfold stepAll
  rw [mem_foldl_union]
  simp

theorem IterN.congr {R R' : Nat → Nat → Prop} (h : ∀ a b, R a b ↔ R' a b) {n i j : Nat} :
    IterN R n i j ↔ IterN R' n i j := by
  induction n generalizing i with
  | zero => simp [IterN]
  | succ n ih => simp only [IterN, h, ih]

theorem Iter.trans {R : Nat → Nat → Prop} {i k j : Nat} : Iter R i k → Iter R k j → Iter R i j := by
  intro h1 h2
  induction h1 with
  | refl _ => exact h2
  | step hr _ ih => exact Iter.step hr (ih h2)

theorem Iter.single {R : Nat → Nat → Prop} {i j : Nat} (h : R i j) : Iter R i j :=
  Iter.step h (Iter.refl j)

theorem Iter.iff_iterN {R : Nat → Nat → Prop} {i j : Nat} : Iter R i j ↔ ∃ n, IterN R n i j := by
  constructor
  · intro h
    induction h with
    | refl i => exact ⟨0, rfl⟩
    | step hr _ ih =>
      obtain ⟨n, hn⟩ := ih
      exact ⟨n + 1, _, hr, hn⟩
  · rintro ⟨n, h⟩
    induction n generalizing i with
    | zero => exact h ▸ Iter.refl _
    | succ n ih =>
      obtain ⟨k, hk, hr⟩ := h
      exact Iter.step hk (ih hr)

theorem IterN.bounds {R : Nat → Nat → Prop} {L : Nat} (hR : ∀ a b, R a b → a ≤ b ∧ b ≤ L) {n i j : Nat}
    (h : IterN R n i j) (hi : i ≤ L) : i ≤ j ∧ j ≤ L := by
  induction n generalizing i with
  | zero => exact h ▸ ⟨Nat.le_refl _, hi⟩
  | succ n ih =>
    obtain ⟨k, hr, hk⟩ := h
    obtain ⟨hik, hkL⟩ := hR _ _ hr
    exact ⟨Nat.le_trans hik (ih hk hkL).1, (ih hk hkL).2⟩

/-- self-loops (`R a a`: the sub-pattern matched empty) can be dropped -/
theorem IterN.short {R : Nat → Nat → Prop} (hm : ∀ a b, R a b → a ≤ b) {n i j : Nat} (h : IterN R n i j) :
    ∃ n', i + n' ≤ j ∧ IterN R n' i j := by
  induction n generalizing i with
  | zero => exact ⟨0, Nat.le_of_eq h, h⟩
  | succ n ih =>
    obtain ⟨k, hr, hk⟩ := h
    obtain ⟨n', hn, hp⟩ := ih hk
    have hik := hm _ _ hr
    by_cases hki : k = i
    · subst hki; exact ⟨n', hn, hp⟩
    · exact ⟨n' + 1, by omega, _, hr, hp⟩

theorem IterN.add {R : Nat → Nat → Prop} {a b i j : Nat} :
    IterN R (a + b) i j ↔ ∃ k, IterN R a i k ∧ IterN R b k j := by
  induction a generalizing i with
  | zero => simp [IterN]
  | succ a ih =>
    rw [Nat.succ_add]
    simp only [IterN, ih]
    constructor
    · rintro ⟨k, hk, k', h1, h2⟩; exact ⟨k', ⟨k, hk, h1⟩, h2⟩
    · rintro ⟨k', ⟨k, hk, h1⟩, h2⟩; exact ⟨k, hk, k', h1, h2⟩

theorem exists_shift {o : Nat} {P : Nat → Prop} (h : ∀ k, P k → o ≤ k) : (∃ k, P k) ↔ ∃ k, P (o + k) :=
  ⟨fun ⟨k, hk⟩ => ⟨k - o, by rwa [Nat.add_sub_cancel' (h k hk)]⟩, fun ⟨k, hk⟩ => ⟨o + k, hk⟩⟩

/-- left: how `ends` computes `rep` (`pow m`, then `closure` or `upto`); right: how `Matches` states it -/
theorem IterN.then_more {R : Nat → Nat → Prop} {P : Nat → Prop} {m i j : Nat} :
    (∃ x, IterN R m i x ∧ ∃ k, P (m + k) ∧ IterN R k x j) ↔ ∃ k, m ≤ k ∧ P k ∧ IterN R k i j := by
  rw [exists_shift (o := m) (P := fun k => m ≤ k ∧ P k ∧ IterN R k i j) fun _ h => h.1]
  simp only [IterN.add, Nat.le_add_right, true_and]
  exact ⟨fun ⟨x, h1, k, hk, h2⟩ => ⟨k, hk, x, h1, h2⟩, fun ⟨k, hk, x, h1, h2⟩ => ⟨x, h1, k, hk, h2⟩⟩

section
-- a step function on positions and the relation it lists: the user (`mem_ends`) has `hR` as its induction hypothesis
variable {step : Nat → List Nat} {R : Nat → Nat → Prop} (hR : ∀ a b, b ∈ step a ↔ R a b)
include hR

theorem mem_closure_round {acc : List Nat} {k : Nat} :
    k ∈ acc ++ (stepAll step acc).filter (fun k => !acc.contains k) ↔ k ∈ acc ∨ ∃ x, x ∈ acc ∧ R x k := by
  by_cases h : k ∈ acc <;> simp [h, mem_stepAll, hR]

/-- the early stop is sound: at a fixed point no path leaves `acc` -/
theorem mem_closure_fuel {fuel : Nat} {acc : List Nat} {y : Nat} :
    y ∈ closure step fuel acc ↔ ∃ x, x ∈ acc ∧ ∃ n, n ≤ fuel ∧ IterN R n x y := by
  fun_induction closure step fuel acc with
  | case1 acc => simp only [Nat.le_zero_eq, exists_eq_left, IterN, exists_eq_right]
  | case2 fuel acc nxt hnil =>
    refine ⟨fun h => ⟨y, h, 0, Nat.zero_le _, rfl⟩, fun ⟨x, hx, n, hn, hp⟩ => ?_⟩
    clear hn
    induction n generalizing x with
    | zero => exact hp ▸ hx
    | succ n ihn =>
      obtain ⟨k, hk, hr⟩ := hp
      have hk' : k ∈ acc ++ nxt := (mem_closure_round hR).2 (Or.inr ⟨x, hx, hk⟩)
      rw [List.isEmpty_iff.1 hnil, List.append_nil] at hk'
      exact ihn _ hk' hr
  | case3 fuel acc nxt hne ih =>
    have hmem : ∀ k, k ∈ acc ++ nxt ↔ k ∈ acc ∨ ∃ x, x ∈ acc ∧ R x k := fun k => mem_closure_round hR
    rw [ih]
    constructor
    · rintro ⟨x, hx, n, hn, hp⟩
      rcases (hmem x).1 hx with hx | ⟨z, hz, hzx⟩
      · exact ⟨x, hx, n, Nat.le_succ_of_le hn, hp⟩
      · exact ⟨z, hz, n + 1, Nat.succ_le_succ hn, x, hzx, hp⟩
    · rintro ⟨x, hx, n, hn, hp⟩
      cases n with
      | zero => exact ⟨x, (hmem x).2 (Or.inl hx), 0, Nat.zero_le _, hp⟩
      | succ n =>
        obtain ⟨k, hk, hr⟩ := hp
        exact ⟨k, (hmem k).2 (Or.inr ⟨x, hx, hk⟩), n, Nat.le_of_succ_le_succ hn, hr⟩

theorem mem_closure {L : Nat} (hb : ∀ a b, R a b → a ≤ b ∧ b ≤ L) {acc : List Nat} {y : Nat} :
    y ∈ closure step (L + 1) acc ↔ ∃ x, x ∈ acc ∧ ∃ n, IterN R n x y := by
  rw [mem_closure_fuel hR]
  refine exists_congr fun x => and_congr_right fun _ => ⟨fun ⟨n, _, h⟩ => ⟨n, h⟩, fun ⟨n, hxy⟩ => ?_⟩
  obtain ⟨n', hn, hp⟩ := IterN.short (fun _ _ h => (hb _ _ h).1) hxy
  refine ⟨n', ?_, hp⟩
  cases n' with
  | zero => omega
  | succ n' =>
    -- the path has a first step, which ends inside `[0, L]`; so does the path
    obtain ⟨k, hr, hk⟩ := hp
    have := IterN.bounds hb hk (hb _ _ hr).2
    omega

theorem mem_pow {n : Nat} {l : List Nat} {y : Nat} :
    y ∈ pow step n l ↔ ∃ x, x ∈ l ∧ IterN R n x y := by
  induction n generalizing l with
  | zero => simp [pow, IterN]
  | succ n ih =>
    simp only [pow, ih, mem_stepAll, IterN, hR]
    constructor
    · rintro ⟨k, ⟨x, hx, hk⟩, hr⟩; exact ⟨x, hx, k, hk, hr⟩
    · rintro ⟨x, hx, k, hk, hr⟩; exact ⟨k, ⟨x, hx, hk⟩, hr⟩

theorem mem_upto {n : Nat} {l : List Nat} {y : Nat} :
    y ∈ upto step n l ↔ ∃ x, x ∈ l ∧ ∃ k, k ≤ n ∧ IterN R k x y := by
  induction n generalizing l with
  | zero => simp only [upto, Nat.le_zero_eq, exists_eq_left, IterN, exists_eq_right]
  | succ n ih =>
    simp only [upto, mem_union, ih, mem_stepAll, hR]
    constructor
    · rintro (h | ⟨z, ⟨x, hx, hz⟩, k, hk, hr⟩)
      · exact ⟨y, h, 0, Nat.zero_le _, rfl⟩
      · exact ⟨x, hx, k + 1, by omega, z, hz, hr⟩
    · rintro ⟨x, hx, k, hk, hr⟩
      cases k with
      | zero => simp only [IterN] at hr; subst hr; exact Or.inl hx
      | succ k =>
        obtain ⟨z, hz, hr⟩ := hr
        exact Or.inr ⟨z, ⟨x, hx, hz⟩, k, by omega, hr⟩

end

theorem maxOf_eq_max? (l : List Nat) : maxOf l = l.max? := by
  induction l with
  | nil => rfl
  | cons x l ih => rw [maxOf, ih, List.max?_cons]; cases l.max? <;> rfl

theorem Matches.bounds {f : Flags} {s : List Char} {r : Re} {i j : Nat} :
    Matches f s r i j → i ≤ j ∧ j ≤ s.length := by
  induction r generalizing i j with
  | emp | any | bol | eol | wordb k => intro h; simp only [Matches] at h; omega
  | chr c | cls neg items =>
    rintro ⟨hj, d, hd, _⟩
    have := (List.getElem?_eq_some_iff.1 hd).1
    omega
  | cat a b iha ihb =>
    rintro ⟨k, h1, h2⟩
    have := iha h1; have := ihb h2; omega
  | alt a b iha ihb =>
    rintro (h | h)
    · exact iha h
    · exact ihb h
  | star a ih =>
    rintro ⟨hi, h⟩
    obtain ⟨n, hn⟩ := Iter.iff_iterN.1 h
    exact IterN.bounds (fun _ _ => ih) hn hi
  | plus a ih =>
    rintro ⟨k, h1, h2⟩
    obtain ⟨n, hn⟩ := Iter.iff_iterN.1 h2
    have := ih h1
    have := IterN.bounds (fun _ _ => ih) hn this.2
    omega
  | opt a ih =>
    rintro (h | h)
    · omega
    · exact ih h
  | rep a m n ih =>
    rintro ⟨hi, k, _, _, h⟩
    exact IterN.bounds (fun _ _ => ih) h hi
  | grp a ih => intro h; exact ih h

theorem mem_ends {f : Flags} {s : List Char} {r : Re} {i j : Nat} :
    j ∈ ends f s r i ↔ Matches f s r i j := by
  induction r generalizing i j with
  | emp | bol | eol | wordb k => simp only [ends, Matches, List.mem_ite_nil_right, List.mem_singleton, eq_comm (a := i), and_comm]
  | any => simp only [ends, Matches, List.mem_ite_nil_right, List.mem_singleton, and_comm]
  | chr c | cls neg items =>
    simp only [ends, Matches]
    cases s[i]? with
    | none => simp
    | some d => simp only [List.mem_ite_nil_right, List.mem_singleton, Option.some.injEq, exists_eq_left', and_comm]
  | cat a b iha ihb =>
    simp only [ends, Matches, mem_stepAll, iha, ihb]
  | alt a b iha ihb =>
    simp only [ends, Matches, mem_union, iha, ihb]
  | star a ih | plus a ih =>
    simp only [ends, Matches, List.mem_ite_nil_right, mem_closure (fun _ _ => ih) fun _ _ => Matches.bounds,
      ih, Iter.iff_iterN, List.mem_singleton, exists_eq_left]
  | opt a ih => simp only [ends, Matches, mem_union, List.mem_ite_nil_right, List.mem_singleton, ih, eq_comm (a := i), and_comm]
  | rep a m n ih =>
    have hpow : ∀ x, x ∈ pow (ends f s a) m [i] ↔ IterN (Matches f s a) m i x := fun x => by
      simp only [mem_pow fun _ _ => ih, List.mem_singleton, exists_eq_left]
    simp only [ends, Matches, List.mem_ite_nil_right, ← IterN.then_more]
    refine and_congr_right fun hi => ?_
    cases n with
    | none =>
      simp only [mem_closure (fun _ _ => ih) fun _ _ => Matches.bounds, hpow, reduceCtorEq, false_imp_iff, implies_true,
        true_and]
    | some n' =>
      simp only []
      split
      · rename_i hmn
        simp only [mem_upto fun _ _ => ih, hpow, Nat.le_sub_iff_add_le' hmn, Option.some.injEq, forall_eq']
      · rename_i hmn
        simp only [List.not_mem_nil, false_iff]
        rintro ⟨x, _, k, hkn, _⟩
        have := hkn n' rfl
        omega
  | grp a ih => simp only [ends, Matches, ih]

theorem longest_none {f : Flags} {s : List Char} {r : Re} {i : Nat} :
    maxOf (ends f s r i) = none ↔ ∀ e, ¬ Matches f s r i e := by
  simp only [maxOf_eq_max?, List.max?_eq_none_iff, List.eq_nil_iff_forall_not_mem, mem_ends]

theorem longest_some {f : Flags} {s : List Char} {r : Re} {i e : Nat} :
    maxOf (ends f s r i) = some e ↔ Matches f s r i e ∧ ∀ e', Matches f s r i e' → e' ≤ e := by
  simp only [maxOf_eq_max?, List.max?_eq_some_iff, mem_ends]

theorem IsLL.unique {f : Flags} {s : List Char} {r : Re} {a b a' b' : Nat}
    (h : IsLL f s r a b) (h' : IsLL f s r a' b') : a = a' ∧ b = b' := by
  obtain ⟨h1, h2, h3⟩ := h
  obtain ⟨h1', h2', h3'⟩ := h'
  obtain rfl : a = a' :=
    Nat.le_antisymm (Nat.le_of_not_lt fun hlt => h2 a' _ hlt h1') (Nat.le_of_not_lt fun hlt => h2' a _ hlt h1)
  have := h3 _ h1'
  have := h3' _ h1
  exact ⟨rfl, by omega⟩

theorem search_spec {f : Flags} {s : List Char} {r : Re} : ∀ (todo i : Nat),
    match search f s r todo i with
    | none => ∀ p e, i ≤ p → p < i + todo → ¬ Matches f s r p e
    | some (st, len) => Matches f s r st (st + len) ∧ (∀ p e, i ≤ p → p < st → ¬ Matches f s r p e) ∧
        ∀ e, Matches f s r st e → e ≤ st + len
  | 0, i => fun p e h1 h2 => by omega
  | todo + 1, i => by
    have ih := search_spec (f := f) (s := s) (r := r) todo (i + 1)
    simp only [search]
    cases hm : maxOf (ends f s r i) with
    | some e =>
      obtain ⟨hme, hmax⟩ := longest_some.1 hm
      have he : i + (e - i) = e := Nat.add_sub_cancel' (Matches.bounds hme).1
      exact ⟨he.symm ▸ hme, fun p e h1 h2 => by omega, he.symm ▸ hmax⟩
    | none =>
      -- nothing starts at `i`, so the starts from `i` are those from `i + 1`
      have from_succ : ∀ p e, i ≤ p → (i + 1 ≤ p → ¬ Matches f s r p e) → ¬ Matches f s r p e := fun p e h1 h hp => by
        by_cases hpi : p = i
        · exact longest_none.1 hm e (hpi ▸ hp)
        · exact h (by omega) hp
      simp only
      generalize search f s r todo (i + 1) = x at ih
      match x with
      | none => exact fun p e h1 h2 => from_succ p e h1 fun h => ih p e h (by omega)
      | some (st, len) => exact ⟨ih.1, fun p e h1 h2 => from_succ p e h1 fun h => ih.2.1 p e h h2, ih.2.2⟩

theorem matchLL_spec {f : Flags} {r : Re} {s : List Char} :
    match matchLL f r s with
    | none => ∀ i e, ¬ Matches f s r i e
    | some (st, len) => IsLL f s r st len := by
  have spec := search_spec (f := f) (s := s) (r := r) (s.length + 1) 0
  rw [← matchLL] at spec
  match matchLL f r s, spec with
  | none, spec => exact fun i e hm => spec i e (Nat.zero_le _) (by have := Matches.bounds hm; omega) hm
  | some (st, len), spec => exact ⟨spec.1, fun p e hp => spec.2.1 p e (Nat.zero_le _) hp, spec.2.2⟩

theorem matchLL_some {f : Flags} {r : Re} {s : List Char} {st len : Nat} :
    matchLL f r s = some (st, len) ↔ IsLL f s r st len := by
  have spec := matchLL_spec (f := f) (r := r) (s := s)
  constructor
  · intro h
    rwa [h] at spec
  · intro h
    match matchLL f r s, spec with
    | none, spec => exact absurd h.1 (spec _ _)
    | some (st', len'), spec =>
      obtain ⟨rfl, rfl⟩ := IsLL.unique h spec
      rfl

theorem matchLL_none {f : Flags} {r : Re} {s : List Char} :
    matchLL f r s = none ↔ ∀ i e, ¬ Matches f s r i e := by
  have spec := matchLL_spec (f := f) (r := r) (s := s)
  constructor
  · intro h
    rwa [h] at spec
  · intro h
    match matchLL f r s, spec with
    | none, _ => rfl
    | some (st, len), spec => exact absurd spec.1 (h _ _)

theorem matchLL_congr {f f' : Flags} {r r' : Re} {s s' : List Char}
    (h : ∀ i j, Matches f s r i j ↔ Matches f' s' r' i j) : matchLL f r s = matchLL f' r' s' := by
  cases hx : matchLL f' r' s' with
  | none =>
    rw [matchLL_none] at hx ⊢
    simpa only [h] using hx
  | some p =>
    rw [matchLL_some] at hx ⊢
    simpa only [IsLL, h] using hx

theorem itemHas_fold {it : ClsItem} (h : itemNoRange it = true) (d : Char) :
    itemHas true it d = itemHas false (foldItem it) (fold d) := by
  cases it with
  | chr c => simp [itemHas, foldItem, chrEq]
  | range lo hi => simp [itemNoRange] at h
  | named k => simp [itemNoRange] at h

theorem clsHas_fold {neg : Bool} {items : List ClsItem} (h : items.all itemNoRange = true) (d : Char) :
    clsHas true neg items d = clsHas false neg (items.map foldItem) (fold d) := by
  unfold clsHas
  congr 1
  induction items with
  | nil => rfl
  | cons it items ih =>
    simp only [List.all_cons, Bool.and_eq_true] at h
    simp only [List.any_cons, List.map_cons, ih h.2, itemHas_fold h.1]

theorem exists_map_some {α β : Type} {o : Option α} {g : α → β} {P : β → Prop} :
    (∃ d, o.map g = some d ∧ P d) ↔ ∃ a, o = some a ∧ P (g a) := by
  cases o <;> simp

theorem matches_icase_fold {nb ne : Bool} {s : List Char} {r : Re} (h : noRange r = true) {i j : Nat} :
    Matches ⟨true, nb, ne⟩ s r i j ↔ Matches ⟨false, nb, ne⟩ (s.map fold) (foldRe r) i j := by
  induction r generalizing i j with
  | emp | any | bol | eol => simp [Matches, foldRe]
  | chr c =>
    simp only [Matches, foldRe, List.getElem?_map, exists_map_some, chrEq, if_true,
      Bool.false_eq_true, if_false]
  | cls neg items =>
    simp only [noRange] at h
    simp only [Matches, foldRe, List.getElem?_map, exists_map_some, clsHas_fold h]
  | wordb k => simp [noRange] at h
  | cat a b iha ihb | alt a b iha ihb =>
    simp only [noRange, Bool.and_eq_true] at h
    simp only [Matches, foldRe, iha h.1, ihb h.2]
  | star a ih | plus a ih | opt a ih | grp a ih | rep a m n ih =>
    simp only [Matches, foldRe, List.length_map, ih h, Iter.iff_iterN, IterN.congr fun p q => ih h]

theorem IterN.shift {R R' : Nat → Nat → Prop} {o : Nat} (h : ∀ p q, R p q ↔ R' (o + p) (o + q))
    (hm : ∀ p q, R' p q → p ≤ q) {n i j : Nat} : IterN R n i j ↔ IterN R' n (o + i) (o + j) := by
  induction n generalizing i with
  | zero => simp only [IterN]; omega
  | succ n ih =>
    simp only [IterN, h, ih]
    symm
    exact exists_shift fun k hk => by have := hm _ _ hk.1; omega

theorem matches_drop {ic nb ne : Bool} {s : List Char} {o : Nat} (ho : 0 < o) (hol : o ≤ s.length) {r : Re}
    (hw : noWordB r = true)
    {i j : Nat} : Matches ⟨ic, true, ne⟩ (s.drop o) r i j ↔ Matches ⟨ic, nb, ne⟩ s r (o + i) (o + j) := by
  have hmono : ∀ (a : Re) p q, Matches ⟨ic, nb, ne⟩ s a p q → p ≤ q := fun a p q h => (Matches.bounds h).1
  -- lengths and positions in `s` are those in `s.drop o` plus `o`, which then cancels on both sides
  have hlen : s.length = o + (s.drop o).length := by rw [List.length_drop]; omega
  induction r generalizing i j with
  | emp | any | chr c | cls neg items | eol =>
    simp only [Matches, List.getElem?_drop, hlen, Nat.add_assoc, Nat.add_left_cancel_iff, Nat.add_le_add_iff_left,
      Nat.add_lt_add_iff_left]
  | bol =>
    -- `o + i` is not 0, so `^` fails in `s` whatever NOTBOL says there
    simp only [Matches, Bool.true_eq_false, and_false, false_iff]
    omega
  | wordb k => simp [noWordB] at hw
  | cat a b iha ihb =>
    simp only [noWordB, Bool.and_eq_true] at hw
    simp only [Matches, iha hw.1, ihb hw.2]
    symm
    exact exists_shift fun k hk => by have := hmono a _ _ hk.1; omega
  | alt a b iha ihb =>
    simp only [noWordB, Bool.and_eq_true] at hw
    simp only [Matches, iha hw.1, ihb hw.2]
  | plus a ih =>
    simp only [Matches, ih hw, Iter.iff_iterN, IterN.shift (fun p q => ih hw) (hmono a)]
    symm
    exact exists_shift fun k hk => by have := hmono a _ _ hk.1; omega
  | star a ih | opt a ih | rep a m n ih | grp a ih =>
    simp only [Matches, ih hw, Iter.iff_iterN, IterN.shift (fun p q => ih hw) (hmono a), hlen,
      Nat.add_left_cancel_iff, Nat.add_le_add_iff_left]

theorem matchLL_shift {f f' : Flags} {s s' : List Char} {r r' : Re} {o : Nat}
    (h : ∀ i j, Matches f' s' r' i j ↔ Matches f s r (o + i) (o + j)) {st len : Nat} :
    matchLL f' r' s' = some (st, len) ↔
      Matches f s r (o + st) (o + st + len) ∧
      (∀ p e, o ≤ p → p < o + st → ¬ Matches f s r p e) ∧
      (∀ e, Matches f s r (o + st) e → e ≤ o + st + len) := by
  have back : ∀ {p e}, Matches f s r (o + p) e → Matches f' s' r' p (e - o) ∧ o + (e - o) = e := fun {p e} hm => by
    have := (Matches.bounds hm).1
    have he : o + (e - o) = e := by omega
    exact ⟨(h _ _).2 (he.symm ▸ hm), he⟩
  rw [matchLL_some, IsLL, h, Nat.add_assoc]
  refine and_congr_right' (and_congr ⟨fun H p e hp1 hp2 hm => ?_, fun H p e hp hm => ?_⟩ ⟨fun H e hm => ?_, fun H e hm => ?_⟩)
  · obtain ⟨p', rfl⟩ := Nat.exists_eq_add_of_le hp1
    exact H p' _ (by omega) (back hm).1
  · exact H _ _ (by omega) (by omega) ((h _ _).1 hm)
  · have := H _ (back hm).1
    have := (back hm).2
    omega
  · have := H _ ((h _ _).1 hm)
    omega

theorem matches_flags {ic nb nb' ne ne' : Bool} {s : List Char} {r : Re} (hb : nb ≠ nb' → noBol r = true)
    (he : ne ≠ ne' → noEol r = true) {i j : Nat} :
    Matches ⟨ic, nb, ne⟩ s r i j ↔ Matches ⟨ic, nb', ne'⟩ s r i j := by
  induction r generalizing i j with
  | emp | chr c | any | cls neg items | wordb k => simp only [Matches]
  | bol =>
    by_cases h : nb = nb'
    · simp only [Matches, h]
    · exact absurd (hb h) (by simp [noBol])
  | eol =>
    by_cases h : ne = ne'
    · simp only [Matches, h]
    · exact absurd (he h) (by simp [noEol])
  | cat a b iha ihb | alt a b iha ihb =>
    simp only [noBol, noEol, Bool.and_eq_true] at hb he
    simp only [Matches, iha (fun h => (hb h).1) (fun h => (he h).1), ihb (fun h => (hb h).2) (fun h => (he h).2)]
  | star a ih | plus a ih | opt a ih | grp a ih | rep a m n ih =>
    simp only [Matches, ih hb he, Iter.iff_iterN, IterN.congr fun p q => ih hb he]

theorem cat_rep {f : Flags} {s : List Char} {a : Re} {m : Nat} {n : Option Nat} {i j : Nat} :
    Matches f s (.cat a (.rep a m n)) i j ↔ Matches f s (.rep a (m + 1) (n.map (· + 1))) i j := by
  simp only [Matches, Option.map_eq_some_iff, forall_exists_index, and_imp, forall_apply_eq_imp_iff₂]
  constructor
  · rintro ⟨x, hx, _, k, hk, hkn, hr⟩
    have := Matches.bounds hx
    exact ⟨by omega, k + 1, by omega, fun n' hn' => Nat.succ_le_succ (hkn n' hn'), x, hx, hr⟩
  · rintro ⟨_, k, hk, hkn, h⟩
    obtain ⟨k', rfl⟩ : ∃ k', k = k' + 1 := ⟨k - 1, by omega⟩
    obtain ⟨x, hx, hr⟩ := h
    exact ⟨x, hx, (Matches.bounds hx).2, k', by omega, fun n' hn' => Nat.le_of_succ_le_succ (hkn n' hn'), hr⟩

theorem rep_zero_unfold {f : Flags} {s : List Char} {a : Re} {n : Option Nat} {i j : Nat} :
    Matches f s (.rep a 0 (n.map (· + 1))) i j ↔ Matches f s .emp i j ∨ Matches f s (.cat a (.rep a 0 n)) i j := by
  rw [cat_rep]
  simp only [Matches]
  constructor
  · rintro ⟨hi, k, _, hkn, h⟩
    cases k with
    | zero => exact Or.inl ⟨h, hi⟩
    | succ k => exact Or.inr ⟨hi, k + 1, by omega, hkn, h⟩
  · rintro (⟨h, hi⟩ | ⟨hi, k, _, hkn, h⟩)
    · exact ⟨hi, 0, Nat.le_refl _, fun _ _ => Nat.zero_le _, h⟩
    · exact ⟨hi, k, Nat.zero_le _, hkn, h⟩

end Hawk.Rex
