/-!
# Model of lib/rbt.c (hawk red-black tree) — the rbt half of property C16

Functional transcription of `hawk_rbt_search`, `insert` (+ `adjust`, `change_pair_val`),
`hawk_rbt_delete` / `delete_pair` (+ `adjust_for_delete`), `hawk_rbt_clear`, the stateful
iterator `get_next_pair` and `hawk_rbt_walk` / `hawk_rbt_rwalk`.

The tree is `nil | node colour left key value right`.  The C code works bottom-up through
parent pointers; the model performs the same re-colourings and rotations on the way back from
the recursive descent, so the resulting *shape and colours* are those of the C code (CLRS
bottom-up fix-up, not Okasaki's `balance`); the correspondence check compares the full preorder
dump (colour, key, value, parent key) after every operation.

`del` follows the REPAIRED `delete_pair` (patches/rbt-delete-fixup.diff): `adjust_for_delete`
is also run when the spliced-in child `x` is the nil sentinel.  The unrepaired code skips the
fix-up in that case and loses the equal-black-height invariant (insert 0,1,2,3; delete 0).

Not modelled: pair identity (re-allocation of a pair by `change_pair_val` for INLINE value
copiers or by a `hawk_rbt_cbsert` callback keeps position, colour and links, which is what the
model's `setVal` does), allocation failure, the calls made to user copiers / freeers / keepers
(counted and checked by the harness for its user style), the optional iterator protection
(`HAWK_ENABLE_RBT_ITR_PROTECTION`, not enabled in this build).  Keys are natural numbers
ordered by `<` (the comparator is abstracted to an order embedding into `Nat`).
-/
namespace Hawk.Rbt

inductive Color where
  | R | B
  deriving DecidableEq, Repr, Inhabited

open Color

inductive T (V : Type) where
  | nil : T V
  | node (c : Color) (l : T V) (k : Nat) (v : V) (r : T V) : T V
  deriving Repr, Inhabited

open T

variable {V : Type}

/-- `pair->color`; the nil sentinel is black -/
def col : T V → Color
  | nil => B
  | node c _ _ _ _ => c

@[simp] theorem col_nil : col (nil : T V) = B := rfl
@[simp] theorem col_node (c : Color) (l : T V) (k : Nat) (v : V) (r : T V) : col (node c l k v r) = c := rfl

/-- `pair->color = HAWK_RBT_BLACK` (a no-op on the sentinel) -/
def setBlack : T V → T V
  | nil => nil
  | node _ l k v r => node B l k v r

@[simp] theorem setBlack_nil : setBlack (nil : T V) = nil := rfl
@[simp] theorem setBlack_node (c : Color) (l : T V) (k : Nat) (v : V) (r : T V) :
    setBlack (node c l k v r) = node B l k v r := rfl

/-- in-order list of pairs -/
@[simp] def toList : T V → List (Nat × V)
  | nil => []
  | node _ l k v r => toList l ++ (k, v) :: toList r

@[simp] def size : T V → Nat
  | nil => 0
  | node _ l _ _ r => size l + size r + 1

@[simp] def height : T V → Nat
  | nil => 0
  | node _ l _ _ r => max (height l) (height r) + 1

/-! ## search -/

/-- `hawk_rbt_search`: `n == 0` found, `n > 0` go right, else go left -/
def search : T V → Nat → Option V
  | nil, _ => none
  | node _ l k' v' r, k =>
    if k = k' then some v'
    else if k > k' then search r k
    else search l k

/-! ## insert / upsert / update / ensert -/

/-- `change_pair_val` on the pair found by the descent: only the value changes (a pair
    re-allocated for an INLINE value copier inherits colour, children and parent) -/
def setVal (k : Nat) (v : V) : T V → T V
  | nil => nil
  | node c l k' v' r =>
    if k = k' then node c l k' v r
    else if k > k' then node c l k' v' (setVal k v r)
    else node c (setVal k v l) k' v' r

/-- one iteration of the loop of `adjust`, seen from the grandparent `g = node gc p gk gv u`
    when the path went into its LEFT child `p` (`x_par == x_par->parent->child[LEFT]`).
    Nothing happens unless `x_par = p` is red and has a red child `pair`. -/
def fixInsL (gc : Color) (p : T V) (gk : Nat) (gv : V) (u : T V) : T V :=
  match p with
  | node R pl pk pv pr =>
    if col pl = R ∨ col pr = R then
      if col u = R then
        -- uncle red: recolour, continue with pair = grandparent
        node R (node B pl pk pv pr) gk gv (setBlack u)
      else
        match pr with
        | node R a xk xv b =>
          -- pair == tmp2 (inner child): rotate left at x_par, then recolour and rotate right at g
          node B (node R pl pk pv a) xk xv (node R b gk gv u)
        | _ =>
          -- outer child: recolour and rotate right at g
          node B pl pk pv (node R pr gk gv u)
    else node gc p gk gv u
  | _ => node gc p gk gv u

/-- mirror image: the path went into the RIGHT child `p` of `g = node gc u gk gv p` -/
def fixInsR (gc : Color) (u : T V) (gk : Nat) (gv : V) (p : T V) : T V :=
  match p with
  | node R pl pk pv pr =>
    if col pl = R ∨ col pr = R then
      if col u = R then
        node R (setBlack u) gk gv (node B pl pk pv pr)
      else
        match pl with
        | node R a xk xv b =>
          node B (node R u gk gv a) xk xv (node R b pk pv pr)
        | _ =>
          node B (node R u gk gv pl) pk pv pr
    else node gc u gk gv p
  | _ => node gc u gk gv p

/-- descent of `insert` for a key that is absent, linking a new red pair and running `adjust`
    on the way back (for a present key the value is replaced; `insertOp` never uses that) -/
def ins (k : Nat) (v : V) : T V → T V
  | nil => node R nil k v nil
  | node c l k' v' r =>
    if k = k' then node c l k' v r
    else if k > k' then fixInsR c l k' v' (ins k v r)
    else fixInsL c (ins k v l) k' v' r

inductive Opt where
  | upsert | update | ensert | insert
  deriving DecidableEq, Repr

/-- what the four entry points return: the pair (its key and value) or the error number -/
inductive Res (V : Type) where
  | pair (k : Nat) (v : V)
  | eexist
  | enoent
  /-- `hawk_rbt_cbsert` only: the callback returned NULL -/
  | failed
  deriving Repr

/-- the static function `insert (rbt, kptr, klen, vptr, vlen, opt)` -/
def insertOp (opt : Opt) (t : T V) (k : Nat) (v : V) : T V × Res V :=
  match search t k with
  | some v0 =>
    match opt with
    | .upsert | .update => (setVal k v t, .pair k v)
    | .ensert => (t, .pair k v0)
    | .insert => (t, .eexist)
  | none =>
    match opt with
    | .update => (t, .enoent)
    | _ => (setBlack (ins k v t), .pair k v)   -- rbt->root->color = HAWK_RBT_BLACK

def insert (t : T V) (k : Nat) (v : V) := insertOp .insert t k v
def upsert (t : T V) (k : Nat) (v : V) := insertOp .upsert t k v
def update (t : T V) (k : Nat) (v : V) := insertOp .update t k v
def ensert (t : T V) (k : Nat) (v : V) := insertOp .ensert t k v

/-- `hawk_rbt_cbsert (rbt, kptr, klen, cbserter, ctx)`.  The callback is abstracted to what it
    decides: `f` receives the value of the existing pair for the key (`none`: no such pair,
    the callback gets NULL) and answers the value of the pair it hands back, or `none` for
    failure (NULL).  For an existing key the pair handed back is the old pair itself (possibly
    changed in place) or a re-allocated one; `hawk_rbt_cbsert` then restores colour, children
    and parent from the copy it took before the call, so only the value changes — `setVal`.
    For an absent key the new pair is linked exactly as in `insert` (same descent, `adjust`,
    black root, `size++`).  A failing callback leaves the tree untouched.
    The callback contract (the pair handed back carries the key it was asked for) is assumed. -/
def cbsert (t : T V) (k : Nat) (f : Option V → Option V) : T V × Res V :=
  match search t k with
  | some v0 =>
    match f (some v0) with
    | none => (t, .failed)
    | some v' => (setVal k v' t, .pair k v')
  | none =>
    match f none with
    | none => (t, .failed)
    | some v' => (setBlack (ins k v' t), .pair k v')

/-! ## delete

`del` returns the new subtree and a flag `d` = "this subtree is one black pair short and its root
is black", i.e. the loop of `adjust_for_delete` is still running with `pair` = this root. -/

/-- `y` (colour `yc`) is unlinked and its only child `x` takes its place.
    Repaired code: `if (y->color == HAWK_RBT_BLACK) adjust_for_delete (rbt, x, parent)`;
    a red `x` ends the loop at once and is painted black. -/
def splice (yc : Color) (x : T V) : T V × Bool :=
  match yc with
  | R => (x, false)
  | B => if col x = R then (setBlack x, false) else (x, true)

/-- loop body of `adjust_for_delete` for `pair == par->left`, sibling `tmp = r` known not to be
    handled by the red-sibling case.  `par = node c l k v r`, `l` is one black short. -/
def fixDelL' (c : Color) (l : T V) (k : Nat) (v : V) (r : T V) : T V × Bool :=
  match r with
  | nil =>
    -- tmp is the sentinel: its children are the sentinel (black); tmp is not recoloured
    (node B l k v nil, c == B)
  | node rc rl rk rv rr =>
    if col rl = B ∧ col rr = B then
      -- tmp->color = RED; pair = par.  A red par ends the loop and becomes black.
      (node B l k v (node R rl rk rv rr), c == B)
    else if col rr = B then
      match rl with
      | node _ a xk xv b =>
        -- tmp->left black, tmp red, rotate right at tmp; then the far-child-red case
        (node c (node B l k v a) xk xv (node B b rk rv rr), false)
      | nil => (node c l k v (node rc rl rk rv rr), false)  -- excluded by the branch condition
    else
      -- tmp takes par's colour, par and tmp->right black, rotate left at par
      (node c (node B l k v rl) rk rv (setBlack rr), false)

/-- full loop body for `pair == par->left` -/
def fixDelL (c : Color) (l : T V) (k : Nat) (v : V) (r : T V) : T V × Bool :=
  match r with
  | node R rl rk rv rr =>
    -- red sibling: tmp black, par red, rotate left at par, tmp = par->right; the rest of the
    -- iteration runs on the red par, which always ends the loop
    (node B (fixDelL' R l k v rl).1 rk rv rr, false)
  | _ => fixDelL' c l k v r

/-- mirror image for `pair == par->right`; `r` is one black short -/
def fixDelR' (c : Color) (l : T V) (k : Nat) (v : V) (r : T V) : T V × Bool :=
  match l with
  | nil => (node B nil k v r, c == B)
  | node lc ll lk lv lr =>
    if col ll = B ∧ col lr = B then
      (node B (node R ll lk lv lr) k v r, c == B)
    else if col ll = B then
      match lr with
      | node _ a xk xv b =>
        (node c (node B ll lk lv a) xk xv (node B b k v r), false)
      | nil => (node c (node lc ll lk lv lr) k v r, false)
    else
      (node c (setBlack ll) lk lv (node B lr k v r), false)

def fixDelR (c : Color) (l : T V) (k : Nat) (v : V) (r : T V) : T V × Bool :=
  match l with
  | node R ll lk lv lr =>
    (node B ll lk lv (fixDelR' R lr k v r).1, false)
  | _ => fixDelR' c l k v r

/-- the left child has been rebuilt; `d` says whether the loop is still running there -/
def balL (d : Bool) (c : Color) (l : T V) (k : Nat) (v : V) (r : T V) : T V × Bool :=
  if d then fixDelL c l k v r else (node c l k v r, false)

def balR (d : Bool) (c : Color) (l : T V) (k : Nat) (v : V) (r : T V) : T V × Bool :=
  if d then fixDelR c l k v r else (node c l k v r, false)

/-- `y = pair->right; while (!IS_NIL(y->left)) y = y->left;` then unlink `y`.
    Argument is the (non-nil) tree `node c l k v r`; returns the tree without its leftmost
    pair, that pair's key and value, and the deficit flag. -/
def delMin (c : Color) (l : T V) (k : Nat) (v : V) (r : T V) : T V × (Nat × V) × Bool :=
  match l with
  | nil =>
    let s := splice c r
    (s.1, (k, v), s.2)
  | node lc ll lk lv lr =>
    let m := delMin lc ll lk lv lr
    let b := balL m.2.2 c m.1 k v r
    (b.1, m.2.1, b.2)

/-- `delete_pair` for the pair with key `k` (descent as in `hawk_rbt_search`) -/
def del (k : Nat) : T V → T V × Bool
  | nil => (nil, false)
  | node c l k' v' r =>
    if k = k' then
      match l, r with
      | nil, _ => splice c r                 -- y = pair, x = y->right
      | node lc ll lk lv lr, nil => splice c (node lc ll lk lv lr)   -- y = pair, x = y->left
      | node lc ll lk lv lr, node rc rl rk rv rr =>
        -- y = leftmost pair of the right subtree; after the fix-up y takes pair's place and colour
        let m := delMin rc rl rk rv rr
        balR m.2.2 c (node lc ll lk lv lr) m.2.1.1 m.2.1.2 m.1
    else if k > k' then
      let s := del k r
      balR s.2 c l k' v' s.1
    else
      let s := del k l
      balL s.2 c s.1 k' v' r

/-- `hawk_rbt_delete`: `false` = -1 / HAWK_ENOENT.
    When the loop of `adjust_for_delete` ends at the root (deficit reaches the root, or the
    far-nephew case sets `pair = rbt->root`) the C paints the root black; the root of a tree
    satisfying `Inv` is black already and no case of the loop paints it red (`del_inv`), so the
    model has no statement for it. -/
def delete (t : T V) (k : Nat) : T V × Bool :=
  match search t k with
  | none => (t, false)
  | some _ => ((del k t).1, true)

/-! ## invariants (decidable, also evaluated by the driver) -/

/-- number of black pairs on the leftmost path -/
@[simp] def bh : T V → Nat
  | nil => 0
  | node c l _ _ _ => bh l + (if c = B then 1 else 0)

/-- every path from a pair down to a sentinel contains the same number of black pairs -/
@[simp] def Bal : T V → Prop
  | nil => True
  | node _ l _ _ r => Bal l ∧ Bal r ∧ bh l = bh r

/-- no red pair has a red child -/
@[simp] def NoRR : T V → Prop
  | nil => True
  | node c l _ _ r => NoRR l ∧ NoRR r ∧ (c = R → col l = B ∧ col r = B)

/-- strictly ascending keys in the in-order walk (binary-search-tree order) -/
def Ordered (t : T V) : Prop := (toList t).Pairwise (fun a b => a.1 < b.1)

/-- the red-black invariants -/
def Inv (t : T V) : Prop := Ordered t ∧ col t = B ∧ NoRR t ∧ Bal t

instance decBal : (t : T V) → Decidable (Bal t)
  | nil => isTrue trivial
  | node _ l _ _ r =>
    have := decBal l; have := decBal r
    inferInstanceAs (Decidable (Bal l ∧ Bal r ∧ bh l = bh r))

instance decNoRR : (t : T V) → Decidable (NoRR t)
  | nil => isTrue trivial
  | node c l _ _ r =>
    have := decNoRR l; have := decNoRR r
    inferInstanceAs (Decidable (NoRR l ∧ NoRR r ∧ (c = R → col l = B ∧ col r = B)))

instance (t : T V) : Decidable (Ordered t) := inferInstanceAs (Decidable (List.Pairwise _ _))
instance (t : T V) : Decidable (Inv t) := inferInstanceAs (Decidable (_ ∧ _ ∧ _ ∧ _))

/-! ## the stateful iterator `get_next_pair` over a zipper

`itr->pair` is a position: the pair (as the subtree rooted there) together with the path of
ancestors back to the root, which stands for the `parent` pointers.  `dir = false` is the
forward walk (`l = LEFT, r = RIGHT`), `dir = true` the backward walk (`l = RIGHT, r = LEFT`).
The C loop decides by comparing `prev` with `x_cur->parent` / `x_cur->child[l]`; in the model
`prev == x_cur->parent` is the function `descend`, arriving from a child is `ascend` and the
frame's `side` says which child `prev` was.  `itr->_prev` is overwritten at both resume points
before it is read, so it is not part of the model state. -/

structure Frame (V : Type) where
  c : Color
  k : Nat
  v : V
  sib : T V
  /-- `false`: the focus is `child[LEFT]` of this pair, `true`: `child[RIGHT]` -/
  side : Bool

abbrev Path (V : Type) := List (Frame V)

/-- the pair a frame stands for, with the focus subtree put back -/
def Frame.plug (f : Frame V) (t : T V) : T V :=
  if f.side then node f.c f.sib f.k f.v t else node f.c t f.k f.v f.sib

abbrev Pos (V : Type) := T V × Path V

def isNil : T V → Bool
  | nil => true
  | _ => false

/-- loop branch `prev == x_cur->parent`: go down `child[l]` while it is not the sentinel,
    then return `x_cur` (`_state = 1`) -/
def descend (dir : Bool) : T V → Path V → Option (Pos V)
  | nil, _ => none          -- `x_cur` is the sentinel (empty tree): the loop is not entered
  | node c l k v r, p =>
    if dir then
      if isNil r then some (node c l k v r, p) else descend dir r (⟨c, k, v, l, true⟩ :: p)
    else
      if isNil l then some (node c l k v r, p) else descend dir l (⟨c, k, v, r, false⟩ :: p)

/-- `prev = x_cur; x_cur = x_cur->parent;` and the loop branches taken after that:
    `prev == x_cur->child[l]` returns the parent (`_state = 2`), otherwise move up again;
    `x_cur == NULL` (above the root) ends the loop -/
def ascend (dir : Bool) : T V → Path V → Option (Pos V)
  | _, [] => none
  | t, f :: p =>
    if f.side = dir then some (f.plug t, p)
    else ascend dir (f.plug t) p

/-- `x->child[l]` -/
def childL (dir : Bool) : T V → T V
  | nil => nil
  | node _ l _ _ r => if dir then r else l

/-- `x->child[r]` -/
def childR (dir : Bool) : T V → T V
  | nil => nil
  | node _ l _ _ r => if dir then l else r

/-- `resume_1` / `resume_2` (identical code): go down to `child[r]` if it exists, else move up.
    The second component is the `_state` stored by the `return` that is reached. -/
def resume (dir : Bool) : T V → Path V → Option (Pos V) × Nat
  | nil, _ => (none, 0)          -- `itr->pair` is never the sentinel
  | node c l k v r, p =>
    if isNil (childR dir (node c l k v r)) then (ascend dir (node c l k v r) p, 2)
    else (descend dir (childR dir (node c l k v r)) (⟨c, k, v, childL dir (node c l k v r), !dir⟩ :: p), 1)

structure Itr (V : Type) where
  dir : Bool
  pair : Option (Pos V) := none
  state : Nat := 0

/-- key and value of the pair at a position -/
def kvOf : T V → Option (Nat × V)
  | nil => none
  | node _ _ k v _ => some (k, v)

/-- the pair `get_next_pair` has just returned (`itr->pair`) -/
def Itr.cur (it : Itr V) : Option (Nat × V) := it.pair.bind fun p => kvOf p.1

/-- `hawk_init_rbt_itr` + `hawk_rbt_getfirstpair`: `pair = root, _prev = root->parent, _state = 0` -/
def getFirst (t : T V) (dir : Bool) : Itr V :=
  match descend dir t [] with
  | some p => { dir, pair := some p, state := 1 }
  | none => { dir, pair := none, state := 0 }

/-- `hawk_rbt_getnextpair` -/
def getNext (it : Itr V) : Itr V :=
  if it.state = 0 then { it with pair := none, state := 0 }   -- `itr->pair` is NULL: the loop is not entered
  else match it.pair with
    | none => { it with pair := none, state := 0 }
    | some (t, p) =>
      match resume it.dir t p with
      | (some q, st) => { it with pair := some q, state := st }
      | (none, _) => { it with pair := none, state := 0 }

/-- in-order list in the direction of the walk -/
def listDir (dir : Bool) (t : T V) : List (Nat × V) := if dir then (toList t).reverse else toList t

/-- pairs still to be returned once the subtree hanging below a path is finished -/
def pathRest (dir : Bool) : Path V → List (Nat × V)
  | [] => []
  | f :: p => if f.side = dir then (f.k, f.v) :: (listDir dir f.sib ++ pathRest dir p) else pathRest dir p

/-- pairs still to be returned after the pair at a position -/
def posRest (dir : Bool) : Pos V → List (Nat × V)
  | (nil, _) => []
  | (node _ l _ _ r, p) => listDir dir (if dir then l else r) ++ pathRest dir p

/-- everything from a position on, the pair at the position included -/
def posAll (dir : Bool) : Option (Pos V) → List (Nat × V)
  | none => []
  | some q => (kvOf q.1).toList ++ posRest dir q

theorem isNil_iff (t : T V) : isNil t = true ↔ t = nil := by cases t <;> simp [isNil]

theorem descend_all (dir : Bool) (t : T V) (p : Path V) :
    posAll dir (descend dir t p) = if isNil t then [] else listDir dir t ++ pathRest dir p := by
  fun_induction descend dir t p with
  | case1 => rfl
  | case2 c l k v r p hd hr =>
    rw [(isNil_iff r).1 hr]
    simp [hd, posAll, kvOf, posRest, listDir, isNil]
  | case3 c l k v r p hd hr ih =>
    rw [ih, if_neg hr]
    simp [hd, pathRest, listDir, isNil]
  | case4 c l k v r p hd hl =>
    rw [(isNil_iff l).1 hl]
    simp [hd, posAll, kvOf, posRest, listDir, isNil]
  | case5 c l k v r p hd hl ih =>
    rw [ih, if_neg hl]
    simp [hd, pathRest, listDir, isNil]

theorem ascend_all (dir : Bool) (t : T V) (p : Path V) :
    posAll dir (ascend dir t p) = pathRest dir p := by
  fun_induction ascend dir t p with
  | case1 => rfl
  | case2 t f p hs =>
    obtain ⟨c, k, v, sib, side⟩ := f
    subst hs
    rw [pathRest, if_pos rfl]
    cases side <;> rfl
  | case3 t f p hs ih => rw [ih, pathRest, if_neg hs]

theorem resume_all (dir : Bool) (t : T V) (p : Path V) :
    posAll dir (resume dir t p).1 = posRest dir (t, p) := by
  cases t with
  | nil => simp [resume, posAll, posRest]
  | node c l k v r =>
    rw [resume]
    split
    · rename_i h
      cases dir <;> simp_all [childR, isNil_iff, ascend_all, posRest, listDir]
    · rename_i h
      rw [descend_all, if_neg h]
      cases dir <;> simp [childR, pathRest, posRest, listDir]

theorem getNext_dir (it : Itr V) : (getNext it).dir = it.dir := by
  fun_cases getNext it <;> rfl

/-- no hypothesis: a held position whose focus is the sentinel has `posAll = []` and no current pair -/
theorem cur_eq_head (it : Itr V) : it.cur = (posAll it.dir it.pair).head? := by
  obtain ⟨dir, _ | ⟨_ | _, p⟩, state⟩ := it <;> simp [Itr.cur, posAll, kvOf, posRest]

theorem getNext_posAll (it : Itr V) :
    posAll it.dir (getNext it).pair = if it.state = 0 then [] else (posAll it.dir it.pair).tail := by
  obtain ⟨dir, pair, state⟩ := it
  unfold getNext
  split
  · rfl
  · rcases pair with _ | ⟨t, p⟩
    · rfl
    · have hr : posAll dir (resume dir t p).1 = (posAll dir (some (t, p))).tail := by
        rw [resume_all]; cases t <;> rfl
      dsimp only
      split
      · rename_i q st hq; rw [hq] at hr; exact hr
      · rename_i hq; rw [hq] at hr; exact hr

theorem getNext_lt (it : Itr V) (kv : Nat × V) (h : it.cur = some kv) :
    (posAll (getNext it).dir (getNext it).pair).length < (posAll it.dir it.pair).length := by
  rw [getNext_dir, getNext_posAll]
  rw [cur_eq_head] at h
  cases hp : posAll it.dir it.pair with
  | nil => rw [hp] at h; cases h
  | cons a as => split <;> simp

/-- the loop of `hawk_rbt_walk` / `hawk_rbt_rwalk` after `hawk_rbt_getfirstpair`:
    `while (pair) { walker (pair); pair = hawk_rbt_getnextpair (rbt, &itr); }` -/
def walkItr (it : Itr V) : List (Nat × V) :=
  match h : it.cur with
  | none => []
  | some kv => kv :: walkItr (getNext it)
termination_by (posAll it.dir it.pair).length
decreasing_by exact getNext_lt it kv h

/-- `hawk_rbt_walk`: pairs in the order the walker sees them -/
def walk (t : T V) : List (Nat × V) := walkItr (getFirst t false)
/-- `hawk_rbt_rwalk` -/
def rwalk (t : T V) : List (Nat × V) := walkItr (getFirst t true)

/-! ## clear: `while (!IS_NIL(rbt,rbt->root)) delete_pair (rbt, rbt->root);` -/

@[simp] theorem toList_setBlack (t : T V) : toList (setBlack t) = toList t := by cases t <;> rfl

theorem toList_splice (c : Color) (x : T V) : toList (splice c x).1 = toList x := by
  fun_cases splice c x <;> simp

theorem toList_fixDelL' (c : Color) (l : T V) (k : Nat) (v : V) (r : T V) :
    toList (fixDelL' c l k v r).1 = toList l ++ (k, v) :: toList r := by
  fun_cases fixDelL' c l k v r <;> simp

theorem toList_fixDelL (c : Color) (l : T V) (k : Nat) (v : V) (r : T V) :
    toList (fixDelL c l k v r).1 = toList l ++ (k, v) :: toList r := by
  fun_cases fixDelL c l k v r <;> simp [toList_fixDelL']

theorem toList_fixDelR' (c : Color) (l : T V) (k : Nat) (v : V) (r : T V) :
    toList (fixDelR' c l k v r).1 = toList l ++ (k, v) :: toList r := by
  fun_cases fixDelR' c l k v r <;> simp

theorem toList_fixDelR (c : Color) (l : T V) (k : Nat) (v : V) (r : T V) :
    toList (fixDelR c l k v r).1 = toList l ++ (k, v) :: toList r := by
  fun_cases fixDelR c l k v r <;> simp [toList_fixDelR']

theorem toList_balL (d : Bool) (c : Color) (l : T V) (k : Nat) (v : V) (r : T V) :
    toList (balL d c l k v r).1 = toList l ++ (k, v) :: toList r := by
  fun_cases balL d c l k v r <;> simp [toList_fixDelL]

theorem toList_balR (d : Bool) (c : Color) (l : T V) (k : Nat) (v : V) (r : T V) :
    toList (balR d c l k v r).1 = toList l ++ (k, v) :: toList r := by
  fun_cases balR d c l k v r <;> simp [toList_fixDelR]

theorem toList_delMin (c : Color) (l : T V) (k : Nat) (v : V) (r : T V) :
    (delMin c l k v r).2.1 :: toList (delMin c l k v r).1 = toList (node c l k v r) := by
  fun_induction delMin c l k v r with
  | case1 c k v r s => simp [s, toList_splice]
  | case2 c k v r lc ll lk lv lr m b ih => rw [toList_balL, toList, ← ih]; rfl

theorem toList_del_root (c : Color) (l : T V) (k : Nat) (v : V) (r : T V) :
    toList (del k (node c l k v r)).1 = toList l ++ toList r := by
  cases l with
  | nil => simp [del, toList_splice]
  | node lc ll lk lv lr =>
    cases r with
    | nil => simp [del, toList_splice]
    | node rc rl rk rv rr =>
      simp only [del, if_true, toList_balR]
      have := toList_delMin rc rl rk rv rr
      rw [← this]

theorem size_eq_length (t : T V) : size t = (toList t).length := by
  induction t with
  | nil => rfl
  | node c l k v r ihl ihr => simp [ihl, ihr]; omega

/-- `hawk_rbt_clear`: the loop ends because every `delete_pair` removes one pair -/
def clear : T V → T V
  | nil => nil
  | node c l k v r => clear (del k (node c l k v r)).1
termination_by t => size t
decreasing_by
  simp only [size_eq_length, toList_del_root]
  simp

end Hawk.Rbt
