import HawkModel.DeparseStmtLemmas
/-!
  Round trip of the top level: `parseProg (toksS (printProg p)) = p.map normI` for the program units `deparse` writes.
-/
namespace Hawk.Deparse
open Hawk.Gen.Precedence Hawk.Gen.Keywords

def normAct : Option Stmt → Option Stmt
  | none => none
  | some b => some (normS b)

def normI : Item → Item
  | .glob b n => .glob b n
  | .func nm np body => .func nm np (normS body)
  | .begin_ b => .begin_ (normS b)
  | .end_ b => .end_ (normS b)
  | .act b => .act (normS b)
  | .pat p q a => .pat (norm p) (normO q) (normAct a)

def isBlkP (s : Stmt) : Prop := ∃ nl l, s = .blk nl l

def WFact : Option Stmt → Prop
  | none => True
  | some b => isBlkP b ∧ WFS b

/-- the units the parser can return (`gb` = number of built-in globals) -/
def WFI (gb : Nat) : Item → Prop
  | .glob b n => b = gb ∧ 0 < n
  | .func _ _ body => isBlkP body ∧ WFS body
  | .begin_ b => isBlkP b ∧ WFS b
  | .end_ b => isBlkP b ∧ WFS b
  | .act b => isBlkP b ∧ WFS b
  | .pat p q a => WFparse p ∧ WFO q ∧ WFact a

def szAct : Option Stmt → Nat
  | none => 1
  | some b => sz b

def szI : Item → Nat
  | .glob _ _ => 1
  | .func _ _ b => sz b
  | .begin_ b => sz b
  | .end_ b => sz b
  | .act b => sz b
  | .pat _ _ a => szAct a

def szP : List Item → Nat
  | [] => 1
  | i :: r => szI i + szP r + 1

theorem cp_canonList (pre : String) (k b cnt n : Nat) (Y : List Tok) (hn : (toksS (canonList pre b (k + 1)) ++ tRP :: Y).length ≤ n) :
    collectParams n (toksS (canonList pre b (k + 1)) ++ tRP :: Y) cnt = .ok (cnt + (k + 1), Y) :=
  collect_canonList collectParams tRP (fun n a b r cnt => by rw [collectParams, tRP_k]) (by rw [tRP_k]; rfl) pre k b cnt n Y hn

theorem blk_toks (outer d nl : Nat) (l : StmtL) : ∃ r0, toksS (printS outer d (.blk nl l)) = tLBR :: r0 :=
  ⟨_, by simp only [printS, toksS_append, toksS_tabs, toksS, sym_lbr, List.nil_append, List.cons_append]; rfl⟩

theorem blk_rt (b : Stmt) (hb : isBlkP b) (hw : WFS b) (n : Nat) (hn : sz b ≤ n) (rest : List Tok) :
    ∃ t r0 r', toksS (printS 0 0 b) = t :: r0 ∧ t.k = .LBRACE ∧ parseStmt n 0 (t :: (r0 ++ rest)) = .ok (normS b, r') ∧
      dropNl r' = dropNl rest := by
  obtain ⟨nl, l, rfl⟩ := hb
  obtain ⟨r0, e0⟩ := blk_toks 0 0 nl l
  obtain ⟨r', h1, h2⟩ := rtS _ hw 0 0 n rest hn (by intro h; simp [openIf] at h)
  rw [e0] at h1
  exact ⟨tLBR, r0, r', e0, tLBR_k, h1, h2⟩

theorem stop_NL (b : Option TK) : opOK ladderPre (some .NEWLINE) b = true :=
  stop_of_cont (List.suffix_refl _) (by decide +kernel) b
theorem stop_LBR (b : Option TK) : opOK ladderPre (some .LBRACE) b = true :=
  stop_of_cont (List.suffix_refl _) (by decide +kernel) b

/-- one unit, printed and followed by anything, is read back as `normI` of it; what is left is `rest` up to leading newlines -/
def RTI (gb : Nat) (i : Item) : Prop := ∀ (n : Nat) (rest : List Tok), szI i ≤ n →
  ∃ r', parseItem n gb (toksS (printItem i) ++ rest) = .ok (normI i, r') ∧ dropNl r' = dropNl rest

-- writes out `toksS (printItem ..)` as a list of tokens
local macro "ti_simp" : tactic => `(tactic| simp only [printItem, toksS_append, toksS, toksS_ex, kw, sym_semi, sym_lp, sym_rp, sym_comma,
  blank, List.nil_append, List.cons_append, List.append_assoc, normI])

theorem rti_glob (gb n : Nat) (hn : 0 < n) : RTI gb (.glob gb n) := by
  intro f rest _
  obtain ⟨k, rfl⟩ := Nat.exists_eq_add_of_le' (show 1 ≤ n by omega)
  refine ⟨nlTok :: nlTok :: rest, ?_, by rw [dropNl_nl, dropNl_nl]⟩
  ti_simp
  simp only [parseItem, kwTok_k]
  rw [cl_canonList "__g" k gb 0 _ _ (Nat.le_succ _)]
  simp

theorem rti_func (gb : Nat) (nm : String) (np : Nat) (b : Stmt) (hb : isBlkP b) (hw : WFS b) : RTI gb (.func nm np b) := by
  intro n rest hn
  obtain ⟨t, r0, r', e0, ht, h1, h2⟩ := blk_rt b hb hw n hn (nlTok :: rest)
  refine ⟨r', ?_, by rw [h2, dropNl_nl]⟩
  ti_simp
  rw [e0]
  cases np with
  | zero =>
    simp only [canonList, toksS, List.nil_append, List.cons_append, parseItem, kwTok_k, tLP_k, tRP_k, bne_self_eq_false, Bool.or_self,
      Bool.false_eq_true, if_false, beq_self_eq_true, if_true, dropNl_nl]
    rw [dropNl_ne _ _ (by rw [ht]; decide)]
    simp only [ht, bne_self_eq_false, Bool.false_eq_true, if_false, h1]
  | succ k =>
    obtain ⟨r, er⟩ := canonList_head "__p" 0 k
    have hc := cp_canonList "__p" k 0 0 _ (nlTok :: t :: (r0 ++ nlTok :: rest)) (Nat.le_succ _)
    simp only [List.cons_append, parseItem, kwTok_k, tLP_k, bne_self_eq_false, Bool.or_self, Bool.false_eq_true, if_false]
    rw [er] at hc ⊢
    simp only [List.cons_append, canonTok, show (TK.IDENT == TK.RPAREN) = false by decide, Bool.false_eq_true, if_false] at hc ⊢
    rw [hc]
    simp only [dropNl_nl]
    rw [dropNl_ne _ _ (by rw [ht]; decide)]
    simp only [ht, bne_self_eq_false, Bool.false_eq_true, if_false, h1, Nat.zero_add]

/-- parse_progunit's last case: a first token that begins an expression -/
theorem pi_pat (n gb : Nat) {ts r1 r2 : List Tok} {p : Ast} {q : Option Ast} (h : ∃ t r, ts = t :: r ∧ t.k ∈ startKs)
    (he : pExpr ts = .ok (p, r1)) (hs : patSecond r1 = .ok (q, r2)) : parseItem n gb ts = patTail n p q r2 := by
  obtain ⟨t, r, rfl, h⟩ := h
  simp only [startKs, List.mem_cons, List.not_mem_nil, or_false] at h
  rcases h with h | h | h | h | h | h | h | h | h | h | h | h <;> simp only [parseItem, h, he, hs]

theorem rti_pat (gb : Nat) (p : Ast) (q : Option Ast) (a : Option Stmt) (hp : WFparse p) (hq : WFO q)
    (ha : WFact a) : RTI gb (.pat p q a) := by
  intro n rest hn
  -- the tokens after the pattern(s): a newline, or the action block
  have tail : ∃ (c : Tok) (Y r' : List Tok), (∀ b, opOK ladderPre (some c.k) b = true) ∧ c.k ≠ .COMMA ∧
      toksS (printAct a) ++ rest = c :: Y ∧
      patTail n (norm p) (normO q) (c :: Y) = .ok (normI (.pat p q a), r') ∧ dropNl r' = dropNl rest := by
    cases a with
    | none =>
      exact ⟨nlTok, nlTok :: rest, nlTok :: rest, by rw [nlTok_k]; exact stop_NL, by decide, by simp [printAct, toksS],
        by simp [patTail, nlTok, normI, normAct], dropNl_nl rest⟩
    | some b =>
      obtain ⟨t, r0, r', e0, ht, h1, h2⟩ := blk_rt b ha.1 ha.2 n (by simpa [szI, szAct] using hn) (nlTok :: rest)
      refine ⟨t, r0 ++ nlTok :: rest, r', by rw [ht]; exact stop_LBR, by rw [ht]; decide, ?_, ?_, by rw [h2, dropNl_nl]⟩
      · simp only [printAct, blank, toksS, toksS_append, e0, List.cons_append, List.append_assoc, List.nil_append]
      · simp [patTail, ht, h1, normI, normAct]
  obtain ⟨c, Y, r', hc, hcc, eT, hfin, hdrop⟩ := tail
  refine ⟨r', ?_, hdrop⟩
  simp only [printItem, toksS_append, toksS_ex, List.append_assoc]
  rw [eT]
  have hcf : (c.k == TK.COMMA) = false := by simpa using hcc
  cases q with
  | none =>
    simp only [printSecond, toksS, List.nil_append]
    rw [pi_pat n gb (q := none) (r2 := c :: Y) (print_head p hp _) (pExpr_stop p hp c Y hc) (by simp [patSecond, headIs, hcf])]
    exact hfin
  | some q' =>
    simp only [printSecond, toksS, toksS_ex, sym_comma, List.cons_append]
    rw [pi_pat n gb (q := some (norm q')) (r2 := c :: Y) (print_head p hp _) (pExpr_stop p hp tCOMMA _ (by rw [tCOMMA_k]; exact stop_COMMA))
      (by simp [patSecond, headIs, tCOMMA_k, pExpr_stop q' hq c Y hc])]
    exact hfin

theorem rtI (gb : Nat) (i : Item) (h : WFI gb i) : RTI gb i := by
  cases i with
  | glob b n => simp only [WFI] at h; obtain ⟨rfl, hn⟩ := h; exact rti_glob b n hn
  | func nm np b => exact rti_func gb nm np b h.1 h.2
  | begin_ b | act b =>
    intro n rest hn
    obtain ⟨t, r0, r', e0, ht, h1, h2⟩ := blk_rt b h.1 h.2 n hn (nlTok :: rest)
    refine ⟨r', ?_, by rw [h2, dropNl_nl]⟩
    ti_simp
    rw [e0]
    simp only [List.cons_append, parseItem, kwTok_k, headIs, ht, beq_self_eq_true, Bool.not_true, Bool.false_eq_true, if_false, h1]
  | end_ b =>
    intro n rest hn
    obtain ⟨t, r0, r', e0, ht, h1, h2⟩ := blk_rt b h.1 h.2 n hn rest
    refine ⟨r', ?_, h2⟩
    ti_simp
    rw [e0]
    simp only [List.cons_append, parseItem, kwTok_k, headIs, ht, beq_self_eq_true, Bool.not_true, Bool.false_eq_true, if_false, h1]
  | pat p q a => exact rti_pat gb p q a h.1 h.2.1 h.2.2

theorem prog_dropNl (n gb : Nat) (ts : List Tok) : parseProg n gb ts = parseProg n gb (dropNl ts) := by
  cases n with
  | zero => simp [parseProg]
  | succ m => rw [parseProg, parseProg, dropNl_idem]

theorem item_head (gb : Nat) (i : Item) (h : WFI gb i) : ∃ t r, toksS (printItem i) = t :: r ∧ t.k ≠ .NEWLINE := by
  cases i with
  | glob b n => exact ⟨kwTok .XGLOBAL, _, by ti_simp; rfl, by decide⟩
  | func nm np b => exact ⟨kwTok .FUNCTION, _, by ti_simp; rfl, by decide⟩
  | begin_ b => exact ⟨kwTok .BEGIN, _, by ti_simp; rfl, by decide⟩
  | end_ b => exact ⟨kwTok .END, _, by ti_simp; rfl, by decide⟩
  | act b =>
    obtain ⟨nl, l, rfl⟩ := h.1
    obtain ⟨r0, e0⟩ := blk_toks 0 0 nl l
    exact ⟨tLBR, r0 ++ [nlTok], by ti_simp; rw [e0]; rfl, by rw [tLBR_k]; decide⟩
  | pat p q a =>
    obtain ⟨t0, r0, e0, hk⟩ := print_head p h.1 []
    rw [List.append_nil] at e0
    exact ⟨t0, _, by simp only [printItem, toksS_append, toksS_ex, e0, List.cons_append, List.append_assoc]; rfl, start_not_newline _ hk⟩

theorem rtP (gb : Nat) : ∀ (l : List Item), (∀ i ∈ l, WFI gb i) → ∀ (n : Nat), szP l ≤ n →
    parseProg n gb (toksS (printProg l)) = .ok (l.map normI)
  | [], _, n, hn => by
    obtain ⟨m, rfl⟩ := Nat.exists_eq_add_of_le' (show 1 ≤ n by simp [szP] at hn; omega)
    simp [printProg, toksS, parseProg, dropNl]
  | i :: r, hw, n, hn => by
    obtain ⟨m, rfl⟩ := Nat.exists_eq_add_of_le' (show 1 ≤ n by simp [szP] at hn; omega)
    have hi := hw i (by simp)
    obtain ⟨r', h1, h2⟩ := rtI gb i hi m (toksS (printProg r)) (by simp [szP] at hn; omega)
    have ih := rtP gb r (fun j hj => hw j (by simp [hj])) m (by simp [szP] at hn; omega)
    obtain ⟨t0, r0, e0, hk⟩ := item_head gb i hi
    simp only [printProg, toksS_append]
    rw [e0] at h1 ⊢
    simp only [List.cons_append] at h1 ⊢
    rw [parseProg, dropNl_ne _ _ hk]
    simp only [h1]
    rw [prog_dropNl, h2, ← prog_dropNl, ih]
    simp

end Hawk.Deparse
