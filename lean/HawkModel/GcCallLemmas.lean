import HawkModel.GcCall
import HawkModel.GcLemmas
/-!
# C07 — calls (`Hawk.Gc.call`, lean/HawkModel/GcCall.lean)

Every history with calls is a history of core operations (`xrun_is_run`), so every theorem about `run ops` holds for
programs that call functions; the holders after a call are the holders before it plus the one reference to the return
value the host owns (`call_roots`): the frame — arguments, locals, return-value slot — leaves nothing behind.
-/
namespace Hawk.Gc

theorem xfold_is_run (xs : List XOp) (ops : List Op) : ∃ ops', xs.foldl xstep (run ops) = run ops' := by
  induction xs generalizing ops with
  | nil => exact ⟨ops, rfl⟩
  | cons x xs ih =>
    simp only [List.foldl_cons]
    have : xstep (run ops) x = run (ops ++ xexpand (run ops) x) := by
      unfold xstep; rw [run_append]
    rw [this]
    exact ih _

theorem xrun_is_run (xs : List XOp) : ∃ ops, xrun xs = run ops := by
  have := xfold_is_run xs []
  simpa [xrun, run] using this

theorem call_eq_xstep (s : St) (f : Fn) (a b : Id) (s' : St) (h : call s f a b = some s') :
    s' = xstep s (.call f a b) := by
  unfold call at h
  unfold xstep xexpand
  split at h
  · rename_i hl; cases h; simp [hl]
  · cases h

theorem refup_live (h : Heap) (o i : Id) : ((refup h o).get i).isSome = (h.get i).isSome := by
  unfold refup
  cases ho : h.get o with
  | none => rfl
  | some ob => exact Heap.live_set ho _ i

theorem refup_length (h : Heap) (o : Id) : (refup h o).length = h.length := by
  unfold refup; split <;> simp

theorem step_addRoot_roots (s : St) (o : Id) (h : s.live o = true) : (step s (.addRoot o)).roots = o :: s.roots := by
  unfold St.live at h
  obtain ⟨ob, hob⟩ := Option.isSome_iff_exists.mp h
  simp [step, addRoot, hob]

theorem step_addRoot_live (s : St) (o i : Id) : (step s (.addRoot o)).live i = s.live i := by
  unfold St.live
  simp only [step, addRoot]
  split
  · simp only [Option.getD_some]; exact refup_live _ _ _
  · rfl

theorem step_addRoot_length (s : St) (o : Id) : (step s (.addRoot o)).heap.length = s.heap.length := by
  simp only [step, addRoot]
  split
  · simp only [Option.getD_some]; exact refup_length _ _
  · rfl

theorem step_link_roots (s : St) (p c : Id) : (step s (.link p c)).roots = s.roots := by
  simp only [step, link]
  split <;> rfl

theorem step_link_live (s : St) (p c i : Id) : (step s (.link p c)).live i = s.live i := by
  unfold St.live
  simp only [step, link]
  split
  · rename_i op oc hp hc
    simp only [Option.getD_some]
    rw [refup_live, Heap.live_set hp]
  · rfl

theorem step_link_length (s : St) (p c : Id) : (step s (.link p c)).heap.length = s.heap.length := by
  simp only [step, link]
  split
  · simp only [Option.getD_some]; rw [refup_length]; simp
  · rfl

theorem alloc_shape (s : St) (hinv : Inv s) : ∃ s1 : St, s1.roots = s.roots ∧ s1.heap.length = s.heap.length ∧
    step s .alloc = { s1 with heap := s1.heap ++ [some { refs := 1, gcRefs := 0, gen := 0, children := [] }],
                              roots := s1.heap.length :: s1.roots, p0 := s1.p0 + 1 } := by
  by_cases hp : s.p0 ≥ s.t0
  · obtain ⟨e, hg⟩ := collectAuto_fst s
    have hc := collectGen_spec s _ hg hinv
    exact ⟨(collectAuto s).1, e ▸ hc.roots, e ▸ hc.len, by simp only [step, alloc, hp, if_true]⟩
  · exact ⟨s, rfl, rfl, by simp only [step, alloc, hp, if_false]⟩

theorem step_alloc_spec (s : St) (hinv : Inv s) :
    (step s .alloc).roots = s.heap.length :: s.roots ∧ (step s .alloc).live s.heap.length = true ∧
    (step s .alloc).heap.length = s.heap.length + 1 := by
  obtain ⟨s1, hr1, hl1, e⟩ := alloc_shape s hinv
  rw [e]
  unfold St.live
  simp only
  refine ⟨by rw [hr1, hl1], ?_, by rw [List.length_append, hl1]; rfl⟩
  rw [← hl1, Heap.get_append_self]
  exact Option.isSome_some

theorem erase_pair (a b : Id) (r : List Id) : ((b :: a :: r).erase a).erase b = r := by
  by_cases e : b = a
  · subst e; simp
  · have e' : ¬ (b == a) = true := by simpa using e
    simp [e']

theorem args_pushed (s : St) (hinv : Inv s) (a b : Id) (ha : s.live a = true) (hb : s.live b = true) :
    (step (step s (.addRoot a)) (.addRoot b)).live a = true ∧
    (step (step s (.addRoot a)) (.addRoot b)).roots = b :: a :: s.roots ∧
    (step (step s (.addRoot a)) (.addRoot b)).heap.length = s.heap.length ∧
    Inv (step (step s (.addRoot a)) (.addRoot b)) := by
  have hb1 : (step s (.addRoot a)).live b = true := by rw [step_addRoot_live]; exact hb
  refine ⟨?_, ?_, ?_, inv_step _ _ (inv_step _ _ hinv)⟩
  · rw [step_addRoot_live, step_addRoot_live]; exact ha
  · rw [step_addRoot_roots _ _ hb1, step_addRoot_roots _ _ ha]
  · rw [step_addRoot_length, step_addRoot_length]

theorem live_lt {s : St} {a : Id} (ha : s.live a = true) : a < s.heap.length := by
  unfold St.live at ha
  obtain ⟨oa, hoa⟩ := Option.isSome_iff_exists.mp ha
  exact Heap.get_lt hoa

theorem call_roots (s : St) (hinv : Inv s) (f : Fn) (a b : Id) (s' : St) (h : call s f a b = some s') :
    Inv s' ∧ s'.roots = retHolder f a s.heap.length ++ s.roots := by
  unfold call at h
  split at h
  · rename_i hl
    cases h
    refine ⟨inv_foldl _ s hinv, ?_⟩
    obtain ⟨ha2, hr2, hlen2, hinv2⟩ := args_pushed s hinv a b hl.1 hl.2
    -- the body's container, when it allocates one, is `s.heap.length`
    obtain ⟨hr3, hl3, _⟩ := step_alloc_spec _ hinv2
    rw [hlen2] at hr3 hl3
    cases f <;>
      simp only [callOps, bodyOps, List.cons_append, List.nil_append, List.append_nil, List.foldl_cons, List.foldl_nil]
    case keep =>
      rw [step_dropRoot_roots, step_dropRoot_roots, step_addRoot_roots _ _ ha2, hr2, List.erase_cons_head,
        List.erase_cons_head]
      rfl
    case drop2 =>
      rw [step_dropRoot_roots, step_dropRoot_roots, hr2, erase_pair]
      rfl
    case store =>
      rw [step_dropRoot_roots, step_dropRoot_roots, step_link_roots, hr2, erase_pair]
      rfl
    case wrap =>
      have hl5 : (step (step (step (step (step s (.addRoot a)) (.addRoot b)) .alloc) (.link s.heap.length a))
          (.link s.heap.length b)).live s.heap.length = true := by
        rw [step_link_live, step_link_live]; exact hl3
      rw [step_dropRoot_roots, step_dropRoot_roots, step_dropRoot_roots, step_addRoot_roots _ _ hl5,
        step_link_roots, step_link_roots, hr3, hr2]
      -- the new identity is neither argument
      have hna : ¬ (s.heap.length == a) = true := fun e => Nat.ne_of_gt (live_lt hl.1) (by simpa using e)
      have hnb : ¬ (s.heap.length == b) = true := fun e => Nat.ne_of_gt (live_lt hl.2) (by simpa using e)
      rw [List.erase_cons_head, List.erase_cons, if_neg hna, List.erase_cons, if_neg hnb, erase_pair]
      rfl
    case cyc =>
      rw [step_dropRoot_roots, step_dropRoot_roots, step_dropRoot_roots, step_link_roots, step_link_roots, hr3, hr2,
        List.erase_cons_head, erase_pair]
      rfl
  · cases h

end Hawk.Gc
