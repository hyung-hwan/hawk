import HawkModel.HeapLemmas
/-! The heap with position back-pointers: its keys evolve as in the key-only heap (`*_refines`, for loops, sifts and
    operations alike), and every operation keeps `PosOk` (`*_posOk`). -/
namespace Hawk.Arr

@[simp] theorem keys_length (l : List Item) : (keys l).length = l.length := by simp [keys]

theorem keys_getD (l : List Item) (i : Nat) : (keys l).getD i 0 = (l.getD i (0, 0)).1 := by
  simp only [keys, List.getD_eq_getElem?_getD, List.getElem?_map]
  cases l[i]? <;> rfl

@[simp] theorem stamp_length (l : List Item) (i : Nat) (x : Item) : (stamp l i x).length = l.length := by
  simp [stamp]

theorem keys_stamp (l : List Item) (i : Nat) (x : Item) : keys (stamp l i x) = (keys l).set i x.1 := by
  simp [keys, stamp, List.map_set]

theorem siftUpLoopP_refines (tmp : Item) (l : List Item) (i : Nat) :
    keys (siftUpLoopP tmp l i).1 = (siftUpLoop tmp.1 (keys l) i).1 ∧
    (siftUpLoopP tmp l i).2 = (siftUpLoop tmp.1 (keys l) i).2 := by
  -- in each case the key-only side is written over the items, where the case's conditions decide it
  fun_induction siftUpLoopP tmp l i with
  | case1 l => rw [siftUpLoop]; simp [keys_stamp]
  | case2 l index h parent l1 hp =>
    rw [siftUpLoop]
    simp only [keys_getD, ← keys_stamp]
    rw [dif_neg h, if_pos hp]; exact ⟨rfl, rfl⟩
  | case3 l index h parent l1 hp hc =>
    rw [siftUpLoop]
    simp only [keys_getD, ← keys_stamp]
    rw [dif_neg h, if_neg hp, if_pos hc]; exact ⟨rfl, rfl⟩
  | case4 l index h parent l1 hp hc ih =>
    rw [siftUpLoop]
    simp only [keys_getD, ← keys_stamp]
    rw [dif_neg h, if_neg hp, if_neg hc]; exact ih

theorem siftUpP_refines (l : List Item) (i : Nat) :
    keys (siftUpP l i).1 = (siftUp (keys l) i).1 ∧ (siftUpP l i).2 = (siftUp (keys l) i).2 := by
  unfold siftUpP siftUp
  rw [keys_getD, keys_getD]
  by_cases h0 : i > 0
  · rw [if_pos h0, if_pos h0]
    by_cases hc : cmp (l.getD i (0, 0)).1 (l.getD (hparent i) (0, 0)).1 > 0
    · rw [if_pos hc, if_pos hc]; exact siftUpLoopP_refines _ _ _
    · rw [if_neg hc, if_neg hc]; exact ⟨rfl, rfl⟩
  · rw [if_neg h0, if_neg h0]; exact ⟨rfl, rfl⟩

theorem pickChildP_eq (l : List Item) (i : Nat) : pickChildP l i = pickChild (keys l) i := by
  unfold pickChildP pickChild
  rw [keys_length, keys_getD, keys_getD]

theorem siftDownLoopP_refines (tmp : Item) (l : List Item) (i : Nat) :
    keys (siftDownLoopP tmp l i).1 = (siftDownLoop tmp.1 (keys l) i).1 ∧
    (siftDownLoopP tmp l i).2 = (siftDownLoop tmp.1 (keys l) i).2 := by
  fun_induction siftDownLoopP tmp l i with
  | case1 l index child hc =>
    rw [siftDownLoop]
    simp only [keys_getD, ← pickChildP_eq, ← keys_stamp]
    rw [if_pos hc]; exact ⟨rfl, rfl⟩
  | case2 l index child hc l1 hb ih =>
    rw [siftDownLoop]
    simp only [keys_getD, keys_length, ← pickChildP_eq, ← keys_stamp]
    rw [if_neg hc, if_pos hb]; exact ih
  | case3 l index child hc l1 hb =>
    rw [siftDownLoop]
    simp only [keys_getD, keys_length, ← pickChildP_eq, ← keys_stamp]
    rw [if_neg hc, if_neg hb]; exact ⟨rfl, rfl⟩

theorem siftDownP_refines (l : List Item) (i : Nat) :
    keys (siftDownP l i).1 = (siftDown (keys l) i).1 ∧ (siftDownP l i).2 = (siftDown (keys l) i).2 := by
  unfold siftDownP siftDown
  rw [keys_length, keys_getD]
  by_cases h0 : i < l.length / 2
  · rw [if_pos h0, if_pos h0]; exact siftDownLoopP_refines _ _ _
  · rw [if_neg h0, if_neg h0]; exact ⟨rfl, rfl⟩

theorem keys_append (l : List Item) (x : Item) : keys (l ++ [x]) = keys l ++ [x.1] := by simp [keys]

theorem keys_take (l : List Item) (n : Nat) : keys (l.take n) = (keys l).take n := by simp [keys, List.map_take]

theorem pushheapP_refines (l : List Item) (k : Nat) : keys (pushheapP l k) = pushheap (keys l) k := by
  unfold pushheapP pushheap
  rw [(siftUpP_refines _ _).1, keys_append, keys_length]

theorem keys_getElem (l : List Item) (i : Nat) (h : i < l.length) :
    (l[i]).1 = (keys l)[i]'(by simpa using h) := by simp [keys]

theorem deleteheapP_refines (l : List Item) (i : Nat) :
    keys (deleteheapP l i).1 = (deleteheap (keys l) i).1 ∧ (deleteheapP l i).2 = (deleteheap (keys l) i).2 := by
  unfold deleteheapP deleteheap
  by_cases h : i < l.length
  · have h' : i < (keys l).length := by simpa using h
    rw [dif_pos h, dif_pos h']
    -- the key-only side written over the items: both sides then test the same conditions
    simp only [keys_length, keys_getD, ← keys_stamp, ← keys_take, ← keys_getElem l i h]
    by_cases hn : l.length - 1 > 0 ∧ i ≠ l.length - 1
    · rw [if_pos hn, if_pos hn]
      split
      · exact ⟨(siftUpP_refines _ _).1, rfl⟩
      · split
        · exact ⟨(siftDownP_refines _ _).1, rfl⟩
        · exact ⟨rfl, rfl⟩
    · rw [if_neg hn, if_neg hn]; exact ⟨rfl, rfl⟩
  · have h' : ¬ i < (keys l).length := by simpa using h
    rw [dif_neg h, dif_neg h']; exact ⟨rfl, rfl⟩

theorem updateheapP_refines (l : List Item) (i k : Nat) :
    keys (updateheapP l i k).1 = (updateheap (keys l) i k).1 ∧ (updateheapP l i k).2 = (updateheap (keys l) i k).2 := by
  unfold updateheapP updateheap
  by_cases h : i < l.length
  · have h' : i < (keys l).length := by simpa using h
    rw [dif_pos h, dif_pos h']
    simp only [(keys_stamp l i (k, 0)).symm, ← keys_getElem l i h]
    by_cases c0 : cmp k (l[i]).1 ≠ 0
    · rw [if_pos c0, if_pos c0]
      split
      · exact ⟨(siftUpP_refines _ _).1, rfl⟩
      · exact ⟨(siftDownP_refines _ _).1, rfl⟩
    · rw [if_neg c0, if_neg c0]; exact ⟨rfl, rfl⟩
  · have h' : ¬ i < (keys l).length := by simpa using h
    rw [dif_neg h, dif_neg h']; exact ⟨rfl, rfl⟩

theorem posOk_stamp (l : List Item) (i : Nat) (x : Item) (h : PosOk l) : PosOk (stamp l i x) := by
  intro j hj
  simp only [stamp, List.getElem_set]
  split
  · next e => simpa using e
  · exact h j (by simpa using hj)

theorem siftUpLoopP_posOk (tmp : Item) (l : List Item) (i : Nat) (h : PosOk l) : PosOk (siftUpLoopP tmp l i).1 := by
  fun_induction siftUpLoopP tmp l i with
  | case1 l => exact posOk_stamp _ _ _ h
  | case2 l index _ parent l1 _ | case3 l index _ parent l1 _ _ => exact posOk_stamp _ _ _ (posOk_stamp _ _ _ h)
  | case4 l index _ parent l1 _ _ ih => exact ih (posOk_stamp _ _ _ h)

theorem siftUpP_posOk (l : List Item) (i : Nat) (h : PosOk l) : PosOk (siftUpP l i).1 := by
  fun_cases siftUpP l i with
  | case1 => exact siftUpLoopP_posOk _ _ _ h
  | case2 | case3 => exact h

theorem siftDownLoopP_posOk (tmp : Item) (l : List Item) (i : Nat) (h : PosOk l) : PosOk (siftDownLoopP tmp l i).1 := by
  fun_induction siftDownLoopP tmp l i with
  | case1 l index child _ => exact posOk_stamp _ _ _ h
  | case2 l index child _ l1 _ ih => exact ih (posOk_stamp _ _ _ h)
  | case3 l index child _ l1 _ => exact posOk_stamp _ _ _ (posOk_stamp _ _ _ h)

theorem siftDownP_posOk (l : List Item) (i : Nat) (h : PosOk l) : PosOk (siftDownP l i).1 := by
  fun_cases siftDownP l i with
  | case1 => exact siftDownLoopP_posOk _ _ _ h
  | case2 => exact h

theorem posOk_take (l : List Item) (n : Nat) (h : PosOk l) : PosOk (l.take n) := by
  intro j hj
  rw [List.getElem_take]
  exact h j (by simp at hj; omega)

theorem posOk_append (l : List Item) (k : Nat) (h : PosOk l) : PosOk (l ++ [(k, l.length)]) := by
  intro j hj
  by_cases hl : j < l.length
  · rw [List.getElem_append_left hl]; exact h j hl
  · have : j = l.length := by simp at hj; omega
    subst this; simp

theorem pushheapP_posOk (l : List Item) (k : Nat) (h : PosOk l) : PosOk (pushheapP l k) := by
  unfold pushheapP; exact siftUpP_posOk _ _ (posOk_append l k h)

theorem deleteheapP_posOk (l : List Item) (i : Nat) (h : PosOk l) : PosOk (deleteheapP l i).1 := by
  have h1 := posOk_take _ (l.length - 1) (posOk_stamp l i (l.getD (l.length - 1) (0, 0)) h)
  fun_cases deleteheapP l i with
  | case1 => exact siftUpP_posOk _ _ h1
  | case2 => exact siftDownP_posOk _ _ h1
  | case3 => exact h1
  | case4 => exact posOk_take _ _ h
  | case5 => exact h

theorem updateheapP_posOk (l : List Item) (i k : Nat) (h : PosOk l) : PosOk (updateheapP l i k).1 := by
  have h1 := posOk_stamp l i (k, 0) h
  fun_cases updateheapP l i k with
  | case1 => exact siftUpP_posOk _ _ h1
  | case2 => exact siftDownP_posOk _ _ h1
  | case3 | case4 => exact h

end Hawk.Arr
