import HawkModel.CtxApi
/-! For section 8 of Props/C09 (several `hawk_t`, each with its runtimes): what a call at one level leaves alone at
the others (sibling runtimes, the `Frame` of the `hawk_t`, the runtimes under a hawk-level call, the callback chain
of a runtime), what it may leave in the error number of the `hawk_t`, and one `hawk_t` along a history
(`World.trace_isolated`). -/
namespace Hawk.CtxApi

@[simp] theorem World.set_same (w : World) (h : Nat) (s : Option HawkS) : (w.set h s) h = s := by
  simp [World.set]

theorem World.set_other (w : World) {h j : Nat} (s : Option HawkS) (hne : h ≠ j) : (w.set h s) j = w j := by
  simp [World.set, Ne.symm hne]

theorem World.set_eq_self {w : World} {h : Nat} {s : Option HawkS} (hs : w h = s) : w.set h s = w := by
  funext j
  unfold World.set
  split
  · next hj => rw [hj, hs]
  · rfl

theorem World.set_comm (w : World) {h j : Nat} (a b : Option HawkS) (hne : h ≠ j) :
    (w.set h a).set j b = (w.set j b).set h a := by
  funext i
  simp only [World.set]
  split <;> split <;> simp_all

@[simp] theorem HawkS.setRtx_same (s : HawkS) (r : Nat) (x : Option Rtx) : (s.setRtx r x).rtxs r = x := by
  simp [HawkS.setRtx]

theorem HawkS.setRtx_other (s : HawkS) {r q : Nat} (x : Option Rtx) (hne : q ≠ r) : (s.setRtx r x).rtxs q = s.rtxs q := by
  simp [HawkS.setRtx, hne]

/-- the part of a `hawk_t` that is not its runtimes and not its error number -/
structure Frame where
  prog : Option Nat
  hfBound : Bool
  haltall : Bool
  ecbs : List Nat
  gbls : List (Option String)
  fncs : List String
  opt : Nat
  xtn : Int

def HawkS.frame (s : HawkS) : Frame :=
  { prog := s.prog, hfBound := s.hfBound, haltall := s.haltall, ecbs := s.ecbs, gbls := s.gbls, fncs := s.fncs, opt := s.opt, xtn := s.xtn }

theorem stepRtxIn_sibling (h r q : Nat) (s : HawkS) (op : ROp) (hq : q ≠ r) : (stepRtxIn h r s op).1.rtxs q = s.rtxs q := by
  unfold stepRtxIn
  split
  · exact HawkS.setRtx_other _ _ hq
  · rfl
  · exact HawkS.setRtx_other _ _ hq

theorem stepRtxIn_frame (h r : Nat) (s : HawkS) (op : ROp) : (stepRtxIn h r s op).1.frame = s.frame := by
  unfold stepRtxIn
  split <;> rfl

/-- the error number of the hawk after an rtx-level call: cleared by `hawk_rtx_open`, overwritten by the one
    documented leak (`herr`), otherwise untouched -/
theorem stepRtxIn_err (h r : Nat) (s : HawkS) (op : ROp) :
    (stepRtxIn h r s op).1.err =
      match s.rtxs r, op with
      | none, .«open» => .noerr
      | none, _ => s.err
      | some _, _ => ((stepRtxIn h r s op).2.herr).getD s.err := by
  unfold stepRtxIn
  split <;> simp_all [HawkS.setRtx]

/-! `stepH`, `stepCall` and `stepLoop` are chains of `if`s over literal pairs, so a field of the outcome is read off by
pushing its projection into the branches (`apply_ite`), where all branches agree.  (`split` is very dear on
`stepCall`: its conditions compare string literals.) -/

/-- whatever state a hawk-level call leaves, its runtimes are the old ones (`getD` covers `hawk_close`) -/
theorem stepH_keeps_rtxs (h : Nat) (s : HawkS) (op : HOp) :
    ((stepH h s op).1.map HawkS.rtxs).getD s.rtxs = s.rtxs := by
  cases op with
  | parse p =>
    simp only [stepH]
    cases parseErr s p <;>
      simp only [apply_ite Prod.fst, apply_ite (Option.map HawkS.rtxs), Option.map_some, Option.getD_some, ite_self]
  | popecb => simp only [stepH]; cases s.ecbs <;> rfl
  | _ =>
    simp only [stepH, apply_ite Prod.fst, apply_ite (Option.map HawkS.rtxs), apply_ite (Option.getD · s.rtxs),
      Option.map_some, Option.map_none, Option.getD_none, Option.getD_some, ite_self]


theorem Rtx.assignText_ecbs (r : Rtx) (t : String) : (r.assignText t).ecbs = r.ecbs := by
  unfold Rtx.assignText
  split <;> rfl

theorem foldl_assignText_ecbs (ts : List String) : ∀ r : Rtx, (ts.foldl (fun r t => r.assignText t) r).ecbs = r.ecbs := by
  induction ts with
  | nil => intro r; rfl
  | cons t ts ih => intro r; simp only [List.foldl]; rw [ih, Rtx.assignText_ecbs]

theorem stepCall_ecbs (tag : String) (v : View) (r : Rtx) (f a : String) : (stepCall tag v r f a).1.ecbs = r.ecbs := by
  unfold stepCall
  cases v.prog with
  | none => rfl
  | some p => simp only [apply_ite Prod.fst, apply_ite Rtx.ecbs, Rtx.assignText_ecbs, ite_self]

theorem stepLoop_ecbs (tag : String) (v : View) (r : Rtx) : (stepLoop tag v r).1.ecbs = r.ecbs := by
  unfold stepLoop
  cases v.prog with
  | none => rfl
  | some p => simp only [apply_ite Prod.fst, apply_ite Rtx.ecbs, foldl_assignText_ecbs, ite_self]


/-- a function call leaves nothing in the error number of its `hawk_t`, or ENOENT (the failed lookup of the name) -/
theorem stepCall_herr (tag : String) (v : View) (r : Rtx) (f a : String) :
    ((stepCall tag v r f a).2.herr).getD .enoent = .enoent := by
  unfold stepCall
  cases v.prog with
  | none => rfl
  | some p =>
    simp only [apply_ite Prod.snd, apply_ite Res.herr, apply_ite (Option.getD · Err.enoent), Option.getD_none,
      Option.getD_some, ite_self]

theorem stepLoop_herr (tag : String) (v : View) (r : Rtx) : (stepLoop tag v r).2.herr = none := by
  unfold stepLoop
  cases v.prog with
  | none => rfl
  | some p => simp only [apply_ite Prod.snd, apply_ite Res.herr, ite_self]

/-- every other call builds its result without the field `herr`; after the case split on the handle (chain, global)
    the call looks at, all branches agree -/
theorem stepR_herr (tag : String) (v : View) (x : Rtx) (op : ROp) :
    (stepR tag v x op).2.herr = match op with
      | .call f a => (stepCall tag v x f a).2.herr
      | _ => none := by
  cases op with
  | call f a => rfl
  | loop => exact stepLoop_herr tag v x
  | popecb =>
    simp only [stepR]
    cases x.ecbs <;> rfl
  | up k | down k | downnf k | getstr k | tostr k mode =>
    simp only [stepR]
    cases x.hnd k with
    | none => rfl
    | some h => simp only [apply_ite Prod.snd, apply_ite Res.herr, ite_self]
  | setgbl k =>
    simp only [stepR]
    cases x.hnd k with
    | none => rfl
    | some h =>
      cases x.g0 with
      | none => rfl
      | some old => simp only [apply_ite Prod.snd, apply_ite Res.herr, ite_self]
  | getgbl k =>
    simp only [stepR]
    cases x.g0 <;> simp only [apply_ite Prod.snd, apply_ite Res.herr, ite_self]
  | _ => simp only [stepR, apply_ite Prod.snd, apply_ite Res.herr, ite_self]


/-- what is observable of `hawk_t` number `i` along a history: for each call made on `i`, its result (return
    text, callback events) and the whole state of `i` afterwards (from which `dumpHawk` prints the harness line) -/
def World.trace (w : World) (i : Nat) : List Op → List (Res × Option HawkS)
  | [] => []
  | o :: os =>
    if o.hawk = i then ((w.step o).2, (w.step o).1 i) :: (w.step o).1.trace i os else (w.step o).1.trace i os

/-- neither the calls made on other objects nor the state of those objects show in the trace of `i` -/
theorem World.trace_isolated (i : Nat) (ops : List Op) : ∀ w w' : World, w i = w' i →
    w.trace i ops = w'.trace i (ops.filter (fun o => o.hawk == i)) := by
  induction ops with
  | nil => intro w w' _; rfl
  | cons o os ih =>
    intro w w' h
    by_cases ho : o.hawk = i
    · subst ho
      have hr : (w.step o).2 = (w'.step o).2 := by simp only [World.step, h]
      have hi : (w.step o).1 o.hawk = (w'.step o).1 o.hawk := by simp only [World.step, World.set_same, h]
      simp only [List.filter_cons, beq_self_eq_true, World.trace, if_pos]
      rw [hr, hi, ih _ _ hi]
    · rw [List.filter_cons_of_neg (by simpa using ho)]
      simp only [World.trace, if_neg ho]
      exact ih _ _ ((World.set_other w _ ho).trans h)

end Hawk.CtxApi
