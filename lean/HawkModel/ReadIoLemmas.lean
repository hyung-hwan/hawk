import HawkModel.ReadIo
/-!
In the three non-regex modes the record reader, seen one character at a time, is an automaton on (record buffer, locals):
`stepChar` / `runAuto`.  The splitter `specRecord` / `specAll` runs it on the *characters* alone (regex mode: on the match
of the whole text), and what every call of the reader returns is compared (`Returns`) with the splitter's answer on the
characters still pending; the console is compared in the same way through what the characters determine of it (`View`).
-/
namespace Hawk.ReadIo

abbrev AState := Record × Locals

inductive AStep where
  | cont (s : AState)
  | done (r : Record)

/-- modes whose record reader is the character automaton -/
def Mode.isAuto : Mode → Bool
  | .regex _ => false
  | _ => true

def stepChar : Mode → AState → Char → AStep
  | .dflt, (rb, loc), ch =>
    if ch = '\n' then .done (if loc.c = '\r' then rb.dropLast else rb) else .cont (rb ++ [ch], { loc with c := ch })
  | .single rs, (rb, loc), ch =>
    if ch = rs then .done rb else .cont (rb ++ [ch], { loc with c := ch })
  | .para crlf, (rb, loc), ch =>
    match paraStep crlf ⟨rb, loc.c, loc.lineLen⟩ ch with
    | (s, true) => .done s.rb
    | (s, false) => .cont (s.rb, ⟨s.c, s.lineLen⟩)
  | .regex _, (rb, loc), ch => .cont (rb ++ [ch], loc)

inductive ARun where
  /-- all characters consumed, record not complete -/
  | more (s : AState)
  /-- record complete; the characters not consumed -/
  | found (r : Record) (rest : List Char)

def runAuto (mode : Mode) : AState → List Char → ARun
  | s, [] => .more s
  | s, ch :: t =>
    match stepChar mode s ch with
    | .done r => .found r t
    | .cont s' => runAuto mode s' t

theorem runAuto_append (mode : Mode) (s : AState) (a b : List Char) :
    runAuto mode s (a ++ b) =
      match runAuto mode s a with
      | .found r rest => .found r (rest ++ b)
      | .more s' => runAuto mode s' b := by
  induction a generalizing s with
  | nil => simp [runAuto]
  | cons ch a ih =>
    simp only [List.cons_append, runAuto]
    cases stepChar mode s ch with
    | done r => simp
    | cont s' => simpa using ih s'

theorem runAuto_found_length {mode : Mode} {r : Record} {rest : List Char} :
    ∀ {t : List Char} {s : AState}, runAuto mode s t = .found r rest → rest.length < t.length
  | [], _, h => by simp [runAuto] at h
  | ch :: t, s, h => by
    simp only [runAuto] at h
    cases hs : stepChar mode s ch with
    | done r' => rw [hs] at h; cases h; simp
    | cont s' => rw [hs] at h; exact Nat.lt_succ_of_lt (runAuto_found_length h)

/-! ## `scanBuf` is the automaton run over the unread part of the buffer -/

/-- a scan of the buffer of `st`, on the characters: a position stands for the unread characters behind it -/
def Scan.toRun (st : InState) : Scan → ARun
  | .found r p => .found r (st.buf.drop p)
  | .more r l => .more (r, l)

theorem first_sep (sep : Char) (t : List Char) : sep ∉ t ∨ ∃ a b, t = a ++ sep :: b ∧ sep ∉ a :=
  if h : sep ∈ t then .inr (List.eq_append_cons_of_mem h) else .inl h

theorem runAuto_skip {mode : Mode} {sep : Char}
    (hpl : ∀ rb loc ch, sep ≠ ch → stepChar mode (rb, loc) ch = .cont (rb ++ [ch], { loc with c := ch })) :
    ∀ (a b : List Char) (rb : Record) (loc : Locals), sep ∉ a →
      runAuto mode (rb, loc) (a ++ b) = runAuto mode (rb ++ a, { loc with c := a.getLast?.getD loc.c }) b := by
  intro a
  induction a with
  | nil => intro b rb loc _; simp
  | cons ch a ih =>
    intro b rb loc h
    simp only [List.mem_cons, not_or] at h
    simp only [List.cons_append, runAuto, hpl rb loc ch h.1]
    rw [ih b _ _ h.2]
    simp [List.getLast?_cons]

theorem stepChar_single_ne (rs : Char) (rb : Record) (loc : Locals) (ch : Char) (h : rs ≠ ch) :
    stepChar (.single rs) (rb, loc) ch = .cont (rb ++ [ch], { loc with c := ch }) := by
  simp [stepChar, Ne.symm h]

theorem stepChar_dflt_ne (rb : Record) (loc : Locals) (ch : Char) (h : '\n' ≠ ch) :
    stepChar .dflt (rb, loc) ch = .cont (rb ++ [ch], { loc with c := ch }) := by
  simp [stepChar, Ne.symm h]

theorem loop_skip {β : Type} {sep : Char} {f : List Char → Nat → Char → β}
    (hf : ∀ ch rest pos c, sep ≠ ch → f (ch :: rest) pos c = f rest (pos + 1) ch) :
    ∀ (a b : List Char) (pos : Nat) (c : Char), sep ∉ a →
      f (a ++ b) pos c = f b (pos + a.length) (a.getLast?.getD c) := by
  intro a
  induction a with
  | nil => intro b pos c _; simp
  | cons ch a ih =>
    intro b pos c h
    simp only [List.mem_cons, not_or] at h
    rw [List.cons_append, hf ch _ pos c h.1, ih b _ _ h.2]
    simp [List.getLast?_cons, Nat.add_assoc, Nat.add_comm 1]

theorem paraLoop_run (crlf : Bool) (buf : List Char) :
    ∀ (rest : List Char) (pos : Nat) (s : ParaSt), buf.drop pos = rest →
      (match paraLoop crlf rest pos s with
        | (s', p, true) => ARun.found s'.rb (buf.drop p)
        | (s', _, false) => ARun.more (s'.rb, ⟨s'.c, s'.lineLen⟩)) =
      runAuto (.para crlf) (s.rb, ⟨s.c, s.lineLen⟩) rest := by
  intro rest
  induction rest with
  | nil => intro pos s _; rfl
  | cons ch rest ih =>
    intro pos s h
    have ht : buf.drop (pos + 1) = rest := by rw [← List.tail_drop, h]; rfl
    simp only [paraLoop, runAuto, stepChar]
    rcases hp : paraStep crlf s ch with ⟨s', d⟩
    cases d with
    | true => simp only [ht]
    | false => exact ih (pos + 1) s' ht

theorem scanBuf_auto {mode : Mode} (hm : mode.isAuto) (rb : Record) (loc : Locals) (st : InState) :
    (scanBuf mode rb loc st).toRun st = runAuto mode (rb, loc) (st.buf.drop st.pos) := by
  have hlen : (st.buf.drop st.pos).length = st.len - st.pos := List.length_drop
  cases mode with
  | regex m => simp [Mode.isAuto] at hm
  | single rs =>
    simp only [scanBuf]
    generalize ht : st.buf.drop st.pos = t at hlen ⊢
    have hskip := loop_skip (f := singleLoop rs) (sep := rs) (fun ch rest pos c h => by simp [singleLoop, Ne.symm h])
    rcases first_sep rs t with h | ⟨a, b, rfl, h2⟩
    · have : ¬ st.pos + t.length < st.len := by omega
      rw [← List.append_nil t, hskip t [] _ _ h, runAuto_skip (stepChar_single_ne rs) t [] rb loc h]
      simp [singleLoop, runAuto, Scan.toRun, this]
    · simp only [List.length_append, List.length_cons] at hlen
      have : st.pos + a.length < st.len := by omega
      have hb : st.buf.drop (st.pos + a.length + 1) = b := by rw [Nat.add_assoc, ← List.drop_drop, ht]; simp
      rw [hskip a _ _ _ h2, runAuto_skip (stepChar_single_ne rs) a _ rb loc h2]
      simp [singleLoop, runAuto, stepChar, Scan.toRun, this, hb]
  | dflt =>
    simp only [scanBuf]
    generalize ht : st.buf.drop st.pos = t at hlen ⊢
    have hskip := loop_skip (f := dfltLoop st.pos) (sep := '\n') (fun ch rest pos c h => by simp [dfltLoop, Ne.symm h])
    rcases first_sep '\n' t with h | ⟨a, b, rfl, h2⟩
    · have : ¬ st.pos + t.length < st.len := by omega
      rw [← List.append_nil t, hskip t [] _ _ h, runAuto_skip stepChar_dflt_ne t [] rb loc h]
      simp [dfltLoop, runAuto, Scan.toRun, this]
    · simp only [List.length_append, List.length_cons] at hlen
      have hb : st.buf.drop (st.pos + a.length + 1) = b := by rw [Nat.add_assoc, ← List.drop_drop, ht]; simp
      have hlt : st.pos + a.length < st.len := by omega
      rw [hskip a _ _ _ h2, runAuto_skip stepChar_dflt_ne a _ rb loc h2]
      -- a CR before the newline is the last character of `a`, or, if the newline is the first character of the
      -- buffer, the character remembered from the previous one: then it sits at the end of the record buffer
      by_cases hcr : a.getLast?.getD loc.c = '\r'
      · rcases List.eq_nil_or_concat a with rfl | ⟨a', x, rfl⟩
        · simp only [List.getLast?_nil, Option.getD_none] at hcr
          simp only [List.length_nil, Nat.add_zero] at hlt hb
          simp [dfltLoop, runAuto, stepChar, Scan.toRun, hcr, hb, hlt]
        · simp only [List.concat_eq_append] at hcr hlt hb ⊢
          simp at hcr
          subst hcr
          simp only [List.length_append, List.length_cons, List.length_nil] at hlt hb
          have : st.pos + a'.length < st.len := by omega
          simp [dfltLoop, runAuto, stepChar, Scan.toRun, hb, this]
      · simp [dfltLoop, runAuto, stepChar, Scan.toRun, hcr, hb, hlt]
  | para crlf =>
    rw [← paraLoop_run crlf st.buf _ st.pos ⟨rb, loc.c, loc.lineLen⟩ rfl, scanBuf]
    rcases paraLoop crlf (st.buf.drop st.pos) st.pos ⟨rb, loc.c, loc.lineLen⟩ with ⟨s', p, _ | _⟩ <;> rfl

/-- the read-buffer state `finalize` sees at EOF (only `eof` is looked at, and only in regex mode) -/
def eofSt : InState := { eof := true }

/-- The first record of the character sequence `t` and the characters left after it.  A function of the characters
only: no buffer, no chunks.
* non-regex modes: run the character automaton from its initial state; if the text ends before a separator was
  seen, what has been collected is the record (after the end-of-input treatment `finalize`), unless it is empty;
* regex mode: the match of the *whole* text decides; a match that touches the end of the text ends the last record. -/
def specRecord : Mode → List Char → Option Record × List Char
  | .regex m, t =>
    if t = [] then (none, [])
    else match m t with
      | some (i, l) =>
        if i + l < t.length then (some (t.take i), t.drop (i + l)) else (some (t.take (t.length - l)), [])
      | none => (some t, [])
  | .dflt, t =>
    match runAuto .dflt ([], loc0) t with
    | .found r rest => (some r, rest)
    | .more (r, _) => if r = [] then (none, []) else (some r, [])
  | .single rs, t =>
    match runAuto (.single rs) ([], loc0) t with
    | .found r rest => (some r, rest)
    | .more (r, _) => if r = [] then (none, []) else (some r, [])
  | .para crlf, t =>
    match runAuto (.para crlf) ([], loc0) t with
    | .found r rest => (some r, rest)
    | .more (r, _) => if r = [] then (none, []) else (some (finalize (.para crlf) r eofSt), [])

/-- the guard is always true except for a regex that matches the empty string at offset 0 (`specRecord_progress`) -/
def specAll (mode : Mode) (t : List Char) : List Record :=
  let s := specRecord mode t
  match s.1 with
  | none => []
  | some r => if _h : s.2.length < t.length then r :: specAll mode s.2 else [r]
termination_by t.length

/-- a match that ends strictly inside `t` is decided by `t` alone: appending text neither removes it nor creates one -/
def Stable (m : Matcher) : Prop :=
  ∀ (t u : List Char) (i l : Nat), i + l < t.length → (m t = some (i, l) ↔ m (t ++ u) = some (i, l))

/-- a record and its separator together take at least one character (excludes RS that match the empty string at offset 0) -/
def Progress (m : Matcher) : Prop := ∀ (t : List Char) (i l : Nat), m t = some (i, l) → 0 < i + l

def recOfRun (mode : Mode) : ARun → Option Record × List Char
  | .found r rest => (some r, rest)
  | .more (r, _) => if r = [] then (none, []) else (some (finalize mode r eofSt), [])

theorem specRecord_auto {mode : Mode} (hm : mode.isAuto) (t : List Char) :
    specRecord mode t = recOfRun mode (runAuto mode ([], loc0) t) := by
  cases mode with
  | regex m => simp [Mode.isAuto] at hm
  | _ => simp only [specRecord, recOfRun, finalize]

def WF (st : InState) : Prop := st.eof = true → st.len ≤ st.pos

theorem delivered_nil : delivered [] = [] := rfl

theorem delivered_cons_nil (cs : Stream) : delivered ([] :: cs) = [] := by
  simp [delivered]

theorem delivered_cons {c : Chunk} (hc : c ≠ []) (cs : Stream) : delivered (c :: cs) = c ++ delivered cs := by
  simp [delivered, hc]

theorem delivered_of_noEmpty {cs : Stream} (h : ∀ c ∈ cs, c ≠ []) : delivered cs = cs.flatten := by
  induction cs with
  | nil => rfl
  | cons c cs ih =>
    rw [delivered_cons (h c (by simp)), ih (fun c hc => h c (by simp [hc]))]
    simp

theorem pending_eof {st : InState} {cs : Stream} (h1 : st.eof = true) (h2 : st.len ≤ st.pos) :
    pending st cs = [] := by
  simp only [pending, h1, if_true, List.append_nil]
  exact List.drop_eq_nil_iff.mpr h2

/-- with an empty record buffer no line has been begun (paragraph mode counts the characters of the current line) -/
def Clean (s : AState) : Prop := s.1 = [] → s.2.lineLen = 0

/-- What a call `o` has returned when the splitter's answer on the pending characters is the pair given: the record,
with the rest still pending; or no record, the stream used up, and locals that may go on to the next console stream. -/
def Returns (o : Out) : Option Record × List Char → Prop
  | (some r, rest) => ∃ st' cs', o = .got r st' cs' ∧ pending st' cs' = rest ∧ WF st'
  | (none, rest) => ∃ l st', o = .eofEmpty l st' ∧ l.lineLen = 0 ∧ pending st' [] = rest ∧ WF st'

theorem atEof_returns (mode : Mode) (rb : Record) (loc : Locals) (st : InState) (h : st.len ≤ st.pos)
    (hc : Clean (rb, loc)) :
    Returns (atEof mode rb loc st)
      (if rb = [] then (none, []) else (some (finalize mode rb { st with eof := true }), [])) := by
  unfold atEof
  by_cases hr : rb = []
  · simp only [hr, if_true, Returns]
    exact ⟨_, _, rfl, hc hr, pending_eof rfl h, fun _ => h⟩
  · simp only [hr, if_false, Returns]
    exact ⟨_, _, rfl, pending_eof rfl h, fun _ => h⟩

/-- The part of a call that scans a buffer holding unread characters and refills if the record is not complete:
what `fill` does with a fresh chunk and `readFrom` with the rest of the old buffer. -/
def scanThenFill (mode : Mode) (rb : Record) (loc : Locals) (st : InState) (cs : Stream) : Out :=
  match scanBuf mode rb loc st with
  | .found r p => .got r { st with pos := p } cs
  | .more r l => fill mode r l { st with pos := st.len } cs

theorem fill_cons (mode : Mode) (rb : Record) (loc : Locals) (st : InState) {c : Chunk} (hc : c ≠ []) (cs : Stream) :
    fill mode rb loc st (c :: cs) = scanThenFill mode rb loc ⟨c, 0, false⟩ cs := by
  simp only [fill, hc, if_false, scanThenFill, InState.len]
  rfl

theorem readFrom_unread (loc : Locals) (mode : Mode) {st : InState} (cs : Stream) (hp : st.pos < st.len)
    (he : st.eof = false) : readFrom loc mode st cs = scanThenFill mode [] loc st cs := by
  simp only [readFrom, Nat.not_le.mpr hp, if_false, he, Bool.false_eq_true, scanThenFill]
  rfl

theorem WF.cases {st : InState} (hwf : WF st) : st.len ≤ st.pos ∨ (st.pos < st.len ∧ st.eof = false) := by
  by_cases hp : st.len ≤ st.pos
  · exact .inl hp
  · refine .inr ⟨by omega, ?_⟩
    cases h : st.eof with
    | false => rfl
    | true => exact absurd (hwf h) hp

/-- `readFrom` walks the stream in the same way in every mode.  Read `Q rb loc t o` as "with `rb` in the record buffer
and the characters `t` to come, the call returned `o`". -/
theorem readFrom_of {mode : Mode} {Q : Record → Locals → List Char → Out → Prop}
    (hEof : ∀ rb loc st, st.len ≤ st.pos → Q rb loc [] (atEof mode rb loc st))
    (hScan : ∀ rb loc st cs, st.eof = false →
      (∀ r l st', st'.len ≤ st'.pos → Q r l (delivered cs) (fill mode r l st' cs)) →
      Q rb loc (st.buf.drop st.pos ++ delivered cs) (scanThenFill mode rb loc st cs))
    (loc : Locals) (st : InState) (cs : Stream) (hwf : WF st) :
    Q [] loc (pending st cs) (readFrom loc mode st cs) := by
  have hfill : ∀ (cs : Stream) (rb : Record) (loc : Locals) (st : InState), st.len ≤ st.pos →
      Q rb loc (delivered cs) (fill mode rb loc st cs) := by
    intro cs
    induction cs with
    | nil => intro rb loc st h; exact hEof rb loc st h
    | cons c cs ih =>
      intro rb loc st h
      by_cases hc : c = []
      · subst hc
        simpa [fill, delivered_cons_nil] using hEof rb loc st h
      · rw [fill_cons mode rb loc st hc, delivered_cons hc]
        exact hScan rb loc ⟨c, 0, false⟩ cs rfl ih
  rcases hwf.cases with hp | ⟨hp, he⟩
  · by_cases he : st.eof = true
    · -- the stream was used up before the call: what the call returns is what `atEof` returns again
      have hst : { st with eof := true } = st := by cases st; cases he; rfl
      have := hEof [] loc st hp
      simp only [atEof, if_true, hst] at this
      simpa only [readFrom, ge_iff_le, hp, he, if_true, pending_eof he hp] using this
    · have hd : st.buf.drop st.pos = [] := List.drop_eq_nil_iff.mpr hp
      simp only [readFrom, ge_iff_le, hp, he, if_true, if_false, pending, hd, List.nil_append, Bool.false_eq_true]
      exact hfill cs [] loc st hp
  · rw [readFrom_unread loc mode cs hp he]
    simp only [pending, he, Bool.false_eq_true, if_false]
    exact hScan [] loc st cs he (hfill cs)

theorem atEof_auto {mode : Mode} (hm : mode.isAuto) (rb : Record) (loc : Locals) (st : InState) (h : st.len ≤ st.pos)
    (hc : Clean (rb, loc)) : Returns (atEof mode rb loc st) (recOfRun mode (.more (rb, loc))) := by
  -- outside regex mode `finalize` does not look at the read buffer
  cases mode with
  | regex m => simp [Mode.isAuto] at hm
  | _ => exact atEof_returns _ rb loc st h hc

theorem paraStep_cont_nil {crlf : Bool} {s s' : ParaSt} {ch : Char}
    (h : paraStep crlf s ch = (s', false)) (h1 : s'.rb = []) : s'.lineLen = 0 := by
  unfold paraStep at h
  by_cases hnl : ch = '\n'
  · grind
  · simp only [hnl, if_false, Prod.mk.injEq, and_true] at h
    subst h
    simp at h1

theorem stepChar_cont_clean {mode : Mode} (hm : mode.isAuto) {s s' : AState} {ch : Char}
    (h : stepChar mode s ch = .cont s') : Clean s' := by
  obtain ⟨rb, loc⟩ := s
  cases mode with
  | dflt | single rs =>
    simp only [stepChar] at h
    split at h
    · cases h
    · cases h; intro h; simp at h
  | regex m => simp [Mode.isAuto] at hm
  | para crlf =>
    simp only [stepChar] at h
    split at h
    · cases h
    · rename_i s1 hs
      cases h
      exact paraStep_cont_nil hs

theorem runAuto_more_clean {mode : Mode} (hm : mode.isAuto) {s' : AState} :
    ∀ (t : List Char) (s : AState), Clean s → runAuto mode s t = .more s' → Clean s' := by
  intro t
  induction t with
  | nil => intro s hc h; cases h; exact hc
  | cons ch t ih =>
    intro s _ h
    simp only [runAuto] at h
    cases hs : stepChar mode s ch with
    | done r => rw [hs] at h; cases h
    | cont s1 => rw [hs] at h; exact ih s1 (stepChar_cont_clean hm hs) h

theorem scanThenFill_auto {mode : Mode} (hm : mode.isAuto) (rb : Record) (loc : Locals) (st : InState) (cs : Stream)
    (he : st.eof = false)
    (hfill : ∀ r l st', st'.len ≤ st'.pos → Clean (r, l) →
      Returns (fill mode r l st' cs) (recOfRun mode (runAuto mode (r, l) (delivered cs))))
    (hc : Clean (rb, loc)) :
    Returns (scanThenFill mode rb loc st cs)
      (recOfRun mode (runAuto mode (rb, loc) (st.buf.drop st.pos ++ delivered cs))) := by
  have hrun := scanBuf_auto hm rb loc st
  rw [scanThenFill, runAuto_append, ← hrun]
  cases hs : scanBuf mode rb loc st with
  | found r p => exact ⟨_, _, rfl, by simp [pending, he], fun h => by rw [he] at h; cases h⟩
  | more r l => exact hfill r l _ (Nat.le_refl _) (runAuto_more_clean hm _ _ hc (by rw [← hrun, hs]; rfl))

theorem readFrom_auto {mode : Mode} (hm : mode.isAuto) (loc : Locals) (hb : loc.lineLen = 0) (st : InState) (cs : Stream)
    (hwf : WF st) : Returns (readFrom loc mode st cs) (recOfRun mode (runAuto mode ([], loc) (pending st cs))) :=
  readFrom_of (Q := fun rb loc t o => Clean (rb, loc) → Returns o (recOfRun mode (runAuto mode (rb, loc) t)))
    (atEof_auto hm) (scanThenFill_auto hm) loc st cs hwf (fun _ => hb)

theorem stepChar_nil_benign {mode : Mode} (hm : mode.isAuto) (loc : Locals) (hb : loc.lineLen = 0) (ch : Char) :
    stepChar mode ([], loc) ch = stepChar mode ([], loc0) ch := by
  obtain ⟨c, ll⟩ := loc
  simp only at hb
  subst hb
  cases mode with
  | dflt => by_cases h : ch = '\n' <;> simp [stepChar, h, loc0]
  | single rs => by_cases h : ch = rs <;> simp [stepChar, h, loc0]
  | para crlf => simp [stepChar, paraStep, loc0]
  | regex m => simp [Mode.isAuto] at hm

/-- locals carried over a switch to the next console stream are harmless: with an empty record buffer the remembered
character is not looked at -/
theorem recOfRun_benign {mode : Mode} (hm : mode.isAuto) (loc : Locals) (hb : loc.lineLen = 0) (t : List Char) :
    recOfRun mode (runAuto mode ([], loc) t) = recOfRun mode (runAuto mode ([], loc0) t) := by
  cases t with
  | nil => rfl
  | cons ch t => simp only [runAuto, stepChar_nil_benign hm loc hb ch]

/-- loop invariant of the regex branch -/
def NoInterior (m : Matcher) (rb : Record) : Prop := ∀ i l, m rb = some (i, l) → rb.length ≤ i + l

theorem matchLongRs_noeof (m : Matcher) (rb : Record) (st : InState) (he : st.eof = false) :
    (matchLongRs m rb st = none ∧ NoInterior m rb) ∨
    ∃ i l, m rb = some (i, l) ∧ i + l < rb.length ∧
      matchLongRs m rb st =
        some (rb.take i, if rb.length - (i + l) ≤ st.pos then st.pos - (rb.length - (i + l)) else st.len) := by
  unfold matchLongRs NoInterior
  cases m rb with
  | none => exact .inl ⟨rfl, fun _ _ h => by cases h⟩
  | some p =>
    obtain ⟨ms, ml⟩ := p
    simp only [he, Bool.false_eq_true, if_false]
    by_cases h : ms + ml < rb.length
    · refine .inr ⟨ms, ml, rfl, h, ?_⟩
      simp only [h, if_true]
      have : rb.length - (ml + (rb.length - (ms + ml))) = ms := by omega
      rw [this]
    · refine .inl ⟨by simp [h], fun i l h' => ?_⟩
      cases h'
      omega

theorem atEof_regex (m : Matcher) (rb : Record) (loc : Locals) (st : InState) (h : st.len ≤ st.pos)
    (hni : NoInterior m rb) (hb : loc.lineLen = 0) :
    Returns (atEof (.regex m) rb loc st) (specRecord (.regex m) rb) := by
  have := atEof_returns (.regex m) rb loc st h (fun _ => hb)
  by_cases hr : rb = []
  · simpa only [hr, if_true, specRecord] using this
  · simp only [hr, if_false, finalize, matchLongRs, specRecord] at this ⊢
    cases hm : m rb with
    | none => simpa only [hm] using this
    | some p =>
      -- the match touches the end of the record buffer: at the end of the input it is cut off
      have hn : ¬ p.1 + p.2 < rb.length := Nat.not_lt.mpr (hni p.1 p.2 hm)
      simpa only [hm, hn, if_true, if_false] using this

theorem specRecord_regex_interior {m : Matcher} {t u : List Char} {i l : Nat} (hm : m (t ++ u) = some (i, l))
    (hil : i + l < t.length) : specRecord (.regex m) (t ++ u) = (some (t.take i), t.drop (i + l) ++ u) := by
  have hne : t ++ u ≠ [] := by
    intro h
    rw [List.append_eq_nil_iff.mp h |>.1] at hil
    exact absurd hil (Nat.not_lt_zero _)
  have hlt : i + l < (t ++ u).length := by rw [List.length_append]; omega
  simp only [specRecord, hne, if_false, hm, hlt, if_true]
  rw [List.take_append_of_le_length (by omega), List.drop_append_of_le_length (by omega)]

theorem scanThenFill_regex {m : Matcher} (hS : Stable m) (rb : Record) (loc : Locals) (st : InState) (cs : Stream)
    (he : st.eof = false)
    (hfill : ∀ r l st', st'.len ≤ st'.pos → NoInterior m r ∧ l.lineLen = 0 →
      Returns (fill (.regex m) r l st' cs) (specRecord (.regex m) (r ++ delivered cs)))
    (hni : NoInterior m rb ∧ loc.lineLen = 0) :
    Returns (scanThenFill (.regex m) rb loc st cs)
      (specRecord (.regex m) (rb ++ (st.buf.drop st.pos ++ delivered cs))) := by
  rw [← List.append_assoc]
  have hcl : (st.buf.drop st.pos).length = st.buf.length - st.pos := List.length_drop
  generalize hc : st.buf.drop st.pos = c at hcl
  simp only [scanThenFill, scanBuf, hc]
  rcases matchLongRs_noeof m (rb ++ c) { st with pos := st.len } he with ⟨hnone, hni'⟩ | ⟨i, l, hm, hil, hsome⟩
  · rw [hnone]
    simpa only [List.append_assoc] using hfill (rb ++ c) loc _ (Nat.le_refl _) ⟨hni', hni.2⟩
  · -- the match ends at or after the end of the old record buffer, and it is the match of the whole pending text
    have hge : rb.length ≤ i + l := by
      by_cases hlt : i + l < rb.length
      · have := hni.1 i l ((hS rb c i l hlt).mpr hm)
        omega
      · omega
    rw [hsome, specRecord_regex_interior ((hS (rb ++ c) (delivered cs) i l hil).mp hm) hil]
    rw [List.length_append] at hil
    simp only [List.length_append, Returns]
    refine ⟨_, _, rfl, ?_, fun h => by rw [he] at h; cases h⟩
    have hd : rb.length + c.length - (i + l) ≤ st.buf.length := by omega
    have hpos : st.buf.length - (rb.length + c.length - (i + l)) = st.pos + (i + l - rb.length) := by omega
    simp only [InState.len, hd, if_true, pending, he, Bool.false_eq_true, if_false, hpos]
    rw [← List.drop_drop, hc, List.drop_append, List.drop_eq_nil_iff.mpr hge, List.nil_append]

theorem readFrom_regex {m : Matcher} (hS : Stable m) (loc : Locals) (hb : loc.lineLen = 0) (st : InState) (cs : Stream)
    (hwf : WF st) : Returns (readFrom loc (.regex m) st cs) (specRecord (.regex m) (pending st cs)) :=
  readFrom_of (Q := fun rb loc t o => NoInterior m rb ∧ loc.lineLen = 0 → Returns o (specRecord (.regex m) (rb ++ t)))
    (fun rb loc st h hni => by simpa using atEof_regex m rb loc st h hni.1 hni.2)
    (scanThenFill_regex hS) loc st cs hwf ⟨by intro i l _; simp, hb⟩

def ModeOK : Mode → Prop
  | .regex m => Stable m
  | _ => True

theorem readFrom_spec {mode : Mode} (hok : ModeOK mode) (loc : Locals) (hb : loc.lineLen = 0)
    (st : InState) (cs : Stream) (hwf : WF st) :
    Returns (readFrom loc mode st cs) (specRecord mode (pending st cs)) := by
  by_cases hm : mode.isAuto
  · rw [specRecord_auto hm, ← recOfRun_benign hm loc hb]
    exact readFrom_auto hm loc hb st cs hwf
  · cases mode with
    | regex m => exact readFrom_regex hok loc hb st cs hwf
    | _ => exact absurd rfl hm

theorem readRecord_spec {mode : Mode} (hok : ModeOK mode) (st : InState) (cs : Stream) (hwf : WF st) :
    (readRecord mode st cs).1 = (specRecord mode (pending st cs)).1 ∧
    pending (readRecord mode st cs).2.1 (readRecord mode st cs).2.2 = (specRecord mode (pending st cs)).2 ∧
    WF (readRecord mode st cs).2.1 := by
  have h := readFrom_spec hok loc0 rfl st cs hwf
  unfold readRecord
  rcases hs : specRecord mode (pending st cs) with ⟨_ | r, rest⟩ <;> rw [hs] at h
  · obtain ⟨l, st', h1, -, h2, h3⟩ := h
    rw [h1]
    exact ⟨rfl, h2, h3⟩
  · obtain ⟨st', cs', h1, h2, h3⟩ := h
    rw [h1]
    exact ⟨rfl, h2, h3⟩

theorem readAll_spec {mode : Mode} (hok : ModeOK mode) (st : InState) (cs : Stream) (hwf : WF st) :
    readAll mode st cs = specAll mode (pending st cs) := by
  fun_induction readAll mode st cs with
  | case1 st cs o ho => rw [specAll, ← (readRecord_spec hok st cs hwf).1, ho]
  | case2 st cs o r ho hlt ih =>
    obtain ⟨h1, h2, h3⟩ := readRecord_spec hok st cs hwf
    rw [specAll, ← h1, ← h2, ho, ih h3]
    exact (dif_pos (t := fun _ => _) hlt).symm
  | case3 st cs o r ho hlt =>
    obtain ⟨h1, h2, -⟩ := readRecord_spec hok st cs hwf
    rw [specAll, ← h1, ← h2, ho]
    exact (dif_neg (e := fun _ => _) hlt).symm

/-! ## progress: every record consumes at least one character -/

def ModeProg : Mode → Prop
  | .regex m => Progress m
  | _ => True

theorem specRecord_progress {mode : Mode} (hp : ModeProg mode) (t : List Char) (r : Record)
    (h : (specRecord mode t).1 = some r) : (specRecord mode t).2.length < t.length := by
  cases t with
  | nil => cases mode <;> simp [specRecord, runAuto] at h
  | cons a t =>
    by_cases hm : mode.isAuto
    · rw [specRecord_auto hm]
      cases hrun : runAuto mode ([], loc0) (a :: t) with
      | found r' rest => exact runAuto_found_length hrun
      | more s => simp [recOfRun, apply_ite Prod.snd]
    · cases mode with
      | regex m =>
        simp only [specRecord, reduceCtorEq, if_false]
        cases hmt : m (a :: t) with
        | none => simp
        | some p =>
          have := hp (a :: t) p.1 p.2 hmt
          by_cases hil : p.1 + p.2 < (a :: t).length
          · simp only [hil, if_true, List.length_drop]; omega
          · simp only [hil, if_false]
            exact Nat.succ_pos _
      | _ => exact absurd rfl hm

theorem specAll_eq {mode : Mode} (hp : ModeProg mode) (t : List Char) :
    specAll mode t =
      match (specRecord mode t).1 with
      | none => []
      | some r => r :: specAll mode (specRecord mode t).2 := by
  rw [specAll]
  cases h : (specRecord mode t).1 with
  | none => rfl
  | some r => simp [specRecord_progress hp t r h]

/-- the input with a terminator supplied at the end if the last record has none -/
def terminated (rs : Char) (t : List Char) : List Char :=
  if t = [] ∨ t.getLast? = some rs then t else t ++ [rs]

/-- a CR at the end of a line is not part of the record -/
def stripCR (r : Record) : Record := if r.getLast? = some '\r' then r.dropLast else r

theorem specAll_nil (mode : Mode) : specAll mode [] = [] := by
  rw [specAll]
  cases mode <;> rfl

theorem specAll_single_sep (rs : Char) {a b : List Char} (h : rs ∉ a) :
    specAll (.single rs) (a ++ rs :: b) = a :: specAll (.single rs) b := by
  rw [specAll_eq (mode := .single rs) trivial]
  simp [specRecord, runAuto_skip (stepChar_single_ne rs) a _ [] loc0 h, runAuto, stepChar]

theorem specAll_single_last (rs : Char) {t : List Char} (h : rs ∉ t) :
    specAll (.single rs) t = if t = [] then [] else [t] := by
  have hr := runAuto_skip (stepChar_single_ne rs) t [] [] loc0 h
  rw [List.append_nil] at hr
  rw [specAll_eq (mode := .single rs) trivial]
  by_cases ht : t = [] <;> simp [specRecord, hr, runAuto, ht, specAll_nil (.single rs)]

theorem specAll_dflt_sep {a b : List Char} (h : '\n' ∉ a) :
    specAll .dflt (a ++ '\n' :: b) = stripCR a :: specAll .dflt b := by
  rw [specAll_eq (mode := .dflt) trivial]
  simp only [specRecord, runAuto_skip stepChar_dflt_ne a _ [] loc0 h, runAuto, stepChar, if_true, List.nil_append, stripCR]
  cases a.getLast? <;> simp [loc0]

theorem specAll_dflt_last {t : List Char} (h : '\n' ∉ t) : specAll .dflt t = if t = [] then [] else [t] := by
  have hr := runAuto_skip stepChar_dflt_ne t [] [] loc0 h
  rw [List.append_nil] at hr
  rw [specAll_eq (mode := .dflt) trivial]
  by_cases ht : t = [] <;> simp [specRecord, hr, runAuto, ht, specAll_nil .dflt]

theorem specAll_single_ne_nil (rs : Char) (t : List Char) (ht : t ≠ []) : specAll (.single rs) t ≠ [] := by
  rcases first_sep rs t with h | ⟨a, b, rfl, h⟩
  · simp [specAll_single_last rs h, ht]
  · simp [specAll_single_sep rs h]

theorem getLast?_sep (a : List Char) (rs : Char) {b : List Char} (hb : b ≠ []) :
    (a ++ rs :: b).getLast? = b.getLast? := by
  rw [List.getLast?_append, List.getLast?_cons_of_ne_nil hb, List.getLast?_eq_some_getLast hb, Option.some_or]

/-- records of one file as the program sees them: NR and FNR count on from `nr` and `fnr`, FILENAME is the file's -/
def number (nr fnr : Nat) (name : String) : List Record → List Seen
  | [] => []
  | r :: rs => ⟨nr + 1, fnr + 1, name, r⟩ :: number (nr + 1) (fnr + 1) name rs

theorem number_length (nr fnr : Nat) (name : String) (rs : List Record) : (number nr fnr name rs).length = rs.length := by
  induction rs generalizing nr fnr with
  | nil => rfl
  | cons r rs ih => simp [number, ih]

theorem mem_number {s : Seen} {name : String} {rs : List Record} {nr fnr : Nat} (h : s ∈ number nr fnr name rs) :
    s.filename = name ∧ s.rb ∈ rs := by
  induction rs generalizing nr fnr with
  | nil => simp [number] at h
  | cons r rs ih =>
    simp only [number, List.mem_cons] at h
    rcases h with rfl | h
    · simp
    · exact ⟨(ih h).1, by simp [(ih h).2]⟩

/-- what a list of files (name, characters) must produce: each file is split on its own -/
def specChain (mode : Mode) : Nat → List (String × List Char) → List Seen
  | _, [] => []
  | nr, (name, s) :: fs =>
    number nr 0 name (specAll mode s) ++ specChain mode (nr + (specAll mode s).length) fs

def fileChars (files : List (String × Stream)) : List (String × List Char) :=
  files.map fun f => (f.1, delivered f.2)

theorem specChain_append (mode : Mode) (nr : Nat) (fs gs : List (String × List Char)) :
    specChain mode nr (fs ++ gs) = specChain mode nr fs ++ specChain mode (nr + (specChain mode nr fs).length) gs := by
  induction fs generalizing nr with
  | nil => rfl
  | cons f fs ih =>
    obtain ⟨name, s⟩ := f
    simp only [List.cons_append, specChain, ih, List.append_assoc, List.length_append, number_length, Nat.add_assoc]

/-- what of a console the *characters* determine: the characters pending in the open stream, the characters of the files
not yet opened, and the program-visible counters -/
structure View where
  pend : List Char
  files : List (String × List Char)
  nr : Nat
  fnr : Nat
  filename : String
  eos : Bool

def Console.view (con : Console) : View :=
  ⟨pending con.st con.cur, fileChars con.files, con.nr, con.fnr, con.filename, con.eos⟩

def View.size (v : View) : Nat := v.pend.length + (v.files.map fun f => f.2.length).sum

theorem pendingLen_view (con : Console) : con.pendingLen = con.view.size := by
  simp [Console.pendingLen, Console.view, View.size, fileChars, List.map_map, Function.comp_def]

/-- The loop of one `hawk_rtx_readio` on the console, on the characters: a file without a further record is left
behind, FNR and FILENAME follow (NR and FNR are not yet counted up).  `none`: no file has a record left. -/
def View.go (mode : Mode) (v : View) : Option (Record × View) :=
  match specRecord mode v.pend with
  | (some r, rest) => some (r, { v with pend := rest })
  | (none, _) =>
    match _h : v.files with
    | [] => none
    | (n, s) :: fs => View.go mode ⟨s, fs, v.nr, 0, n, v.eos⟩
termination_by v.files.length
decreasing_by simp [_h]

/-- one `read_record`, on the characters: the record, and the view after it (NR and FNR counted up) -/
def View.read (mode : Mode) (v : View) : Option (Record × View) :=
  if v.eos then none
  else (View.go mode v).map fun p => (p.1, { p.2 with nr := p.2.nr + 1, fnr := p.2.fnr + 1 })

/-- the `nextfile` statement, on the characters -/
def View.next (v : View) : Option View :=
  if v.eos then none
  else match v.files with
    | [] => none
    | (name, s) :: fs => some ⟨s, fs, v.nr, 0, name, false⟩

theorem pending_fresh (cs : Stream) : pending { buf := [], pos := 0, eof := false } cs = delivered cs := by
  simp [pending]

theorem readConsoleGo_view {mode : Mode} (hok : ModeOK mode) (files : List (String × Stream)) (loc : Locals) (st : InState)
    (cur : Stream) (con : Console) (hb : loc.lineLen = 0) (hwf : WF st) :
      match View.go mode ⟨pending st cur, fileChars files, con.nr, con.fnr, con.filename, con.eos⟩ with
      | none => ∃ c', readConsoleGo mode loc st cur files con = (none, c')
      | some (r, v) => ∃ c', readConsoleGo mode loc st cur files con = (some r, c') ∧ c'.view = v ∧ WF c'.st := by
  have h := readFrom_spec hok loc hb st cur hwf
  rw [readConsoleGo, View.go]
  rcases hs : specRecord mode (pending st cur) with ⟨_ | r, rest⟩ <;> rw [hs] at h
  · obtain ⟨loc', st', h1, hb', -, -⟩ := h
    simp only [h1]
    match files with
    | [] => exact ⟨_, rfl⟩
    | f :: fs =>
      have := readConsoleGo_view hok fs loc' { buf := [], pos := 0, eof := false } f.2 { con with fnr := 0, filename := f.1 } hb'
        (by intro h; cases h)
      rwa [pending_fresh] at this
  · obtain ⟨st', cs', h1, h2, h3⟩ := h
    simp only [h1]
    exact ⟨_, rfl, by simp only [Console.view, h2], h3⟩

theorem readRecordConsole_view {mode : Mode} (hok : ModeOK mode) (c : Console) (hwf : WF c.st) :
    match c.view.read mode with
    | none => (readRecordConsole mode c).1 = none
    | some (r, v) => ∃ c', readRecordConsole mode c = (some r, c') ∧ c'.view = v ∧ WF c'.st := by
  unfold View.read readRecordConsole readConsole
  cases he : c.eos with
  | true => simp [Console.view, he]
  | false =>
    have := readConsoleGo_view hok c.files loc0 c.st c.cur c rfl hwf
    simp only [Console.view, he, Bool.false_eq_true, if_false] at this ⊢
    generalize View.go mode _ = o at this
    obtain _ | ⟨r, v⟩ := o
    · obtain ⟨c', h1⟩ := this
      rw [h1]; rfl
    · obtain ⟨c', h1, rfl, h3⟩ := this
      rw [h1]
      exact ⟨_, rfl, rfl, h3⟩

theorem nextFile_view (c : Console) :
    match nextFile c with
    | none => c.view.next = none
    | some c' => c.view.next = some c'.view ∧ WF c'.st := by
  unfold nextFile View.next
  cases he : c.eos with
  | true => simp [Console.view, he]
  | false =>
    simp only [Console.view, he, Bool.false_eq_true, if_false]
    cases hf : c.files with
    | nil => simp [fileChars]
    | cons f fs => exact ⟨by simp [fileChars, pending_fresh], by intro h; cases h⟩

/-- what a console holding the characters `v` is still to show the program -/
def specView (mode : Mode) (v : View) : List Seen :=
  number v.nr v.fnr v.filename (specAll mode v.pend) ++ specChain mode (v.nr + (specAll mode v.pend).length) v.files

theorem View.go_spec {mode : Mode} (hp : ModeProg mode) (v : View) :
    match View.go mode v with
    | none => specView mode v = []
    | some (r, v') =>
      v'.size < v.size ∧ v'.eos = v.eos ∧
      specView mode v =
        ⟨v'.nr + 1, v'.fnr + 1, v'.filename, r⟩ :: specView mode { v' with nr := v'.nr + 1, fnr := v'.fnr + 1 } := by
  obtain ⟨t, files, nr, fnr, name, eos⟩ := v
  rw [View.go]
  simp only [specView]
  rw [specAll_eq hp t]
  rcases hs : specRecord mode t with ⟨_ | r, rest⟩
  · match files with
    | [] => simp [number, specChain]
    | (n, s) :: fs =>
      have := View.go_spec hp ⟨s, fs, nr, 0, n, eos⟩
      simp only [number, specChain, List.nil_append, List.length_nil, Nat.add_zero, View.size, List.map_cons, List.sum_cons]
      generalize View.go mode _ = o at this
      obtain _ | ⟨r, v'⟩ := o
      · exact this
      · exact ⟨by have := this.1; simp only [View.size] at this; omega, this.2⟩
  · have : rest.length < t.length := by simpa only [hs] using specRecord_progress hp t r (by rw [hs])
    simp only [number, List.cons_append, List.length_cons, View.size]
    refine ⟨by omega, trivial, ?_⟩
    rw [show nr + ((specAll mode rest).length + 1) = nr + 1 + (specAll mode rest).length by omega]
termination_by v.files.length

theorem View.read_spec {mode : Mode} (hp : ModeProg mode) (v : View) (he : v.eos = false) :
    match v.read mode with
    | none => specView mode v = []
    | some (r, v') =>
      v'.size < v.size ∧ v'.eos = false ∧ specView mode v = ⟨v'.nr, v'.fnr, v'.filename, r⟩ :: specView mode v' := by
  have := View.go_spec hp v
  simp only [View.read, he, Bool.false_eq_true, if_false]
  generalize View.go mode v = o at this
  obtain _ | ⟨r, v'⟩ := o
  · exact this
  · exact ⟨this.1, this.2.1.trans he, this.2.2⟩

theorem runConsole_spec {mode : Mode} (hok : ModeOK mode) (hp : ModeProg mode) (con : Console) (he : con.eos = false)
    (hwf : WF con.st) : runConsole mode con = specView mode con.view := by
  induction hn : con.pendingLen using Nat.strongRecOn generalizing con with
  | ind n ih =>
    have hrd := readRecordConsole_view hok con hwf
    have hsp := View.read_spec hp con.view he
    rw [runConsole]
    generalize con.view.read mode = o at hrd hsp
    obtain _ | ⟨r, v⟩ := o
    · simp only [hrd]
      exact hsp.symm
    · obtain ⟨c', h1, h2, h3⟩ := hrd
      subst h2
      obtain ⟨s1, s2, s3⟩ := hsp
      have hlt : c'.pendingLen < con.pendingLen := by rw [pendingLen_view, pendingLen_view]; exact s1
      simp only [h1, hlt, dif_pos]
      rw [ih _ (by omega) c' s2 h3 rfl, s3]
      rfl

theorem runConsole_open {mode : Mode} (hok : ModeOK mode) (hp : ModeProg mode) (f : String × Stream)
    (fs : List (String × Stream)) :
    runConsole mode (openConsole [] (f :: fs)) = specChain mode 0 (fileChars (f :: fs)) := by
  obtain ⟨name, cs⟩ := f
  rw [runConsole_spec hok hp _ rfl (by intro h; cases h)]
  simp [openConsole, specView, Console.view, fileChars, specChain, pending, delivered]

/-- `runScript` on the characters (same guards) -/
def scriptView (mode : Mode) (nf : Seen → Bool) (v : View) : List Seen :=
  match v.read mode with
  | none => []
  | some (r, v1) =>
    let s : Seen := ⟨v1.nr, v1.fnr, v1.filename, r⟩
    if _hlt : v1.size < v.size then
      if nf s then
        match v1.next with
        | none => [s]
        | some v2 => if _h2 : v2.size ≤ v1.size then s :: scriptView mode nf v2 else [s]
      else s :: scriptView mode nf v1
    else [s]
termination_by v.size
decreasing_by all_goals omega

theorem runScript_eq {mode : Mode} (hok : ModeOK mode) (nf : Seen → Bool) (c : Console) (w : WF c.st) :
    runScript mode nf c = scriptView mode nf c.view := by
  induction hn : c.pendingLen using Nat.strongRecOn generalizing c with
  | ind n ih =>
    have hrd := readRecordConsole_view hok c w
    rw [pendingLen_view] at hn
    rw [runScript, scriptView]
    generalize c.view.read mode = o at hrd
    obtain _ | ⟨r, v⟩ := o
    · simp only [hrd]
    · obtain ⟨a, ea, rfl, wa⟩ := hrd
      have na := nextFile_view a
      have hs : (⟨a.view.nr, a.view.fnr, a.view.filename, r⟩ : Seen) = ⟨a.nr, a.fnr, a.filename, r⟩ := rfl
      simp only [ea, pendingLen_view, hs]
      by_cases hlt : a.view.size < c.view.size
      · simp only [hlt, dif_pos]
        by_cases hnf : nf ⟨a.nr, a.fnr, a.filename, r⟩ = true
        · simp only [hnf, if_true]
          generalize nextFile a = o at na
          obtain _ | a' := o
          · simp only [na]
          · simp only [na.1]
            by_cases hle : a'.view.size ≤ a.view.size
            · simp only [hle, dif_pos]
              rw [ih a'.view.size (by omega) a' na.2 (pendingLen_view a')]
            · simp only [hle, dif_neg, not_false_eq_true]
        · simp only [hnf, if_false, Bool.false_eq_true]
          rw [ih a.view.size (by omega) a wa (pendingLen_view a)]
      · simp only [hlt, dif_neg, not_false_eq_true]

theorem runScript_view {mode : Mode} (hok : ModeOK mode) (nf : Seen → Bool) (c1 c2 : Console) (w1 : WF c1.st)
    (w2 : WF c2.st) (hv : c1.view = c2.view) : runScript mode nf c1 = runScript mode nf c2 := by
  rw [runScript_eq hok nf c1 w1, runScript_eq hok nf c2 w2, hv]

/-- a match found in the tail, seen from one character earlier -/
def shiftMatch : Option (Nat × Nat) → Option (Nat × Nat)
  | some (i, l) => some (i + 1, l)
  | none => none

theorem shiftMatch_eq_some (o : Option (Nat × Nat)) (i l : Nat) :
    shiftMatch o = some (i, l) ↔ ∃ i', i = i' + 1 ∧ o = some (i', l) := by
  cases o with
  | none => simp [shiftMatch]
  | some p =>
    simp only [shiftMatch, Option.some.injEq, Prod.mk.injEq]
    constructor
    · rintro ⟨rfl, rfl⟩; exact ⟨p.1, rfl, rfl⟩
    · rintro ⟨i', rfl, rfl⟩; exact ⟨rfl, rfl⟩

theorem litMatcher_cons (w : List Char) (a : Char) (t : List Char) :
    litMatcher w (a :: t) = if w.isPrefixOf (a :: t) then some (0, w.length) else shiftMatch (litMatcher w t) := by
  simp only [litMatcher]
  rfl

theorem litMatcher_len {w t : List Char} {i l : Nat} (h : litMatcher w t = some (i, l)) : l = w.length := by
  induction t generalizing i l with
  | nil =>
    simp only [litMatcher] at h
    split at h <;> simp at h
    exact h.2.symm
  | cons a t ih =>
    rw [litMatcher_cons] at h
    split at h
    · simp at h; exact h.2.symm
    · obtain ⟨i', -, hm⟩ := (shiftMatch_eq_some _ i l).mp h
      exact ih hm

theorem isPrefixOf_append_of_le {w t u : List Char} (hl : w.length ≤ t.length) :
    w.isPrefixOf (t ++ u) = w.isPrefixOf t := by
  rw [Bool.eq_iff_iff, List.isPrefixOf_iff_prefix, List.isPrefixOf_iff_prefix]
  exact ⟨fun h => List.prefix_of_prefix_length_le h (List.prefix_append t u) hl, fun h => h.trans (List.prefix_append t u)⟩

/-- a literal multi-character RS (no regex operators): the leftmost occurrence is found by `litMatcher` -/
theorem stable_litMatcher (w : List Char) : Stable (litMatcher w) := by
  intro t
  induction t with
  | nil => intro u i l h; simp at h
  | cons a t ih =>
    intro u i l hil
    simp only [List.length_cons] at hil
    rw [List.cons_append, litMatcher_cons, litMatcher_cons]
    by_cases hp : w.isPrefixOf (a :: t) = true
    · have hp' : w.isPrefixOf (a :: (t ++ u)) = true := by
        rw [← List.cons_append, isPrefixOf_append_of_le (List.isPrefixOf_iff_prefix.mp hp).length_le]; exact hp
      simp [hp, hp']
    · by_cases hp' : w.isPrefixOf (a :: (t ++ u)) = true
      · -- the occurrence at 0 ends beyond `a :: t`, and so would any other: none ends inside
        have hlen : t.length + 1 < w.length := by
          apply Nat.lt_of_not_le
          intro hle
          rw [← List.cons_append, isPrefixOf_append_of_le (by simpa using hle)] at hp'
          exact hp hp'
        simp only [hp, hp', Bool.false_eq_true, if_false, if_true, shiftMatch_eq_some, Option.some.injEq, Prod.mk.injEq]
        constructor
        · rintro ⟨i', rfl, hm⟩
          have := litMatcher_len hm
          omega
        · rintro ⟨rfl, rfl⟩
          omega
      · simp only [hp, hp', Bool.false_eq_true, if_false, shiftMatch_eq_some]
        constructor
        · rintro ⟨i', rfl, hm⟩
          exact ⟨i', rfl, (ih u i' l (by omega)).mp hm⟩
        · rintro ⟨i', rfl, hm⟩
          exact ⟨i', rfl, (ih u i' l (by omega)).mpr hm⟩

theorem progress_litMatcher {w : List Char} (hw : w ≠ []) : Progress (litMatcher w) := by
  intro t i l h
  have := litMatcher_len h
  have : 0 < w.length := List.length_pos_iff.mpr hw
  omega

/-! ## a matcher that is not stable: `ab(cd)?` -/

def abcdMatcher : Matcher
  | [] => none
  | 'a' :: 'b' :: 'c' :: 'd' :: _ => some (0, 4)
  | 'a' :: 'b' :: _ => some (0, 2)
  | _ :: t => match abcdMatcher t with
    | some (i, l) => some (i + 1, l)
    | none => none

/-! ## one step of `readAll` / `specAll` from an evaluated call -/

theorem readAll_cons_of {mode : Mode} {st st' : InState} {cs cs' : Stream} {r : Record}
    (h : readRecord mode st cs = (some r, st', cs')) (hlt : (pending st' cs').length < (pending st cs).length) :
    readAll mode st cs = r :: readAll mode st' cs' := by
  rw [readAll]
  simp [h, hlt]

theorem readAll_nil_of {mode : Mode} {st st' : InState} {cs cs' : Stream}
    (h : readRecord mode st cs = (none, st', cs')) : readAll mode st cs = [] := by
  rw [readAll]
  simp [h]

theorem specAll_cons_of {mode : Mode} {t rest : List Char} {r : Record}
    (h : specRecord mode t = (some r, rest)) (hlt : rest.length < t.length) :
    specAll mode t = r :: specAll mode rest := by
  rw [specAll]
  simp [h, hlt]

theorem specAll_nil_of {mode : Mode} {t rest : List Char}
    (h : specRecord mode t = (none, rest)) : specAll mode t = [] := by
  rw [specAll]
  simp [h]

/-! ## RS / FS histories: the run-time context tracks the last assignment -/

/-- what `set_separator` leaves for a value assigned under a CONVFMT -/
def sepOf (fsv : Bool) (a : Val × List Char) : Sep :=
  if a.1.isNil then ⟨a.1, none, none, none⟩
  else ⟨a.1, some (a.1.text a.2), some (a.1.btext a.2),
        if isRexText fsv (a.1.text a.2) (a.1.btext a.2) then some (a.1.text a.2) else none⟩

theorem setSeparator_eq (ok : List Char → Bool) (fsv : Bool) (fmt : List Char) (v : Val) :
    setSeparator ok fsv fmt v = if accepts ok fsv fmt v then some (sepOf fsv (v, fmt)) else none := by
  unfold setSeparator accepts sepOf
  cases h1 : v.isNil <;> simp
  cases h2 : isRexText fsv (v.text fmt) (v.btext fmt) <;> simp

def Tracks (e : Env) (l : Last) : Prop :=
  e.convfmt = l.fmt ∧ e.rs = sepOf false l.rs ∧ e.fs = sepOf true l.fs

theorem tracks_init : Tracks env0 last0 := by
  refine ⟨rfl, ?_, ?_⟩
  · simp [env0, last0, sepOf, nilVal]
  · simp [env0, last0, sepOf, strVal, isRexText]

theorem tracks_step (ok : List Char → Bool) (e : Env) (l : Last) (op : SepOp) (h : Tracks e l) :
    Tracks (e.step ok op) (l.step ok op) := by
  obtain ⟨h1, h2, h3⟩ := h
  cases op with
  | convfmt f => exact ⟨rfl, h2, h3⟩
  | ignorecase b => exact ⟨h1, h2, h3⟩
  | setRS v =>
    simp only [Env.step, Last.step, setSeparator_eq, h1]
    by_cases ha : accepts ok false l.fmt v = true
    · simp only [ha, if_true]; exact ⟨rfl, rfl, h3⟩
    · simp only [ha]; exact ⟨h1, h2, h3⟩
  | setFS v =>
    simp only [Env.step, Last.step, setSeparator_eq, h1]
    by_cases ha : accepts ok true l.fmt v = true
    · simp only [ha, if_true]; exact ⟨rfl, h2, rfl⟩
    · simp only [ha]; exact ⟨h1, h2, h3⟩
  | sameRS => exact ⟨h1, h2, h3⟩
  | sameFS => exact ⟨h1, h2, h3⟩

theorem tracks_run (ok : List Char → Bool) (ops : List SepOp) :
    ∀ (e : Env) (l : Last), Tracks e l → Tracks (e.run ok ops) (l.run ok ops) := by
  induction ops with
  | nil => intro e l h; exact h
  | cons op ops ih => intro e l h; exact ih _ _ (tracks_step ok e l op h)

theorem sepOf_text (fsv : Bool) (a : Val × List Char) : (sepOf fsv a).text = sepText a := by
  unfold sepOf sepText; split <;> rfl

theorem sepOf_btext (fsv : Bool) (a : Val × List Char) : (sepOf fsv a).btext = sepBText a := by
  unfold sepOf sepBText; split <;> rfl

/-- The reader's dispatch on the text kept at the assignment (`g` = `Val.text` for the character reader, `Val.btext`
for the byte reader): a text of two or more units was a regular expression at the assignment, so it was compiled. -/
theorem selOfText_sepOf {α : Type} (a : Val × List Char) (ic : Bool) (g : Val → List Char → List α)
    (hg : ∀ v f, 1 < (g v f).length → isRexText false (v.text f) (v.btext f) = true) :
    selOfText (sepOf false a).rex ic (if a.1.isNil then none else some (g a.1 a.2)) =
      specSel (sepText a) ic (if a.1.isNil then none else some (g a.1 a.2)) := by
  by_cases hn : a.1.isNil = true
  · simp [hn, selOfText, specSel]
  · have := hg a.1 a.2
    simp only [hn]
    match h : g a.1 a.2 with
    | [] => rfl
    | [_] => rfl
    | x :: y :: r =>
      rw [h] at this
      simp [selOfText, specSel, sepOf, sepText, hn, this]

/-- `split_record`'s dispatch on the text kept at the assignment: a text longer than a character that is not the
`?xxxx` form was a regular expression at the assignment, so it was compiled. -/
theorem howOfText_sepOf (a : Val × List Char) (ic : Bool) :
    howOfText (sepOf true a).rex ic (sepText a) = specHow ic (sepText a) := by
  by_cases hn : a.1.isNil = true
  · simp [sepText, hn, howOfText, specHow]
  · simp only [sepOf, sepText, hn, Bool.false_eq_true, if_false, howOfText, specHow, isRexText]
    generalize a.1.text a.2 = t
    by_cases h5 : t.length = 5 ∧ t.head? = some '?'
    · simp [h5]
    · by_cases h1 : t.length ≤ 1
      · simp [h5, h1]
      · have : 1 < t.length := by omega
        by_cases h5a : t.length = 5
        · have : t.head? ≠ some '?' := fun h => h5 ⟨h5a, h⟩
          simp [h5a, this]
        · simp [h5a, this, h1]

theorem Tracks.dispatch {e : Env} {l : Last} (h : Tracks e l) :
    selRead e = specSel (sepText l.rs) e.ignorecase (sepText l.rs) ∧
    selReadBytes e = specSel (sepText l.rs) e.ignorecase (sepBText l.rs) ∧
    howSplit e = specHow e.ignorecase (sepText l.fs) := by
  refine ⟨?_, ?_, ?_⟩
  · rw [selRead, h.2.1, sepOf_text]
    exact selOfText_sepOf l.rs _ Val.text (by intro v f h; simp [isRexText, h])
  · rw [selReadBytes, h.2.1, sepOf_btext]
    exact selOfText_sepOf l.rs _ Val.btext (by intro v f h; simp [isRexText, h])
  · rw [howSplit, h.2.2, sepOf_text]
    exact howOfText_sepOf l.fs _

theorem selOfText_regex {α : Type} (rex : Option (List Char)) (ic : Bool) (tx : Option (List α)) (src : List Char) (ic' : Bool)
    (h : selOfText rex ic tx = .regex src ic') : rex = some src := by
  match tx, rex, h with
  | none, _, h => simp [selOfText] at h
  | some [], _, h => simp [selOfText] at h
  | some [_], _, h => simp [selOfText] at h
  | some (_ :: _ :: _), none, h => simp [selOfText] at h
  | some (_ :: _ :: _), some s, h =>
    simp only [selOfText, Sel.regex.injEq] at h
    rw [h.1]

theorem sepOf_rex (fsv : Bool) (a : Val × List Char) (s : List Char) (h : (sepOf fsv a).rex = some s) :
    (sepOf fsv a).text = some s := by
  unfold sepOf at h ⊢
  split at h
  · simp at h
  · rename_i hn
    simp only [hn]
    split at h
    · simpa using h
    · simp at h

theorem Tracks.regex_compiled {e : Env} {l : Last} (h : Tracks e l) :
    selRead e ≠ .crash ∧ selReadBytes e ≠ .crash ∧ howSplit e ≠ .crash ∧
    (∀ src ic, selRead e = .regex src ic → e.rs.rex = some src ∧ e.rs.text = some src) := by
  obtain ⟨h1, h2, h3⟩ := h.dispatch
  have nc : ∀ {α : Type} (s : Option (List Char)) (ic : Bool) (t : Option (List α)), specSel s ic t ≠ .crash := by
    intro α s ic t
    match t with
    | none => simp [specSel]
    | some [] => simp [specSel]
    | some [_] => simp [specSel]
    | some (_ :: _ :: _) => simp [specSel]
  refine ⟨by rw [h1]; exact nc _ _ _, by rw [h2]; exact nc _ _ _, ?_, ?_⟩
  · rw [h3]
    unfold specHow
    split
    · simp
    · split
      · simp
      · split <;> simp
  · intro src ic hsel
    have hr := selOfText_regex _ _ _ _ _ hsel
    refine ⟨hr, ?_⟩
    rw [h.2.1] at hr ⊢
    exact sepOf_rex _ _ _ hr

theorem Tracks.reader_mode {e : Env} {l : Last} (h : Tracks e l) (mk : List Char → Bool → Matcher) (crlf : Bool) :
    ∃ mode, (selRead e).toMode mk crlf = some mode ∧
      ((∀ t, sepText l.rs = some t → t.length ≤ 1) → mode.isAuto = true) ∧
      ((∀ src ic, Stable (mk src ic)) → ModeOK mode) := by
  rw [h.dispatch.1]
  generalize sepText l.rs = tx
  match tx with
  | none => exact ⟨.dflt, rfl, fun _ => rfl, fun _ => trivial⟩
  | some [] => exact ⟨.para crlf, rfl, fun _ => rfl, fun _ => trivial⟩
  | some [ch] => exact ⟨.single ch, rfl, fun _ => rfl, fun _ => trivial⟩
  | some (x :: y :: r) =>
    exact ⟨.regex (mk (x :: y :: r) _), rfl, fun hl => by have := hl _ rfl; simp at this, fun hS => hS _ _⟩

end Hawk.ReadIo
