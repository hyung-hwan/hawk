import HawkModel.Oom
/-!
Unwind tables: `Inv acq s` ties the resources a run holds to the symbolic state `s` of the check `wfFrom`, and one
induction on the table (`runFrom_spec`, through `head_step`) carries every clause about a run.  gc_calloc_val:
`gcCallocVal_eq` names the two conditional collections, so that the counting facts are sums over event lists.
ecs: what the back-off loop leaves behind, and that enough refusals in a row make it and `ncat` fail.
-/
namespace Hawk.Oom

theorem nodupB_iff (l : List Nat) : nodupB l = true ↔ l.Nodup := by
  induction l with
  | nil => simp [nodupB]
  | cons x xs ih => simp [nodupB, List.nodup_cons, ih]

theorem nodup_snoc {l : List Nat} {r : Nat} (hn : l.Nodup) (h : r ∉ l) : (l ++ [r]).Nodup := by
  rw [List.nodup_append]
  refine ⟨hn, by simp, ?_⟩
  intro a ha b hb e
  rw [List.mem_singleton.mp hb] at e
  exact h (e ▸ ha)

theorem fire_sublist (acq : List Res) (x : Rel) : (x.fire acq).Sublist [x.res] := by
  cases x with
  | always r => simp [Rel.fire, Rel.res]
  | ifSet r =>
    simp only [Rel.fire, Rel.res]
    split <;> simp

theorem unwind_sublist (acq : List Res) (rels : List Rel) :
    (unwind acq rels).Sublist (rels.map Rel.res) := by
  induction rels with
  | nil => simp [unwind]
  | cons x xs ih =>
    have h : unwind acq (x :: xs) = x.fire acq ++ unwind acq xs := by simp [unwind]
    rw [h]
    have : (x.fire acq ++ unwind acq xs).Sublist ([x.res] ++ xs.map Rel.res) :=
      List.Sublist.append (fire_sublist acq x) ih
    simpa using this

theorem mem_unwind (acq : List Res) (rels : List Rel) (r : Res) :
    r ∈ unwind acq rels ↔ (Rel.always r ∈ rels) ∨ (Rel.ifSet r ∈ rels ∧ r ∈ acq) := by
  simp only [unwind, List.mem_flatMap]
  constructor
  · rintro ⟨x, hx, hr⟩
    cases x with
    | always q =>
      simp [Rel.fire] at hr
      subst hr; exact Or.inl hx
    | ifSet q =>
      simp only [Rel.fire] at hr
      split at hr
      · simp at hr; subst hr; exact Or.inr ⟨hx, by assumption⟩
      · simp at hr
  · rintro (h | ⟨h, ha⟩)
    · exact ⟨_, h, by simp [Rel.fire]⟩
    · exact ⟨_, h, by simp [Rel.fire, ha]⟩

/-- the concrete set of held resources is described by the symbolic state -/
def Inv (acq : List Res) (s : Sym) : Prop :=
  acq.Nodup ∧ (∀ r, r ∈ s.sure → r ∈ acq) ∧ (∀ r, r ∈ acq → r ∈ s.sure ∨ r ∈ s.maybe)

theorem Inv.empty : Inv [] { sure := [], maybe := [] } :=
  ⟨List.nodup_nil, fun _ h => h, fun _ h => Or.inl h⟩

/-- nothing leaks, nothing is released twice, nothing never-acquired is released -/
def Balanced (o : Outcome) : Prop :=
  o.acquired.Nodup ∧ o.released.Perm o.acquired

theorem labelExact_balanced (s : Sym) (rels : List Rel) (acq : List Res)
    (h : labelExact s rels = true) (hi : Inv acq s) : (unwind acq rels).Perm acq := by
  simp only [labelExact, Bool.and_eq_true, List.all_eq_true, List.contains_iff_mem] at h
  obtain ⟨⟨⟨hnd, halw⟩, hsure⟩, hmaybe⟩ := h
  rw [nodupB_iff] at hnd
  refine (List.perm_ext_iff_of_nodup (hnd.sublist (unwind_sublist acq rels)) hi.1).mpr fun r => ?_
  rw [mem_unwind]
  constructor
  · rintro (ha | ⟨_, hacq⟩)
    · have : r ∈ s.sure := by simpa using halw _ ha
      exact hi.2.1 r this
    · exact hacq
  · intro hacq
    rcases hi.2.2 r hacq with hs | hm
    · have := hsure r hs
      rw [List.mem_map] at this
      obtain ⟨x, hx, hxr⟩ := this
      cases x with
      | always q => simp [Rel.res] at hxr; subst hxr; exact Or.inl hx
      | ifSet q => simp [Rel.res] at hxr; subst hxr; exact Or.inr ⟨hx, hacq⟩
    · exact Or.inr ⟨hmaybe r hm, hacq⟩

theorem jump_balanced (t : Table) (s : Sym) (l : Label) (acq : List Res)
    (h : labelOK t s l = true) (hi : Inv acq s) : Balanced (jump t acq l) := by
  unfold labelOK at h
  split at h
  · rename_i rels hl
    refine ⟨hi.1, ?_⟩
    simp only [jump, List.getD_eq_getElem?_getD, hl, Option.getD_some]
    exact labelExact_balanced s rels acq h hi
  · simp at h

theorem fresh_not_mem (r : Res) (s : Sym) (acq : List Res) (hf : fresh r s = true) (hi : Inv acq s) :
    r ∉ acq ∧ r ∉ s.sure ∧ r ∉ s.maybe := by
  simp only [fresh, Bool.and_eq_true, Bool.not_eq_true', List.contains_eq_mem, decide_eq_false_iff_not] at hf
  refine ⟨?_, hf.1, hf.2⟩
  intro h
  rcases hi.2.2 r h with h | h
  · exact hf.1 h
  · exact hf.2 h

theorem Inv.push_sure {acq : List Res} {s : Sym} {r : Res} (hi : Inv acq s) (hf : fresh r s = true) :
    Inv (acq ++ [r]) { s with sure := s.sure ++ [r] } := by
  refine ⟨nodup_snoc hi.1 (fresh_not_mem r s acq hf hi).1, fun q hq => ?_, fun q hq => ?_⟩ <;>
    simp only [List.mem_append, List.mem_singleton] at hq ⊢
  · exact hq.imp_left (hi.2.1 q)
  · rcases hq with hq | hq
    · exact (hi.2.2 q hq).imp_left Or.inl
    · exact Or.inl (Or.inr hq)

theorem Inv.push_maybe_set {acq : List Res} {s : Sym} {r : Res} (hi : Inv acq s) (hf : fresh r s = true) :
    Inv (acq ++ [r]) { s with maybe := s.maybe ++ [r] } := by
  refine ⟨nodup_snoc hi.1 (fresh_not_mem r s acq hf hi).1, fun q hq => List.mem_append_left _ (hi.2.1 q hq),
    fun q hq => ?_⟩
  simp only [List.mem_append, List.mem_singleton] at hq ⊢
  rcases hq with hq | hq
  · exact (hi.2.2 q hq).imp_right Or.inl
  · exact Or.inr (Or.inr hq)

theorem Inv.push_maybe_unset {acq : List Res} {s : Sym} {r : Res} (hi : Inv acq s) :
    Inv acq { s with maybe := s.maybe ++ [r] } :=
  ⟨hi.1, hi.2.1, fun q hq => (hi.2.2 q hq).imp_right (List.mem_append_left _)⟩

theorem Inv.checked {acq : List Res} {s : Sym} {rs : List Res} (hi : Inv acq s)
    (hc : rs.all (fun r => decide (r ∈ acq)) = true) :
    Inv acq { sure := s.sure ++ s.maybe.filter (fun r => rs.contains r),
              maybe := s.maybe.filter (fun r => !(rs.contains r)) } := by
  simp only [List.all_eq_true, decide_eq_true_eq] at hc
  refine ⟨hi.1, fun q hq => ?_, fun q hq => ?_⟩
  · simp only [List.mem_append, List.mem_filter, List.contains_iff_mem] at hq
    rcases hq with hq | ⟨_, hq⟩
    · exact hi.2.1 q hq
    · exact hc q hq
  · by_cases hr : q ∈ rs <;> simpa [hr] using hi.2.2 q hq

/-- steps whose failure must make the constructor fail -/
def Op.hard : Op → Bool
  | .acq _ _ => true
  | .guard _ => true
  | _ => false

/-- A step that goes on leaves a resource that was stored without a test and is not held in that condition (fourth
    clause: `runFrom_spec` concludes from one such resource that the run fails), and was either an acquisition stored
    without a test that failed (a new such resource), or it did what a successful run does. -/
theorem head_step (t : Table) (fail : Nat → Bool) (op : Op) (rest : List Op) (i : Nat) (acq : List Res) (s : Sym)
    (hw : wfFrom t (op :: rest) s = true) (hi : Inv acq s) :
    (∃ l, labelOK t s l = true ∧ runFrom t fail (op :: rest) i acq = jump t acq l) ∨
    ∃ acq' s', wfFrom t rest s' = true ∧ Inv acq' s' ∧
      runFrom t fail (op :: rest) i acq = runFrom t fail rest (i + 1) acq' ∧
      (∀ q, q ∈ s.maybe → q ∉ acq → q ∈ s'.maybe ∧ q ∉ acq') ∧
      ((∃ q, q ∈ s'.maybe ∧ q ∉ acq') ∨
        acq' ++ resOf rest = acq ++ resOf (op :: rest) ∧ (op.hard = true → fail i = false)) := by
  cases op with
  | acq r onFail =>
    have hne : ∀ q, q ∈ s.maybe → q ∉ acq → fresh r s = true → q ∉ acq ++ [r] := by
      intro q hm hn hf h
      rcases List.mem_append.mp h with h | h
      · exact hn h
      · exact (fresh_not_mem r s acq hf hi).2.2 (List.mem_singleton.mp h ▸ hm)
    cases onFail with
    | some l =>
      simp only [wfFrom, Bool.and_eq_true] at hw
      cases hf : fail i with
      | true => exact Or.inl ⟨l, hw.1.2, by simp [runFrom, hf]⟩
      | false =>
        exact Or.inr ⟨acq ++ [r], _, hw.2, hi.push_sure hw.1.1, by simp [runFrom, hf],
          fun q hm hn => ⟨hm, hne q hm hn hw.1.1⟩, Or.inr ⟨by simp [resOf], fun _ => rfl⟩⟩
    | none =>
      simp only [wfFrom, Bool.and_eq_true] at hw
      cases hf : fail i with
      | true =>
        exact Or.inr ⟨acq, _, hw.2, hi.push_maybe_unset (r := r), by simp [runFrom, hf],
          fun q hm hn => ⟨List.mem_append_left _ hm, hn⟩,
          Or.inl ⟨r, List.mem_append_right _ (List.mem_singleton_self r), (fresh_not_mem r s acq hw.1 hi).1⟩⟩
      | false =>
        exact Or.inr ⟨acq ++ [r], _, hw.2, hi.push_maybe_set hw.1, by simp [runFrom, hf],
          fun q hm hn => ⟨List.mem_append_left _ hm, hne q hm hn hw.1⟩, Or.inr ⟨by simp [resOf], fun _ => rfl⟩⟩
  | check rs l =>
    simp only [wfFrom, Bool.and_eq_true] at hw
    by_cases hc : rs.all (fun r => decide (r ∈ acq)) = true
    · refine Or.inr ⟨acq, _, hw.2, hi.checked hc, by rw [runFrom, if_pos hc], fun q hm hn => ⟨?_, hn⟩, Or.inr ⟨rfl, nofun⟩⟩
      simp only [List.all_eq_true, decide_eq_true_eq] at hc
      exact List.mem_filter.mpr ⟨hm, by simpa using fun hr => hn (hc q hr)⟩
    · exact Or.inl ⟨l, hw.1, by rw [runFrom, if_neg hc]⟩
  | guard l =>
    simp only [wfFrom, Bool.and_eq_true] at hw
    cases hf : fail i with
    | true => exact Or.inl ⟨l, hw.1, by simp [runFrom, hf]⟩
    | false =>
      exact Or.inr ⟨acq, s, hw.2, hi, by simp [runFrom, hf], fun q hm hn => ⟨hm, hn⟩, Or.inr ⟨rfl, fun _ => rfl⟩⟩
  | soft => exact Or.inr ⟨acq, s, hw, hi, rfl, fun q hm hn => ⟨hm, hn⟩, Or.inr ⟨rfl, nofun⟩⟩

/-- What a run from a state that passes the check does, by one induction, because the clauses feed each other: a
    resource stored without a test and not held makes the run fail (the table cannot end while one is in that state),
    and that is what rules a failed untested acquisition out of a successful run. -/
theorem runFrom_spec (t : Table) (fail : Nat → Bool) :
    ∀ (ops : List Op) (i : Nat) (acq : List Res) (s : Sym),
      wfFrom t ops s = true → Inv acq s →
      ((runFrom t fail ops i acq).ok = false → Balanced (runFrom t fail ops i acq)) ∧
      ((∃ q, q ∈ s.maybe ∧ q ∉ acq) → (runFrom t fail ops i acq).ok = false) ∧
      ((runFrom t fail ops i acq).ok = true →
        (runFrom t fail ops i acq).released = [] ∧ (runFrom t fail ops i acq).acquired.Nodup ∧
        (runFrom t fail ops i acq).acquired = acq ++ resOf ops ∧
        ∀ (j : Nat) (op : Op), ops[j]? = some op → op.hard = true → fail (j + i) = false) := by
  intro ops
  induction ops with
  | nil =>
    intro i acq s hw hi
    simp only [wfFrom, List.isEmpty_iff] at hw
    exact ⟨nofun, fun ⟨q, hm, _⟩ => (by rw [hw] at hm; cases hm),
      fun _ => ⟨rfl, hi.1, (List.append_nil acq).symm, fun j op h => by simp at h⟩⟩
  | cons op0 rest ih =>
    intro i acq s hw hi
    rcases head_step t fail op0 rest i acq s hw hi with ⟨l, hl, e⟩ | ⟨acq', s', hw', hi', e, hp, h0⟩
    · rw [e]
      exact ⟨fun _ => jump_balanced t s l acq hl hi, fun _ => rfl, nofun⟩
    · rw [e]
      obtain ⟨k1, k2, k3⟩ := ih (i + 1) acq' s' hw' hi'
      refine ⟨k1, fun ⟨q, hm, hn⟩ => k2 ⟨q, hp q hm hn⟩, fun hk => ?_⟩
      rcases h0 with hq | ⟨ha, h0⟩
      · rw [k2 hq] at hk
        cases hk
      · obtain ⟨m1, m2, m3, m4⟩ := k3 hk
        refine ⟨m1, m2, m3.trans ha, fun j op hj hh => ?_⟩
        cases j with
        | zero =>
          obtain rfl : op0 = op := by simpa using hj
          rw [Nat.zero_add]
          exact h0 hh
        | succ j =>
          rw [Nat.add_right_comm]
          exact m4 j op (by simpa using hj) hh

theorem requests_append (a b : List GcEv) : requests (a ++ b) = requests a + requests b := by
  simp [requests, List.filter_append]
theorem grants_append (a b : List GcEv) : grants (a ++ b) = grants a + grants b := by
  simp [grants, List.filter_append]
theorem collects_append (a b : List GcEv) : collects (a ++ b) = collects a + collects b := by
  simp [collects, List.filter_append]
theorem frees_append (a b : List GcEv) : frees (a ++ b) = frees a + frees b := by
  simp [frees, List.filter_append]

theorem requests_nil : requests [] = 0 := rfl
theorem grants_nil : grants [] = 0 := rfl
theorem collects_nil : collects [] = 0 := rfl
theorem frees_nil : frees [] = 0 := rfl

theorem requests_cons (e : GcEv) (l : List GcEv) :
    requests (e :: l) = (match e with | .request _ => 1 | _ => 0) + requests l := by
  cases e <;> simp [requests] <;> omega
theorem grants_cons (e : GcEv) (l : List GcEv) :
    grants (e :: l) = (match e with | .request true => 1 | _ => 0) + grants l := by
  cases e with
  | request b => cases b <;> simp [grants] <;> omega
  | _ => simp [grants]
theorem collects_cons (e : GcEv) (l : List GcEv) :
    collects (e :: l) = (match e with | .collect _ => 1 | _ => 0) + collects l := by
  cases e <;> simp [collects] <;> omega
theorem frees_cons (e : GcEv) (l : List GcEv) :
    frees (e :: l) = (match e with | .freeVal => 1 | _ => 0) + frees l := by
  cases e <;> simp [frees] <;> omega

theorem requests_map_collect (l : List Nat) : requests (l.map GcEv.collect) = 0 := by
  simp [requests, List.filter_map]
theorem grants_map_collect (l : List Nat) : grants (l.map GcEv.collect) = 0 := by
  simp [grants, List.filter_map]
theorem frees_map_collect (l : List Nat) : frees (l.map GcEv.collect) = 0 := by
  simp [frees, List.filter_map]
theorem collects_map_collect (l : List Nat) : collects (l.map GcEv.collect) = l.length := by
  simp [collects, List.filter_map]

theorem requests_replicate_free (n : Nat) : requests (List.replicate n GcEv.freeVal) = 0 := by
  simp [requests]
theorem grants_replicate_free (n : Nat) : grants (List.replicate n GcEv.freeVal) = 0 := by
  simp [grants]
theorem frees_replicate_free (n : Nat) : frees (List.replicate n GcEv.freeVal) = n := by
  simp [frees]

theorem Gc.autoGen_le (g : Gc) : g.autoGen ≤ 2 := by
  unfold Gc.autoGen
  split
  · omega
  · split <;> omega

theorem Gc.collected_p0 (g : Gc) (n : Nat) : (g.collected n).p0 = 0 := by
  unfold Gc.collected
  split <;> rfl

/-- gc_calloc_val with its two conditional collections named: `c1` are the generations collected before
    the first request, `c2` those collected between the two requests, `g1`/`g2` the counters after them.
    Whichever way the thresholds stand, a full collection has run before the second request. -/
theorem gcCallocVal_eq (g : Gc) :
    ∃ (c1 c2 : List Nat) (g1 g2 : Gc), c1.length ≤ 1 ∧ c2.length ≤ 1 ∧ 2 ∈ c1 ++ c2 ∧ g2.p0 = 0 ∧
      ∀ o : Oracle, gcCallocVal g o =
        match o.next with
        | (true, o1) => ⟨{ g1 with p0 := g1.p0 + 1 }, true, c1.map .collect ++ [.request true], o1⟩
        | (false, o1) =>
          match o1.next with
          | (true, o2) => ⟨{ g2 with p0 := g2.p0 + 1 }, true,
              c1.map .collect ++ [.request false] ++ c2.map .collect ++ [.request true], o2⟩
          | (false, o2) => ⟨g2, false,
              c1.map .collect ++ [.request false] ++ c2.map .collect ++ [.request false], o2⟩ := by
  by_cases h0 : g.p0 ≥ g.t0
  · by_cases hg : g.autoGen < 2
    · refine ⟨[g.autoGen], [2], g.collected g.autoGen, (g.collected g.autoGen).collected 2,
        Nat.le_refl _, Nat.le_refl _, by simp, Gc.collected_p0 _ 2, fun o => ?_⟩
      simp only [gcCallocVal, h0, hg, if_true]
      rfl
    · have h2 : g.autoGen = 2 := by have := g.autoGen_le; omega
      refine ⟨[g.autoGen], [], g.collected g.autoGen, g.collected g.autoGen,
        Nat.le_refl _, Nat.zero_le _, by simp [h2], Gc.collected_p0 _ _, fun o => ?_⟩
      simp only [gcCallocVal, h0, hg, if_true, if_false]
      rfl
  · refine ⟨[], [2], g, g.collected 2, Nat.zero_le _, Nat.le_refl _, by simp, Gc.collected_p0 _ 2, fun o => ?_⟩
    simp only [gcCallocVal, h0, if_false, Nat.zero_lt_two, if_true]
    rfl

theorem gcCallocVal_spec (g : Gc) (o : Oracle) :
    requests (gcCallocVal g o).evs ≤ 2 ∧ collects (gcCallocVal g o).evs ≤ 2 ∧
    ((gcCallocVal g o).granted = true ↔ grants (gcCallocVal g o).evs = 1) ∧
    ((gcCallocVal g o).granted = false ↔ grants (gcCallocVal g o).evs = 0) ∧
    ((gcCallocVal g o).granted = false →
      requests (gcCallocVal g o).evs = 2 ∧ GcEv.collect 2 ∈ (gcCallocVal g o).evs ∧ (gcCallocVal g o).gc.p0 = 0) ∧
    ((gcCallocVal g o).granted = true → (gcCallocVal g o).gc.p0 ≥ 1) := by
  obtain ⟨c1, c2, g1, g2, h1, h2, hm, hp, he⟩ := gcCallocVal_eq g
  have hm' : 2 ∈ c1 ∨ 2 ∈ c2 := List.mem_append.mp hm
  simp only [he]
  rcases o with _ | ⟨_ | _, _ | ⟨_ | _, o2⟩⟩ <;>
    simp [Oracle.next, requests_append, grants_append, collects_append, requests_cons, grants_cons,
      collects_cons, requests_map_collect, grants_map_collect, collects_map_collect,
      requests_nil, grants_nil, collects_nil, hp, hm'] <;>
    omega

theorem Ecs.setcapa_refused (e : Ecs) (c : Nat) (o : Oracle) (h : c ≠ e.capa) :
    e.setcapa c (false :: o) = { ecs := e, ret := .error .enomem, rest := o } := by
  simp [Ecs.setcapa, h, Oracle.next]

theorem Ecs.growLoop_spec (e : Ecs) (mincapa : Nat) (hlen : e.len ≤ mincapa) (ncapa : Nat) (o : Oracle)
    (hle : mincapa ≤ ncapa) :
    (∃ c, (e.growLoop ncapa mincapa o).ret = .ok c ∧ mincapa ≤ c ∧ c ≤ ncapa ∧
          (((e.growLoop ncapa mincapa o).ecs = e ∧ c = e.capa) ∨
           (e.growLoop ncapa mincapa o).ecs = { chars := e.chars, capa := c, hasPtr := true }))
    ∨ ((e.growLoop ncapa mincapa o).ret = .error .enomem ∧ (e.growLoop ncapa mincapa o).ecs = e) := by
  fun_induction Ecs.growLoop e ncapa mincapa o with
  | case1 ncapa o r c hr =>
    revert hr
    simp only [r, Ecs.setcapa, if_neg (show ¬ ncapa < e.len by omega)]
    split
    · rename_i hc
      rintro ⟨rfl⟩
      exact Or.inl ⟨_, rfl, hle, Nat.le_refl _, Or.inl ⟨rfl, hc⟩⟩
    · split
      · nofun
      · rintro ⟨rfl⟩
        exact Or.inl ⟨_, rfl, hle, Nat.le_refl _, Or.inr rfl⟩
  | case2 ncapa o r x hr h =>
    cases x
    exact Or.inr ⟨rfl, rfl⟩
  | case3 ncapa o r x hr h ih =>
    rcases ih (by omega) with ⟨c, h1, h2, h3, h4⟩ | h1
    · exact Or.inl ⟨c, h1, h2, by omega, h4⟩
    · exact Or.inr h1

theorem Ecs.growLoop_refused (e : Ecs) (mincapa : Nat) (hne : ∀ c, mincapa ≤ c → c ≠ e.capa) :
    ∀ (k ncapa : Nat), mincapa ≤ ncapa → ncapa - mincapa < k →
      (e.growLoop ncapa mincapa (List.replicate k false)).ret = .error .enomem := by
  intro k
  induction k with
  | zero => exact fun _ _ h => absurd h (Nat.not_lt_zero _)
  | succ k ih =>
    intro ncapa hle hk
    rw [Ecs.growLoop, List.replicate_succ, Ecs.setcapa_refused e ncapa _ (hne _ hle)]
    simp only
    split
    · rfl
    · exact ih (ncapa - 1) (by omega) (by omega)

theorem Ecs.ncat_refused (e : Ecs) (s : List Nat) (hneed : s.length > e.capa - e.len) (k : Nat) (hk : e.capa < k) :
    (e.ncat s (List.replicate k false)).ret = .error .enomem ∧ (e.ncat s (List.replicate k false)).ecs = e := by
  have hne : ∀ c, e.len + s.length ≤ c → c ≠ e.capa := by intro c hc; omega
  have hr : (e.resizeForNcat s.length (List.replicate k false)).ret = .error .enomem := by
    unfold Ecs.resizeForNcat
    simp only [hneed, ↓reduceIte]
    -- the first wish is at most `2 * e.capa`, so the loop asks at most `e.capa + 1` times
    split
    · exact Ecs.growLoop_refused e _ hne _ _ (by omega) (by omega)
    · exact Ecs.growLoop_refused e _ hne _ _ (Nat.le_refl _) (by omega)
  unfold Ecs.ncat
  simp only [hr]
  exact ⟨trivial, trivial⟩

end Hawk.Oom
