import HawkModel.Sed
/-!
  The executor of HawkModel/Sed.lean is stated against declarative readings of its engines: address ranges as `rangeSpec`,
  `s` as `render` over the match sequence `matchSeq`, the `t` flag as `sinceLast` over `FlagEv`s, `body` = a buffer without
  its terminator.  `execCmd` is read in `execCmd_subst` (the `s` command in normal form) and `execCmd_ctl` (one sweep over the
  commands for `Ctl`: hold space, `t` flag, input, jumps); the main loop is met by an invariant with a predicted result (`execLoop_rule`).
-/
namespace Hawk.Sed

/-- the range machine run over a sequence of evaluations of one two-address command: selection flags -/
def rangeRun (k : A2Kind) : Bool → List RangeObs → List Bool
  | _, [] => []
  | act, o :: rest => (rangeStep k act o).2.1 :: rangeRun k (rangeStep k act o).1 rest

/-- body of an open range: everything up to and including the first evaluation at which addr2 matches
    (selected) or a line-number addr2 turns out to have been passed (not selected);
    returns (selection flags of the body, evaluations after the body) -/
def takeBody (k : A2Kind) : List RangeObs → List Bool × List RangeObs
  | [] => ([], [])
  | o :: rest =>
    if o.m2 then ([true], rest)
    else if passed k o then ([false], rest)
    else (true :: (takeBody k rest).1, (takeBody k rest).2)

theorem takeBody_length (k : A2Kind) (l : List RangeObs) : (takeBody k l).2.length ≤ l.length := by
  induction l with
  | nil => simp [takeBody]
  | cons o rest ih =>
    simp only [takeBody]
    split
    · simp
    · split
      · simp
      · simp; omega

/-- the POSIX ranges, declaratively: closed → wait for a line matching addr1; that line is selected; if addr2 is a
    line number ≤ that line (or `$` on the last line) the range is that single line; otherwise the range is that
    line plus its body, and the search for the next range resumes after the body -/
def rangeSpec (k : A2Kind) : List RangeObs → List Bool
  | [] => []
  | o :: rest =>
    if !o.m1 then false :: rangeSpec k rest
    else if oneLine k o then true :: rangeSpec k rest
    else true :: ((takeBody k rest).1 ++ rangeSpec k (takeBody k rest).2)
termination_by l => l.length
decreasing_by
  all_goals simp_wf
  · have := takeBody_length k rest; omega

theorem rangeRun_open (k : A2Kind) (l : List RangeObs) :
    rangeRun k true l = (takeBody k l).1 ++ rangeRun k false (takeBody k l).2 := by
  induction l with
  | nil => simp [rangeRun, takeBody]
  | cons o rest ih =>
    simp only [rangeRun, takeBody, rangeStep]
    by_cases h2 : o.m2 = true
    · simp [h2]
    · by_cases hp : passed k o = true
      · simp [h2, hp]
      · simp [h2, hp, ih]

theorem endsNl_iff (s : Str) : endsNl s = true ↔ ∃ b, s = b ++ ['\n'] := by
  unfold endsNl
  simp [List.getLast?_eq_some_iff]

theorem dropLast_of_last {s : Str} {c : Char} (h : s.getLast? = some c) : s.dropLast ++ [c] = s := by
  obtain ⟨b, hb⟩ := List.getLast?_eq_some_iff.mp h
  subst hb
  simp

theorem trimLine_append (s : Str) : (trimLine s).1 ++ (trimLine s).2 = s := by
  unfold trimLine
  split
  · rename_i h
    have hs : s.dropLast ++ ['\n'] = s := dropLast_of_last (by simpa [endsNl] using h)
    simp only
    split
    · rename_i h2
      have hb : s.dropLast.dropLast ++ ['\r'] = s.dropLast := dropLast_of_last h2
      calc s.dropLast.dropLast ++ ['\r', '\n'] = (s.dropLast.dropLast ++ ['\r']) ++ ['\n'] := by simp
        _ = s.dropLast ++ ['\n'] := by rw [hb]
        _ = s := hs
    · exact hs
  · simp

theorem emit_nil_out (s : Str) : emit [] s = s := by
  unfold emit; split <;> simp_all

theorem emit_terminated (out s : Str) (h : out = [] ∨ endsNl out = true) : emit out s = out ++ s := by
  unfold emit
  by_cases hs : s = []
  · simp [hs]
  · simp [hs, h]

theorem endsNl_append (a b : Str) (hb : endsNl b = true) : endsNl (a ++ b) = true := by
  obtain ⟨c, hc⟩ := (endsNl_iff b).mp hb
  exact (endsNl_iff _).mpr ⟨a ++ c, by simp [hc]⟩

theorem foldl_emit_terminated (l : List Str) (o : Str) (ho : o = [] ∨ endsNl o = true) (hl : ∀ t ∈ l, endsNl t = true) :
    l.foldl emit o = o ++ l.flatten := by
  induction l generalizing o with
  | nil => simp
  | cons t r ih =>
    rw [List.foldl_cons, emit_terminated _ _ ho, ih _ (Or.inr (endsNl_append _ _ (hl t (List.mem_cons_self ..))))
      fun x hx => hl x (List.mem_cons_of_mem _ hx)]
    simp

/-- POSIX view of a buffer: the text without the line's own terminator -/
def body (s : Str) : Str := if endsNl s then s.dropLast else s

theorem terminated_eq (s : Str) (h : endsNl s = true) : s = body s ++ ['\n'] := by
  unfold body; simp [h]
  exact (dropLast_of_last (by simpa [endsNl] using h)).symm

theorem body_snoc (b : Str) : body (b ++ ['\n']) = b := by
  simp [body, endsNl]

theorem termin_eq (s : Str) : termin s = body s ++ ['\n'] := by
  unfold termin
  split
  · exact terminated_eq s ‹_›
  · rename_i h; simp [body, h]

theorem body_termin_append (a b : Str) (hb : endsNl b = true) :
    body (termin a ++ b) = body a ++ '\n' :: body b := by
  obtain ⟨c, rfl⟩ := (endsNl_iff b).mp hb
  rw [termin_eq, ← List.append_assoc, body_snoc, body_snoc]
  simp

theorem at_law {m : Matcher} {re s : Str} {pos : Nat} {r : MatchRes} (h : m.at re s pos = some r) :
    pos ≤ r.start ∧ r.start + r.len ≤ s.length := by
  unfold Matcher.at at h
  split at h
  · split at h
    · cases h; assumption
    · cases h
  · cases h

/-- the match sequence POSIX `s` works on: scan from `pos`; take the leftmost match at or after the scan position;
    an EMPTY match sitting exactly at the end of the previous match does not count (advance one character and scan
    again); after a match continue behind it (one character further if it was empty).  `pm` = end of the previous match. -/
def matchSeq (m : Matcher) (re s : Str) (pos : Nat) (pm : Option Nat) : List MatchRes :=
  if hpos : pos ≤ s.length then
    match hm : m.at re s pos with
    | none => []
    | some r =>
      have hlaw := at_law hm
      if r.len = 0 ∧ pm = some r.start then matchSeq m re s (pos + 1) pm
      else r :: matchSeq m re s (r.start + r.len + (if r.len = 0 then 1 else 0)) (some (r.start + r.len))
  else []
termination_by s.length + 1 - pos
decreasing_by
  all_goals simp_wf
  all_goals (try split) <;> omega

theorem matchSeq_eq (m : Matcher) (re s : Str) (pos : Nat) (pm : Option Nat) (hpos : pos ≤ s.length) :
    matchSeq m re s pos pm =
      match m.at re s pos with
      | none => []
      | some r =>
        if r.len = 0 ∧ pm = some r.start then matchSeq m re s (pos + 1) pm
        else r :: matchSeq m re s (r.start + r.len + (if r.len = 0 then 1 else 0)) (some (r.start + r.len)) := by
  rw [matchSeq, dif_pos hpos]
  split <;> rename_i h <;> simp [h]

/-- matches lie in the subject, left to right, without overlap -/
def Chain (s : Str) : Nat → List MatchRes → Prop
  | _, [] => True
  | pos, r :: rest => pos ≤ r.start ∧ r.start + r.len ≤ s.length ∧ Chain s (r.start + r.len) rest

theorem Chain.mono {s : Str} {p p' : Nat} {l : List MatchRes} (hp : p ≤ p') (h : Chain s p' l) : Chain s p l := by
  cases l with
  | nil => trivial
  | cons r rest => exact ⟨Nat.le_trans hp h.1, h.2.1, h.2.2⟩

theorem matchSeq_chain (m : Matcher) (re s : Str) (pos : Nat) (pm : Option Nat) :
    Chain s pos (matchSeq m re s pos pm) := by
  fun_induction matchSeq m re s pos pm with
  | case1 pos pm hpos hm => trivial
  | case2 pos pm hpos r hm hlaw hskip ih => exact Chain.mono (Nat.le_succ _) ih
  | case3 pos pm hpos r hm hlaw hskip ih =>
    exact ⟨hlaw.1, hlaw.2, Chain.mono (Nat.le_add_right _ _) ih⟩
  | case4 pos pm hpos => trivial

/-- declarative replacement over a match sequence: copy the gaps, replace the matches chosen by `sel k`
    (k = 1-based index of the match in the sequence), keep the others -/
def render (s rpl : Str) (sel : Nat → Bool) : Nat → Nat → List MatchRes → Str
  | pos, _, [] => s.drop pos
  | pos, k, r :: rest =>
    slice s pos (r.start - pos) ++ (if sel k then expandRpl s r rpl else slice s r.start r.len) ++
      render s rpl sel (r.start + r.len) (k + 1) rest

/-- which occurrences `s` replaces: all of them (max_count = 0, the g flag) or exactly the `maxc`-th -/
def selOcc (maxc k : Nat) : Bool := maxc = 0 || k = maxc

theorem selOcc_iff (maxc k : Nat) : selOcc maxc k = true ↔ (maxc = 0 ∨ k = maxc) := by
  simp [selOcc]

/-- does `selOcc maxc` choose one of the `n` occurrences `k`, `k + 1`, ..? -/
def anyFrom (maxc k : Nat) : Nat → Bool
  | 0 => false
  | n + 1 => selOcc maxc k || anyFrom maxc (k + 1) n

theorem anyFrom_eq (maxc k n : Nat) :
    anyFrom maxc k n = true ↔ (maxc = 0 ∧ 0 < n) ∨ (k ≤ maxc ∧ maxc < k + n) := by
  induction n generalizing k with
  | zero => simp [anyFrom]
  | succ n ih => simp only [anyFrom, Bool.or_eq_true, ih, selOcc_iff]; omega

theorem anyFrom_iff (maxc k n : Nat) : anyFrom maxc k n = true ↔ ∃ j, k ≤ j ∧ j < k + n ∧ selOcc maxc j = true := by
  simp only [anyFrom_eq, selOcc_iff]
  constructor
  · rintro (⟨h0, hn⟩ | ⟨h1, h2⟩)
    · exact ⟨k, Nat.le_refl _, Nat.lt_add_of_pos_right hn, Or.inl h0⟩
    · exact ⟨maxc, h1, h2, Or.inr rfl⟩
  · rintro ⟨j, h1, h2, h3 | rfl⟩
    · exact Or.inl ⟨h3, by omega⟩
    · exact Or.inr ⟨h1, h2⟩

theorem slice_add (s : Str) (p a b : Nat) : slice s p (a + b) = slice s p a ++ slice s (p + a) b := by
  simp [slice, List.take_add]

theorem drop_eq_slice (s : Str) (p a : Nat) : s.drop p = slice s p a ++ s.drop (p + a) := by
  simp [slice]
  conv => lhs; rw [← List.take_append_drop a (s.drop p)]
  simp

theorem render_shift (s rpl : Str) (sel : Nat → Bool) (n pos k : Nat) (l : List MatchRes)
    (h : Chain s (pos + n) l) : render s rpl sel pos k l = slice s pos n ++ render s rpl sel (pos + n) k l := by
  cases l with
  | nil => simp [render]; exact drop_eq_slice s pos n
  | cons r rest =>
    simp only [render]
    have h1 : pos + n ≤ r.start := h.1
    have : r.start - pos = n + (r.start - (pos + n)) := by omega
    rw [this, slice_add]
    simp [List.append_assoc]

theorem render_none (s rpl : Str) (sel : Nat → Bool) (pos k : Nat) (l : List MatchRes)
    (h : Chain s pos l) (hs : ∀ j, k ≤ j → sel j = false) : render s rpl sel pos k l = s.drop pos := by
  induction l generalizing pos k with
  | nil => simp [render]
  | cons r rest ih =>
    simp only [render, hs k (Nat.le_refl _)]
    rw [ih _ _ h.2.2 (fun j hj => hs j (by omega))]
    have h1 : pos ≤ r.start := h.1
    have e1 : s.drop pos = slice s pos (r.start - pos) ++ s.drop r.start := by
      have := drop_eq_slice s pos (r.start - pos)
      rwa [show pos + (r.start - pos) = r.start by omega] at this
    rw [e1, drop_eq_slice s r.start r.len]
    simp [List.append_assoc]

theorem substLoop_spec (m : Matcher) (re rpl : Str) (maxc : Nat) (s : Str) (pos cnt : Nat) (pm : Option Nat) :
    substLoop m re rpl maxc s pos cnt pm =
      (render s rpl (selOcc maxc) pos (cnt + 1) (matchSeq m re s pos pm),
       anyFrom maxc (cnt + 1) (matchSeq m re s pos pm).length) := by
  fun_induction substLoop m re rpl maxc s pos cnt pm with
  | case1 pos cnt pm hpos hc hm =>
    -- no more match
    simp [matchSeq_eq _ _ _ _ _ hpos, hm, render, anyFrom]
  | case2 pos cnt pm hpos hc r hm hlaw hskip rest ih =>
    -- empty match at the end of the previous match: skip one character
    rw [matchSeq_eq _ _ _ _ _ hpos, hm]
    simp only [if_pos hskip]
    rw [render_shift s rpl _ 1 pos (cnt + 1) _ (matchSeq_chain m re s (pos + 1) pm)]
    simp [rest, ih]
  | case3 pos cnt pm hpos hc r hm hlaw hskip e adv rest skipped hocc ih =>
    -- a match that is not the wanted occurrence
    rw [matchSeq_eq _ _ _ _ _ hpos, hm]
    have hsel : selOcc maxc (cnt + 1) = false := by simp [selOcc]; omega
    simp only [if_neg hskip, render, hsel, List.length_cons, anyFrom, Bool.false_or, Bool.false_eq_true, if_false]
    rw [render_shift s rpl _ (if r.len = 0 then 1 else 0) (r.start + r.len) (cnt + 1 + 1) _ (matchSeq_chain ..)]
    have hs1 : slice s pos (r.start - pos + r.len) = slice s pos (r.start - pos) ++ slice s r.start r.len := by
      rw [slice_add]; congr 2; omega
    have hs2 : skipped = slice s (r.start + r.len) (if r.len = 0 then 1 else 0) := by
      simp only [skipped, e]; split <;> simp [slice]
    rw [hs1, hs2]
    simp [rest, ih, e, adv, List.append_assoc]
  | case4 pos cnt pm hpos hc r hm hlaw hskip e adv rest skipped hocc ih =>
    -- the wanted occurrence (or any, with g): replace
    rw [matchSeq_eq _ _ _ _ _ hpos, hm]
    have hsel : selOcc maxc (cnt + 1) = true := by simp [selOcc]; omega
    simp only [if_neg hskip, render, hsel, List.length_cons, anyFrom, Bool.true_or, if_true]
    rw [render_shift s rpl _ (if r.len = 0 then 1 else 0) (r.start + r.len) (cnt + 1 + 1) _ (matchSeq_chain ..)]
    have hs2 : skipped = slice s (r.start + r.len) (if r.len = 0 then 1 else 0) := by
      simp only [skipped, e]; split <;> simp [slice]
    rw [hs2]
    simp [rest, ih, e, adv, List.append_assoc]
  | case5 pos cnt pm hpos hc =>
    -- the occurrence has been substituted already: copy the rest
    have hs : ∀ j, cnt + 1 ≤ j → selOcc maxc j = false := by
      intro j hj; simp [selOcc]; omega
    have ha : anyFrom maxc (cnt + 1) (matchSeq m re s pos pm).length = false :=
      Bool.eq_false_iff.mpr fun h => ((anyFrom_eq ..).mp h).elim (fun h0 => hc (Or.inl h0.1)) fun h1 => hc (Or.inr h1.1)
    rw [render_none s rpl _ pos (cnt + 1) _ (matchSeq_chain m re s pos pm) hs, ha]
  | case6 pos cnt pm hpos =>
    rw [matchSeq]; simp only [hpos, dite_false]
    simp [render, anyFrom]; omega

theorem writeFile_frame (st : St) (f s : Str) :
    writeFile st f s = { st with files := (writeFile st f s).files, unspec := (writeFile st f s).unspec } := by
  unfold writeFile; split <;> rfl

theorem execCmd_subst (m : Matcher) (q cr : Bool) (st : St) (re rpl : Str) (g : Bool) (occ : Nat) (p : Bool) (w : Option Str) :
    ((if re = [] then st.lastRe else some re) = none ∧ execCmd m q (.subst re rpl g occ p w) cr st = (st, .fail)) ∨
    ∃ rex out files unspec, (if re = [] then st.lastRe else some re) = some rex ∧
      execCmd m q (.subst re rpl g occ p w) cr st =
        ({ st with ps := (doSubst m rex rpl g occ st.ps).1, lastRe := some rex, out := out, files := files, unspec := unspec,
                   substDone := st.substDone || (doSubst m rex rpl g occ st.ps).2 }, .next) := by
  cases hre : (if re = [] then st.lastRe else some re) with
  | none => exact Or.inl ⟨rfl, by simp only [execCmd, hre]⟩
  | some rex =>
    refine Or.inr ⟨rex, ?_⟩
    simp only [execCmd, hre, true_and]
    cases (doSubst m rex rpl g occ st.ps).2
    · simp only [Bool.false_eq_true, if_false, Bool.or_false]
      exact ⟨_, _, _, rfl⟩
    · simp only [if_true, Bool.or_true]
      cases w
      · cases p <;> exact ⟨_, _, _, rfl⟩
      · dsimp only
        rw [writeFile_frame]
        cases p <;> exact ⟨_, _, _, rfl⟩

/-- what a command means for the flag: a line was read or a `t` was taken (reset), an `s` ran, or nothing -/
inductive FlagEv where
  | reset
  | subst (replaced : Bool)
  | keep
deriving Repr, DecidableEq

def flagStep : Bool → FlagEv → Bool
  | _, .reset => false
  | f, .subst r => f || r
  | f, .keep => f

def flagEvent (m : Matcher) (op : Op) (st : St) : FlagEv :=
  match op with
  | .next => if st.input = [] then .keep else .reset
  | .nextAppend => if st.input = [] then .keep else .reset
  | .tbranch _ => if st.substDone then .reset else .keep
  | .subst re rpl g occ _ _ =>
    match (if re = [] then st.lastRe else some re) with
    | none => .keep
    | some rex => .subst (doSubst m rex rpl g occ st.ps).2
  | _ => .keep

/-- what one command does to the hold space, the `t` flag and the input, and where it can jump -/
structure Ctl (m : Matcher) (op : Op) (st : St) (r : St × Jump) : Prop where
  hold : op ≠ .hold → op ≠ .holdAppend → op ≠ .xchg → r.1.hold = st.hold
  flag : r.1.substDone = flagStep st.substDone (flagEvent m op st)
  input : r.1.input.length ≤ st.input.length
  goto : ∀ i, r.2 = .goto i → op = .branch i ∨ op = .tbranch i
  again : r.2 = .again → op = .deleteFirst

theorem execCmd_ctl (m : Matcher) (q cr : Bool) (op : Op) (st : St) : Ctl m op st (execCmd m q op cr st) := by
  -- proved as one conjunction, so that one `simp` per command closes all five
  suffices h : _ ∧ _ ∧ _ ∧ _ ∧ _ from ⟨h.1, h.2.1, h.2.2.1, h.2.2.2.1, h.2.2.2.2⟩
  cases op
  case subst re rpl g occ p w =>
    rcases execCmd_subst m q cr st re rpl g occ p w with ⟨hre, e⟩ | ⟨rex, _, _, _, hre, e⟩ <;>
      simp [e, flagEvent, hre, flagStep]
  case next | nextAppend =>
    simp only [execCmd, flagEvent, emitOutput]
    cases st.input <;> simp [flagStep]
  case tbranch t =>
    simp only [execCmd, flagEvent]
    cases h : st.substDone <;> simp [flagStep, h]
  case wfile f => rw [execCmd, writeFile_frame]; simp [flagEvent, flagStep]
  all_goals simp only [execCmd, flagEvent, flagStep]
  all_goals (repeat' split) <;> simp

/-- no backward jumps: every branch goes to a later command and there is no `D` (which restarts the script) -/
def forwardOnly (prog : Prog) : Prop :=
  ∀ (i : Nat) (c : Cmd), prog[i]? = some c →
    c.op ≠ .deleteFirst ∧ (∀ t, c.op = .branch t → i < t) ∧ (∀ t, c.op = .tbranch t → i < t)

theorem cycleRun_forward (m : Matcher) (prog : Prog) (q : Bool) (cap : Nat) (hf : forwardOnly prog)
    (fuel pc : Nat) (st s : St) : prog.length - pc < fuel → cycleRun m prog q cap fuel pc st ≠ .outOfFuel s := by
  fun_induction cycleRun m prog q cap fuel pc st
  case case1 => intro h; omega
  case case2 | case3 => intro _ h; cases h
  all_goals
    intro hlt
    obtain ⟨hD, hB, hT⟩ := hf _ _ ‹_›
    have hpc := (List.getElem?_eq_some_iff.mp ‹_›).1
  case case4 ih | case12 ih => exact ih (by omega)
  -- a jump goes forward by `hf`: the size bound on backward jumps does not apply (case5) and the fuel still suffices (case6)
  case case5 hex hbig =>
    exact absurd hbig.1 (Nat.not_le.mpr (((execCmd_ctl _ _ _ _ _).goto _ (congrArg Prod.snd hex)).elim (hB _) (hT _)))
  case case6 hex _ ih =>
    have hi := ((execCmd_ctl _ _ _ _ _).goto _ (congrArg Prod.snd hex)).elim (hB _) (hT _)
    exact ih (by omega)
  -- a restart of the script comes from `D` only
  case case8 hex _ | case9 hex _ _ => exact absurd ((execCmd_ctl _ _ _ _ _).again (congrArg Prod.snd hex)) hD
  all_goals nofun

theorem execLoop_forward (m : Matcher) (prog : Prog) (q : Bool) (cap fuel : Nat)
    (hf : forwardOnly prog) (hfuel : prog.length < fuel) (budget : Nat) (st : St) :
    (execLoop m prog q cap fuel budget st).status ≠ .outOfFuel := by
  fun_induction execLoop m prog q cap fuel budget st
  case case3 ih => exact ih
  case case6 hc => exact absurd hc (cycleRun_forward m prog q cap hf fuel 0 _ _ (by omega))
  all_goals simp [finish]

theorem matchA_input (m : Matcher) (a : Addr) (st st' : St) (b : Bool)
    (h : matchA m a st = some (st', b)) : st'.input = st.input := by
  revert h
  fun_cases matchA m a st
  all_goals
    intro h
    cases h
  all_goals rfl

theorem matchAddress_input (m : Matcher) (c : Cmd) (pc : Nat) (st st' : St) (sel cr : Bool)
    (h : matchAddress m c pc st = some (st', sel, cr)) : st'.input = st.input := by
  revert h
  fun_cases matchAddress m c pc st
  all_goals
    intro h
    cases h
  case case1 => rfl
  case case3 hm | case5 hm _ _ _ => exact (matchA_input _ _ _ _ _ hm :)

theorem emitOutput_input (q : Bool) (st : St) (skip : Bool) : (emitOutput q st skip).input = st.input := by
  simp [emitOutput]

theorem cycle_step_input_le {m : Matcher} {q : Bool} {c : Cmd} {pc : Nat} {st st1 st2 : St} {sel cready : Bool} {j : Jump}
    (hma : matchAddress m c pc st = some (st1, sel, cready))
    (hex : execCmd m q c.op (cready || c.neg) st1 = (st2, j)) : st2.input.length ≤ st.input.length := by
  have := (execCmd_ctl m q (cready || c.neg) c.op st1).input
  rwa [hex, matchAddress_input _ _ _ _ _ _ _ hma] at this

theorem cycleRun_input_le (m : Matcher) (prog : Prog) (q : Bool) (cap : Nat) (fuel pc : Nat) (st : St) :
    (cycleRun m prog q cap fuel pc st).st.input.length ≤ st.input.length := by
  fun_induction cycleRun m prog q cap fuel pc st
  case case1 | case2 | case3 => exact Nat.le_refl _
  case case4 ih | case6 ih | case9 ih => exact Nat.le_trans ih (cycle_step_input_le ‹_› ‹_›)
  case case12 ih => exact matchAddress_input _ _ _ _ _ _ _ ‹_› ▸ ih
  all_goals exact cycle_step_input_le ‹_› ‹_›

/-- Invariant rule for the main loop, for scripts whose every cycle runs to its end: `res` predicts the result from
    any state between two cycles; it is right where the input is used up and one cycle does not change it. -/
theorem execLoop_rule {m : Matcher} {prog : Prog} {q : Bool} {cap fuel : Nat} {α : Type} (obs : Result → α) (Inv : St → Prop) (res : St → α)
    (hnil : ∀ st, Inv st → st.input = [] → obs (finish st .ok) = res st)
    (hcyc : ∀ st l rest, Inv st → st.input = l :: rest →
      ∃ st2, cycleRun m prog q cap fuel 0 { st with input := rest, ps := l, lineno := st.lineno + 1, substDone := false }
          = .over st2 ∧ Inv (emitOutput q st2 false) ∧ res (emitOutput q st2 false) = res st)
    (budget : Nat) (st : St) (hi : Inv st) (hb : st.input.length ≤ budget) :
    obs (execLoop m prog q cap fuel budget st) = res st := by
  induction budget generalizing st with
  | zero => rw [execLoop]; exact hnil st hi (List.eq_nil_of_length_eq_zero (Nat.le_zero.mp hb))
  | succ b ih =>
    rw [execLoop]
    cases hin : st.input with
    | nil => exact hnil st hi hin
    | cons l rest =>
      obtain ⟨st2, hc, hi2, hr⟩ := hcyc st l rest hi hin
      have hle := cycleRun_input_le m prog q cap fuel 0 { st with input := rest, ps := l, lineno := st.lineno + 1, substDone := false }
      rw [hc] at hle
      simp only [hc]
      rw [← hr]
      refine ih _ hi2 ?_
      rw [emitOutput_input]
      rw [hin] at hb
      exact Nat.le_trans hle (Nat.le_of_succ_le_succ hb)

/-- "since the last reset", read off the event history most recent first -/
def sinceLast : List FlagEv → Bool → Bool
  | [], f0 => f0
  | .reset :: _, _ => false
  | .subst r :: older, f0 => r || sinceLast older f0
  | .keep :: older, f0 => sinceLast older f0

theorem sinceLast_snoc (l : List FlagEv) (e : FlagEv) (f0 : Bool) :
    sinceLast (l ++ [e]) f0 = sinceLast l (flagStep f0 e) := by
  induction l with
  | nil => cases e <;> simp [sinceLast, flagStep, Bool.or_comm]
  | cons a r ih => cases a <;> simp [sinceLast, ih]

/-- does an address (not an empty regex) hold for a pattern space -/
def addrHolds (m : Matcher) (a : Addr) (lineno : Nat) (isLast : Bool) (ps : Str) : Bool :=
  match a with
  | .none => true
  | .line n => decide (lineno = n)
  | .last => isLast
  | .re p => (m.at p (trimLine ps).1 0).isSome

/-- the evaluations a command meets when every input line starts one cycle and nothing else touches the pattern space -/
def obsOf (m : Matcher) (a1 a2 : Addr) : Nat → List Str → List RangeObs
  | _, [] => []
  | n, l :: rest =>
    ⟨n + 1, addrHolds m a1 (n + 1) rest.isEmpty l, addrHolds m a2 (n + 1) rest.isEmpty l, rest.isEmpty⟩ ::
      obsOf m a1 a2 (n + 1) rest

def selectLines : List Str → List Bool → Str
  | l :: ls, b :: bs => (if b then l else []) ++ selectLines ls bs
  | _, _ => []

/-- not the empty regex, which `matchA` reads as the last regex used (nothing to do with the printer's `PAddr.plain`, which admits it) -/
def Addr.plain : Addr → Prop
  | .re p => p ≠ []
  | _ => True

theorem matchA_holds (m : Matcher) (a : Addr) (st : St) (h : a.plain) :
    ∃ lr, matchA m a st = some ({ st with lastRe := lr }, addrHolds m a st.lineno st.input.isEmpty st.ps) := by
  cases a with
  | none | line | last => exact ⟨st.lastRe, by simp [matchA, addrHolds]⟩
  | re p =>
    have hp : p ≠ [] := h
    exact ⟨some p, by simp [matchA, addrHolds, hp]⟩

/-- the machine only looks at addr2 while the range is open and at addr1 while it is closed -/
theorem rangeStep_lazy (k : A2Kind) (act : Bool) (n : Nat) (m1 m2 last : Bool) :
    rangeStep k act ⟨n, if act then m2 else m1, if act then m2 else m1, last⟩ = rangeStep k act ⟨n, m1, m2, last⟩ := by
  cases act <;> simp [rangeStep, oneLine, passed]

theorem range_print_cycle (m : Matcher) (a1 a2 : Addr) (h1 : a1 ≠ .none) (h2 : a2 ≠ .none) (p1 : a1.plain) (p2 : a2.plain)
    (cap fuel : Nat) (st : St) (act : Bool) (hr : st.rstate = [act]) (r : Bool × Bool × Bool)
    (hstep : rangeStep a2.kind act ⟨st.lineno, addrHolds m a1 st.lineno st.input.isEmpty st.ps,
      addrHolds m a2 st.lineno st.input.isEmpty st.ps, st.input.isEmpty⟩ = r) :
    ∃ st2, cycleRun m [{ a1 := a1, a2 := a2, neg := false, op := .print }] true cap (fuel + 2) 0 st = .over st2 ∧
      st2.input = st.input ∧ st2.lineno = st.lineno ∧ st2.appq = st.appq ∧
      st2.rstate = [r.1] ∧ st2.out = (if r.2.1 then emit st.out st.ps else st.out) := by
  have hp : (if act then a2 else a1).plain := by cases act <;> simp [p1, p2]
  obtain ⟨lr, hm⟩ := matchA_holds m (if act then a2 else a1) st hp
  rw [apply_ite (addrHolds m · st.lineno st.input.isEmpty st.ps)] at hm
  rw [← rangeStep_lazy] at hstep
  rw [cycleRun]
  simp only [List.getElem?_cons_zero, matchAddress, h1, h2, if_false, hr, List.getD_cons_zero, hm, hstep]
  obtain ⟨ra, rs, rc⟩ := r
  cases rs
  · simp [cycleRun, List.set]
  · simp [cycleRun, execCmd, List.set]

theorem trimLine_term_endsNl (s : Str) (h : endsNl s = true) : endsNl (trimLine s).2 = true := by
  unfold trimLine
  simp only [h, if_true]
  split <;> simp [endsNl]

theorem doSubst_endsNl (m : Matcher) (re rpl : Str) (g : Bool) (occ : Nat) (ps : Str) (h : endsNl ps = true) :
    endsNl (doSubst m re rpl g occ ps).1 = true := by
  simp only [doSubst]
  exact endsNl_append _ _ (trimLine_term_endsNl ps h)

theorem subst_script_cycle (m : Matcher) (re rpl : Str) (g : Bool) (occ : Nat) (hre : re ≠ []) (cap fuel : Nat) (st : St) :
    ∃ st2, cycleRun m [{ op := .subst re rpl g occ false none }] false cap (fuel + 2) 0 st = .over st2 ∧
      st2.input = st.input ∧ st2.lineno = st.lineno ∧ st2.appq = st.appq ∧ st2.out = st.out ∧
      st2.ps = (doSubst m re rpl g occ st.ps).1 := by
  rw [cycleRun]
  simp only [List.getElem?_cons_zero, matchAddress, if_true]
  have hex : execCmd m false (.subst re rpl g occ false none) (true || false) st =
      ({ st with ps := (doSubst m re rpl g occ st.ps).1, lastRe := some re,
                 unspec := noteCollision st (doSubst m re rpl g occ st.ps).1,
                 substDone := st.substDone || (doSubst m re rpl g occ st.ps).2 }, .next) := by
    simp only [execCmd, hre, if_false]
    cases (doSubst m re rpl g occ st.ps).2 <;> simp
  simp only [Bool.false_eq_true, if_false, if_true, hex]
  rw [cycleRun]
  simp

/-- `s/re/rpl/flags` on any input, terminated lines or not: `emit` supplies a newline that is missing between two lines -/
theorem subst_script_out (m : Matcher) (re rpl : Str) (g : Bool) (occ : Nat) (hre : re ≠ []) (cap fuel : Nat) (input : List Str) :
    (exec m [{ op := .subst re rpl g occ false none }] false cap (fuel + 2) input).out =
      input.foldl (fun o l => emit o (doSubst m re rpl g occ l).1) [] := by
  refine execLoop_rule (·.out) (·.appq = []) (fun st => st.input.foldl (fun o l => emit o (doSubst m re rpl g occ l).1) st.out)
    ?_ ?_ _ _ rfl (Nat.le_refl _)
  · intro st _ hin
    simp [finish, hin]
  · intro st l rest ha hin
    obtain ⟨st2, hc, hi2, _, ha2, ho2, hp2⟩ := subst_script_cycle m re rpl g occ hre cap fuel
      { st with input := rest, ps := l, lineno := st.lineno + 1, substDone := false }
    simp only at hi2 ha2 ho2 hp2
    exact ⟨st2, hc, rfl, by simp [emitOutput, ha2, ha, ho2, hp2, hi2, hin]⟩

end Hawk.Sed
