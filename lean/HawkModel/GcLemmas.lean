import HawkModel.CoreLemmas
import HawkModel.Gc
/-!
# C07 — the invariant of the reference counts and its preservation

`CInv s todo` is the ledger while a cascade of element-freeer calls is under way, `Inv s` what holds between client
operations.  Of a collection, the loops up to the first one of `gc_move_reachables` are functions of the start state,
object by object; its second loop is a fixed point (`Moved`); the heap with the unreachable set marked (`heap6`) satisfies
`CInv` again, and what follows (`CInv.dispose`: finalise, free, promote) is about any such state.
-/
namespace Hawk.Gc

theorem Heap.get_lt {h : Heap} {i : Nat} {o : Obj} (hg : h.get i = some o) : i < h.length := by
  unfold Heap.get at hg
  cases hi : h[i]? with
  | none => simp [hi] at hg
  | some v => exact (List.getElem?_eq_some_iff.mp hi).1

theorem Heap.get_eq_getElem {h : Heap} {i : Id} (hi : i < h.length) : h.get i = h[i] := by
  unfold Heap.get; simp [hi]

theorem Heap.get_of_ge {h : Heap} {i : Id} (hi : h.length ≤ i) : h.get i = none := by
  unfold Heap.get; simp [hi]

theorem Heap.get_set_eq (h : Heap) (i : Id) (v : Option Obj) (hi : i < h.length) : Heap.get (h.set i v) i = v := by
  unfold Heap.get; simp [hi]

theorem Heap.get_set_ne (h : Heap) (i j : Id) (v : Option Obj) (hne : i ≠ j) : Heap.get (h.set i v) j = h.get j := by
  unfold Heap.get; simp [hne]

theorem Heap.get_set (h : Heap) (i j : Id) (v : Option Obj) (hi : i < h.length) :
    Heap.get (h.set i v) j = if i = j then v else h.get j := by
  by_cases e : i = j
  · subst e; simp [Heap.get_set_eq _ _ _ hi]
  · simp [e, Heap.get_set_ne _ _ _ _ e]

theorem Heap.get_set_some {h : Heap} {p i : Id} {v : Option Obj} {o : Obj} (hp : p < h.length)
    (hi : Heap.get (h.set p v) i = some o) : (i = p ∧ v = some o) ∨ (i ≠ p ∧ h.get i = some o) := by
  rw [Heap.get_set _ _ _ _ hp] at hi
  by_cases e : p = i
  · rw [if_pos e] at hi; exact Or.inl ⟨e.symm, hi⟩
  · rw [if_neg e] at hi; exact Or.inr ⟨Ne.symm e, hi⟩

theorem Heap.live_set {h : Heap} {p : Id} {op : Obj} (hp : h.get p = some op) (o' : Obj) (i : Id) :
    (Heap.get (h.set p (some o')) i).isSome = (h.get i).isSome := by
  rw [Heap.get_set _ _ _ _ (Heap.get_lt hp)]
  split
  · rename_i e; rw [← e, hp]; rfl
  · rfl

theorem Heap.get_upd (h : Heap) (f : Obj → Obj) (i : Id) : (h.upd f).get i = (h.get i).map f := by
  unfold Heap.get Heap.upd
  simp only [List.getElem?_map]
  cases h[i]? <;> simp

theorem Heap.length_upd (h : Heap) (f : Obj → Obj) : (h.upd f).length = h.length := by
  simp [Heap.upd]

theorem Heap.upd_upd (h : Heap) (f k : Obj → Obj) : (h.upd f).upd k = h.upd (k ∘ f) := by
  unfold Heap.upd
  rw [List.map_map]
  congr 1
  funext oo
  cases oo <;> rfl

theorem Heap.get_mem {h : Heap} {i : Id} {o : Obj} (hg : h.get i = some o) : some o ∈ h := by
  have hi := Heap.get_lt hg
  rw [Heap.get_eq_getElem hi] at hg
  rw [← hg]; exact List.getElem_mem hi

theorem Heap.mem_get {h : Heap} {o : Obj} (hm : some o ∈ h) : ∃ i, h.get i = some o := by
  obtain ⟨i, hi, e⟩ := List.getElem_of_mem hm
  exact ⟨i, by rw [Heap.get_eq_getElem hi, e]⟩

theorem Heap.get_back {h h' : Heap} {R : Id → Obj → Obj → Prop} (hnone : ∀ i, h.get i = none → h'.get i = none)
    (hsome : ∀ i o, h.get i = some o → ∃ o', h'.get i = some o' ∧ R i o o') {i : Id} {o' : Obj}
    (hi : h'.get i = some o') : ∃ o, h.get i = some o ∧ R i o o' := by
  cases ho : h.get i with
  | none => rw [hnone i ho] at hi; cases hi
  | some o =>
    obtain ⟨o'', ho'', hR⟩ := hsome i o ho
    rw [hi] at ho''; cases ho''
    exact ⟨o, rfl, hR⟩

theorem mem_idsWhere {h : Heap} {p : Obj → Bool} {i : Id} :
    i ∈ h.idsWhere p ↔ ∃ o, h.get i = some o ∧ p o = true := by
  unfold Heap.idsWhere
  simp only [List.mem_filterMap]
  constructor
  · rintro ⟨⟨oo, j⟩, hm, hf⟩
    have hj := List.mem_zipIdx_iff_getElem?.mp hm
    simp only at hj
    cases oo with
    | none => simp at hf
    | some o =>
      by_cases hp : p o
      · simp [hp] at hf; subst hf
        exact ⟨o, by unfold Heap.get; rw [hj]; rfl, hp⟩
      · simp [hp] at hf
  · rintro ⟨o, ho, hp⟩
    refine ⟨(some o, i), List.mem_zipIdx_iff_getElem?.mpr ?_, by simp [hp]⟩
    have hi := Heap.get_lt ho
    rw [Heap.get_eq_getElem hi] at ho
    simp [hi, ho]

theorem Heap.get_append_left (h : Heap) (v : Option Obj) (i : Id) (hi : i < h.length) : Heap.get (h ++ [v]) i = h.get i := by
  unfold Heap.get; simp [List.getElem?_append, hi]

theorem Heap.get_append_self (h : Heap) (v : Option Obj) : Heap.get (h ++ [v]) h.length = v := by
  unfold Heap.get; simp

theorem Heap.get_append_some {h : Heap} {v : Option Obj} {i : Nat} {o : Obj} (hi : Heap.get (h ++ [v]) i = some o) :
    (i < h.length ∧ h.get i = some o) ∨ (i = h.length ∧ v = some o) := by
  by_cases h1 : i < h.length
  · rw [Heap.get_append_left _ _ _ h1] at hi
    exact Or.inl ⟨h1, hi⟩
  · by_cases h2 : i = h.length
    · subst h2
      rw [Heap.get_append_self] at hi
      exact Or.inr ⟨rfl, hi⟩
    · rw [Heap.get_of_ge (by simp only [List.length_append, List.length_singleton]; omega)] at hi
      cases hi

def cnt (x : Id) : Option Obj → Nat
  | some o => o.children.count x
  | none => 0

/-- number of container elements, over all live containers, that are `x` -/
def inDeg (h : Heap) (x : Id) : Nat := (h.map (cnt x)).sum

theorem inDeg_set (h : Heap) (i : Id) (v : Option Obj) (x : Id) (hi : i < h.length) :
    inDeg (h.set i v) x + cnt x (h.get i) = inDeg h x + cnt x v := by
  unfold inDeg
  rw [Heap.get_eq_getElem hi]
  exact List.sum_map_set (cnt x) hi v

theorem inDeg_append (h : Heap) (v : Option Obj) (x : Id) : inDeg (h ++ [v]) x = inDeg h x + cnt x v := by
  simp [inDeg, List.sum_append]

def inDegFrom (h : Heap) (p : Obj → Bool) (x : Id) : Nat :=
  (h.map fun oo => match oo with | some o => if p o then o.children.count x else 0 | none => 0).sum

theorem inDegFrom_upd (h : Heap) (f : Obj → Obj) (hf : ∀ o, (f o).children = o.children) (p : Obj → Bool) (x : Id) :
    inDegFrom (h.upd f) p x = inDegFrom h (fun o => p (f o)) x := by
  unfold inDegFrom Heap.upd
  rw [List.map_map]
  congr 1
  apply List.map_congr_left
  intro oo _
  cases oo <;> simp [hf]

theorem inDeg_upd (h : Heap) (f : Obj → Obj) (hf : ∀ o, (f o).children = o.children) (x : Id) :
    inDeg (h.upd f) x = inDeg h x := inDegFrom_upd h f hf (fun _ => true) x

theorem count_edgesWhere (h : Heap) (p : Obj → Bool) (x : Id) :
    (h.edgesWhere p).count x = inDegFrom h p x := by
  unfold Heap.edgesWhere inDegFrom
  rw [List.count_flatMap]
  congr 1
  apply List.map_congr_left
  intro oo _
  cases oo with
  | none => simp
  | some o => by_cases hp : p o <;> simp [hp]

theorem inDeg_split (h : Heap) (p : Obj → Bool) (x : Id) :
    inDeg h x = inDegFrom h p x + inDegFrom h (fun o => !p o) x := by
  unfold inDeg inDegFrom
  induction h with
  | nil => simp
  | cons a t ih =>
    simp only [List.map_cons, List.sum_cons, ih]
    cases a with
    | none => simp [cnt]
    | some o => by_cases hp : p o <;> simp [hp, cnt] <;> omega

theorem mem_edgesWhere {h : Heap} {p : Obj → Bool} {x : Id} :
    x ∈ h.edgesWhere p ↔ ∃ i o, h.get i = some o ∧ p o = true ∧ x ∈ o.children := by
  unfold Heap.edgesWhere
  rw [List.mem_flatMap]
  constructor
  · rintro ⟨oo, hoo, hm⟩
    cases oo with
    | none => simp at hm
    | some o =>
      by_cases hp : p o
      · obtain ⟨i, hi⟩ := Heap.mem_get hoo
        exact ⟨i, o, hi, hp, by simpa [hp] using hm⟩
      · simp [hp] at hm
  · rintro ⟨i, o, hg, hp, hx⟩
    exact ⟨some o, Heap.get_mem hg, by simp [hp, hx]⟩

theorem inDegFrom_pos {h : Heap} {p : Obj → Bool} {x : Id} :
    0 < inDegFrom h p x ↔ ∃ i o, h.get i = some o ∧ p o = true ∧ x ∈ o.children := by
  rw [← count_edgesWhere, List.count_pos_iff, mem_edgesWhere]

theorem inDeg_eq_inDegFrom (h : Heap) (x : Id) : inDeg h x = inDegFrom h (fun _ => true) x := by
  rfl

theorem inDeg_pos {h : Heap} {x : Id} : 0 < inDeg h x ↔ ∃ i o, h.get i = some o ∧ x ∈ o.children := by
  rw [inDeg_eq_inDegFrom, inDegFrom_pos]
  simp

theorem inDegFrom_congr (h h' : Heap) (p p' : Obj → Bool) (x : Id) (hl : h'.length = h.length)
    (hsame : ∀ i, match h.get i, h'.get i with
      | some o, some o' => o'.children = o.children ∧ p' o' = p o
      | none, none => True
      | _, _ => False) : inDegFrom h' p' x = inDegFrom h p x := by
  unfold inDegFrom
  congr 1
  apply List.ext_getElem
  · simp [hl]
  · intro n h1 h2
    simp only [List.length_map] at h1 h2
    simp only [List.getElem_map]
    have := hsame n
    rw [Heap.get_eq_getElem h2, Heap.get_eq_getElem h1] at this
    cases e1 : h[n] <;> cases e2 : h'[n] <;> simp [e1, e2] at this ⊢
    rw [this.1, this.2]

/-- how many references to `x` the ledger knows of: holders, container elements, element-freeer calls owed -/
def held (s : St) (todo : List Id) (x : Id) : Nat := s.roots.count x + inDeg s.heap x + todo.count x

theorem held_pos {s : St} {todo : List Id} {x : Id} :
    0 < held s todo x ↔ x ∈ s.roots ∨ x ∈ todo ∨ ∃ i o, s.heap.get i = some o ∧ x ∈ o.children := by
  rw [← List.count_pos_iff, ← List.count_pos_iff, ← inDeg_pos]
  unfold held
  omega

/-! The invariant carried through a cascade of element-freeer calls.
`todo` = element-freeer calls still owed (an edge has already been removed for each).
Objects whose `gc_refs` is `GCH_UNREACHABLE` ("marked") are the unreachable set of a running collection;
their own counts are not tracked (they are about to be freed wholesale). -/

structure CInv (s : St) (todo : List Id) : Prop where
  nofault : s.fault = false
  ledger : ∀ i o, s.heap.get i = some o → o.gcRefs ≠ GCH_UNREACHABLE →
    o.refs = s.roots.count i + inDeg s.heap i + todo.count i
  pos : ∀ i o, s.heap.get i = some o → o.gcRefs ≠ GCH_UNREACHABLE → 0 < o.refs
  closed : ∀ i o, s.heap.get i = some o → ∀ c ∈ o.children, (s.heap.get c).isSome
  todoLive : ∀ c ∈ todo, (s.heap.get c).isSome
  rootsLive : ∀ r ∈ s.roots, ∃ o, s.heap.get r = some o ∧ o.gcRefs ≠ GCH_UNREACHABLE
  noInto : ∀ i o, s.heap.get i = some o → o.gcRefs ≠ GCH_UNREACHABLE →
    ∀ c ∈ o.children, ∀ oc, s.heap.get c = some oc → oc.gcRefs ≠ GCH_UNREACHABLE

theorem CInv.congr {s s' : St} {todo : List Id} (h : CInv s todo) (hh : s'.heap = s.heap) (hr : s'.roots = s.roots)
    (hf : s'.fault = s.fault) : CInv s' todo := by
  constructor
  · rw [hf]; exact h.nofault
  · rw [hh, hr]; exact h.ledger
  · rw [hh]; exact h.pos
  · rw [hh]; exact h.closed
  · rw [hh]; exact h.todoLive
  · rw [hh, hr]; exact h.rootsLive
  · rw [hh]; exact h.noInto

/-- `closed`, `todoLive` and the first half of `rootsLive` say one thing: what is held is live -/
theorem CInv.live_of_held {s : St} {todo : List Id} (h : CInv s todo) {x : Id} (hx : 0 < held s todo x) :
    (s.heap.get x).isSome := by
  rcases held_pos.mp hx with hr | ht | ⟨i, o, hi, hm⟩
  · obtain ⟨o, ho, _⟩ := h.rootsLive x hr
    rw [ho]; rfl
  · exact h.todoLive x ht
  · exact h.closed i o hi x hm

/-- `noInto` and the second half of `rootsLive`: a marked container has no holder and is an element of marked
containers only -/
theorem CInv.marked_free {s : St} {todo : List Id} (h : CInv s todo) {x : Id} {ox : Obj} (hx : s.heap.get x = some ox)
    (hm : ox.gcRefs = GCH_UNREACHABLE) :
    x ∉ s.roots ∧ ∀ i o, s.heap.get i = some o → o.gcRefs ≠ GCH_UNREACHABLE → x ∉ o.children := by
  refine ⟨fun hr => ?_, fun i o hi hu hc => h.noInto i o hi hu x hc ox hx hm⟩
  obtain ⟨o, ho, hu⟩ := h.rootsLive x hr
  rw [hx] at ho; cases ho; exact hu hm

/-- How `CInv` is established again after a write: the proof says how `held` has moved (its `hheld`) and reads
these three clauses off the invariant before the write. -/
theorem CInv.of_held {s : St} {todo : List Id} (hf : s.fault = false)
    (hledger : ∀ i o, s.heap.get i = some o → o.gcRefs ≠ GCH_UNREACHABLE → o.refs = held s todo i ∧ 0 < o.refs)
    (hlive : ∀ x, 0 < held s todo x → (s.heap.get x).isSome)
    (hmark : ∀ x ox, s.heap.get x = some ox → ox.gcRefs = GCH_UNREACHABLE →
      x ∉ s.roots ∧ ∀ i o, s.heap.get i = some o → o.gcRefs ≠ GCH_UNREACHABLE → x ∉ o.children) : CInv s todo := by
  refine ⟨hf, fun i o hi hu => (hledger i o hi hu).1, fun i o hi hu => (hledger i o hi hu).2,
    fun i o hi c hc => hlive c (held_pos.mpr (.inr (.inr ⟨i, o, hi, hc⟩))),
    fun c hc => hlive c (held_pos.mpr (.inr (.inl hc))), fun r hr => ?_,
    fun i o hi hu c hc oc hoc hm => (hmark c oc hoc hm).2 i o hi hu hc⟩
  obtain ⟨o, ho⟩ := Option.isSome_iff_exists.mp (hlive r (held_pos.mpr (.inl hr)))
  exact ⟨o, ho, fun hm => (hmark r o ho hm).1 hr⟩

/-- One object is rewritten in place, its mark kept.  The ledger stays balanced when what the new object and the
new `todo` hold of every `x` is what the old ones held, and the count of `p` moves with what is owed to `p`. -/
theorem CInv.set {s : St} {todo : List Id} (h : CInv s todo) {p : Id} {op : Obj} (hp : s.heap.get p = some op)
    (op' : Obj) (todo' : List Id) (hg : op'.gcRefs = op.gcRefs)
    (hrefs : op'.refs + op.children.count p + todo.count p = op.refs + op'.children.count p + todo'.count p)
    (hbal : ∀ x, x ≠ p → op.children.count x + todo.count x = op'.children.count x + todo'.count x)
    (hpos : op.gcRefs ≠ GCH_UNREACHABLE → 0 < op'.refs)
    (hnew : ∀ x ∈ op'.children, x ∉ op.children → ∀ ox, s.heap.get x = some ox → ox.gcRefs ≠ GCH_UNREACHABLE) :
    CInv { s with heap := s.heap.set p (some op') } todo' := by
  have hplt := Heap.get_lt hp
  have hup : op'.gcRefs ≠ GCH_UNREACHABLE → op.gcRefs ≠ GCH_UNREACHABLE := fun hu e => hu (hg.trans e)
  have hget : ∀ i o', Heap.get (s.heap.set p (some op')) i = some o' →
      (i = p ∧ o' = op') ∨ (i ≠ p ∧ s.heap.get i = some o') :=
    fun i o' hi => (Heap.get_set_some hplt hi).imp_left fun ⟨e, ev⟩ => ⟨e, (Option.some.inj ev).symm⟩
  have hheld : ∀ x, held { s with heap := s.heap.set p (some op') } todo' x + op.children.count x + todo.count x =
      held s todo x + op'.children.count x + todo'.count x := by
    intro x
    have := inDeg_set s.heap p (some op') x hplt
    rw [hp] at this
    simp only [cnt] at this
    simp only [held]
    omega
  refine CInv.of_held (s := { s with heap := s.heap.set p (some op') }) h.nofault ?_ ?_ ?_
  · intro i o' hi hu
    have hd := hheld i
    simp only [held] at hd ⊢
    rcases hget i o' hi with ⟨rfl, rfl⟩ | ⟨hne, hi'⟩
    · have := h.ledger i op hp (hup hu)
      exact ⟨by omega, hpos (hup hu)⟩
    · have := h.ledger i o' hi' hu
      have := hbal i hne
      exact ⟨by omega, h.pos i o' hi' hu⟩
  · intro x hx
    apply (Heap.live_set hp op' x).trans
    by_cases e : x = p
    · rw [e, hp]; rfl
    · have := hheld x
      have := hbal x e
      exact h.live_of_held (todo := todo) (by omega)
  · intro x ox' hx hmk
    obtain ⟨ox, hxo, hmo⟩ : ∃ ox, s.heap.get x = some ox ∧ ox.gcRefs = GCH_UNREACHABLE := by
      rcases hget x ox' hx with ⟨rfl, rfl⟩ | ⟨_, hx'⟩
      · exact ⟨op, hp, hg.symm.trans hmk⟩
      · exact ⟨ox', hx', hmk⟩
    obtain ⟨hr, hch⟩ := h.marked_free hxo hmo
    refine ⟨hr, fun i o' hi hu hc => ?_⟩
    rcases hget i o' hi with ⟨rfl, rfl⟩ | ⟨_, hi'⟩
    · by_cases hm : x ∈ op.children
      · exact hch i op hp (hup hu) hm
      · exact hnew x hc hm ox hxo hmo
    · exact hch i o' hi' hu hc

/-- `hawk_rtx_refupval` ahead of the reference it stands for: one more element-freeer call is owed on `c` -/
theorem CInv.refup {s : St} {todo : List Id} (h : CInv s todo) {c : Id} {oc : Obj} (hc : s.heap.get c = some oc) :
    CInv { s with heap := s.heap.set c (some { oc with refs := oc.refs + 1 }) } (c :: todo) :=
  h.set hc _ _ (hg := rfl) (hrefs := by simp only [List.count_cons_self]; omega)
    (hbal := fun x hx => by rw [List.count_cons_of_ne (Ne.symm hx)]) (hpos := fun _ => Nat.succ_pos _)
    (hnew := fun x hx hnx => absurd hx hnx)

theorem CInv.reroot {s : St} {todo : List Id} (h : CInv s todo) (roots' todo' : List Id)
    (hbal : ∀ x, s.roots.count x + todo.count x = roots'.count x + todo'.count x)
    (hun : ∀ r ∈ roots', r ∉ s.roots → ∀ o, s.heap.get r = some o → o.gcRefs ≠ GCH_UNREACHABLE) :
    CInv { s with roots := roots' } todo' := by
  have hheld : ∀ x, held { s with roots := roots' } todo' x = held s todo x := by
    intro x
    have := hbal x
    simp only [held]
    omega
  refine CInv.of_held (s := { s with roots := roots' }) h.nofault ?_ ?_ ?_
  · intro i o hi hu
    rw [hheld]
    exact ⟨h.ledger i o hi hu, h.pos i o hi hu⟩
  · intro x hx
    rw [hheld] at hx
    exact h.live_of_held hx
  · intro x ox hx hmk
    obtain ⟨hr, hch⟩ := h.marked_free hx hmk
    exact ⟨fun hr' => hun x hr' hr ox hx hmk, hch⟩

theorem CInv.free {s : St} {c : Id} {rest : List Id} {oc : Obj} (h : CInv s (c :: rest)) (hc : s.heap.get c = some oc)
    (hm : oc.gcRefs ≠ GCH_UNREACHABLE) (h1 : oc.refs = 1) :
    CInv { s with heap := s.heap.set c none } (oc.children ++ rest) := by
  have hclt := Heap.get_lt hc
  have hget : ∀ i o, Heap.get (s.heap.set c none) i = some o → i ≠ c ∧ s.heap.get i = some o :=
    fun i o hi => (Heap.get_set_some hclt hi).resolve_left fun h => nomatch h.2
  -- the one reference to `c` was the call being served; what `c` held of `x` becomes owed to `x`
  have hheld : ∀ x, held { s with heap := s.heap.set c none } (oc.children ++ rest) x =
      if x = c then 0 else held s (c :: rest) x := by
    intro x
    have hd := inDeg_set s.heap c none x hclt
    rw [hc] at hd
    simp only [cnt] at hd
    unfold held
    simp only [List.count_append]
    by_cases e : x = c
    · subst e
      have hl := h.ledger x oc hc hm
      rw [h1, List.count_cons_self] at hl
      rw [if_pos rfl]; omega
    · rw [if_neg e, List.count_cons_of_ne (Ne.symm e)]; omega
  refine CInv.of_held (s := { s with heap := s.heap.set c none }) h.nofault ?_ ?_ ?_
  · intro i o hi hu
    obtain ⟨hne, hi'⟩ := hget i o hi
    rw [hheld, if_neg hne]
    exact ⟨h.ledger i o hi' hu, h.pos i o hi' hu⟩
  · intro x hx
    rw [hheld] at hx
    by_cases e : x = c
    · rw [if_pos e] at hx; cases hx
    · rw [if_neg e] at hx
      exact (congrArg Option.isSome (Heap.get_set_ne _ _ _ _ (Ne.symm e))).trans (h.live_of_held hx)
  · intro x ox hx hmk
    obtain ⟨hr, hch⟩ := h.marked_free (hget x ox hx).2 hmk
    exact ⟨hr, fun i o hi hu => hch i o (hget i o hi).2 hu⟩

/-- the element freeer on a marked element returns at once: its call leaves `todo`, and no count knew of it -/
theorem CInv.skip {s : St} {c : Id} {rest : List Id} {oc : Obj} (h : CInv s (c :: rest)) (hc : s.heap.get c = some oc)
    (hm : oc.gcRefs = GCH_UNREACHABLE) : CInv s rest := by
  refine { h with ledger := ?_, todoLive := fun x hx => h.todoLive x (List.mem_cons_of_mem _ hx) }
  intro i o hi hu
  have hne : c ≠ i := by intro e; subst e; rw [hc] at hi; cases hi; exact hu hm
  have := h.ledger i o hi hu
  rwa [List.count_cons_of_ne hne] at this

theorem cascade_inv (s : St) (todo : List Id) (h : CInv s todo) : CInv (cascade s todo) [] := by
  fun_induction cascade s todo with
  | case1 s => exact h
  | case2 s c rest hc =>
    have := h.todoLive c List.mem_cons_self
    rw [hc] at this; cases this
  | case3 s c rest oc hc hm ih => exact ih (h.skip hc hm)
  | case4 s c rest oc hc hm hz =>
    have := h.pos c oc hc hm
    omega
  | case5 s c rest oc hc hm hz h1 ih => exact ih (h.free hc hm h1)
  | case6 s c rest oc hc hm hz h1 ih =>
    apply ih
    exact h.set hc _ rest (hg := rfl) (hrefs := by simp only [List.count_cons_self]; omega)
      (hbal := fun x hx => by rw [List.count_cons_of_ne (Ne.symm hx)]) (hpos := fun _ => by simp only; omega)
      (hnew := fun x hx hnx => absurd hx hnx)

/-- all that the refcount machinery and the finalisers write is the heap, which keeps its length, and the fault flag -/
def SameFrame (s s' : St) : Prop := ∃ h f, s' = { s with heap := h, fault := f } ∧ h.length = s.heap.length

theorem SameFrame.refl (s : St) : SameFrame s s := ⟨s.heap, s.fault, rfl, rfl⟩

theorem SameFrame.trans {s s' s'' : St} (h1 : SameFrame s s') (h2 : SameFrame s' s'') : SameFrame s s'' := by
  obtain ⟨h, f, rfl, hl⟩ := h1
  obtain ⟨h', f', rfl, hl'⟩ := h2
  exact ⟨h', f', rfl, hl'.trans hl⟩

theorem SameFrame.of_heap (s : St) (h : Heap) (hl : h.length = s.heap.length) : SameFrame s { s with heap := h } :=
  ⟨h, s.fault, rfl, hl⟩

theorem SameFrame.roots {s s' : St} (h : SameFrame s s') : s'.roots = s.roots := by
  obtain ⟨_, _, rfl, _⟩ := h; rfl

theorem SameFrame.legacy {s s' : St} (h : SameFrame s s') : s'.legacy = s.legacy := by
  obtain ⟨_, _, rfl, _⟩ := h; rfl

theorem SameFrame.length {s s' : St} (h : SameFrame s s') : s'.heap.length = s.heap.length := by
  obtain ⟨_, _, rfl, hl⟩ := h; exact hl

theorem cascade_frame (s : St) (todo : List Id) : SameFrame s (cascade s todo) := by
  fun_induction cascade s todo with
  | case1 s => exact .refl s
  | case2 s c rest hc | case4 s c rest oc hc hm hz => exact ⟨s.heap, true, rfl, rfl⟩
  | case3 s c rest oc hc hm ih => exact ih
  | case5 s c rest oc hc hm hz h1 ih | case6 s c rest oc hc hm hz h1 ih =>
    exact (SameFrame.of_heap s _ (List.length_set ..)).trans ih

theorem cascade_get (s : St) (todo : List Id) (i : Id) (o' : Obj)
    (h : (cascade s todo).heap.get i = some o') :
    ∃ o, s.heap.get i = some o ∧ o'.gcRefs = o.gcRefs ∧ o'.gen = o.gen ∧ o'.children = o.children := by
  fun_induction cascade s todo with
  | case1 s | case2 s c rest hc | case4 s c rest oc hc hm hz => exact ⟨o', h, rfl, rfl, rfl⟩
  | case3 s c rest oc hc hm ih => exact ih h
  | case5 s c rest oc hc hm hz h1 ih =>
    obtain ⟨o, ho, hrest⟩ := ih h
    rcases Heap.get_set_some (Heap.get_lt hc) ho with ⟨_, ev⟩ | ⟨_, ho'⟩
    · cases ev
    · exact ⟨o, ho', hrest⟩
  | case6 s c rest oc hc hm hz h1 ih =>
    obtain ⟨o, ho, h1', h2', h3'⟩ := ih h
    rcases Heap.get_set_some (Heap.get_lt hc) ho with ⟨rfl, ev⟩ | ⟨_, ho'⟩
    · cases ev
      exact ⟨oc, hc, h1', h2', h3'⟩
    · exact ⟨o, ho', h1', h2', h3'⟩

theorem cascade_freed (s : St) (todo : List Id) (i : Id) (h : s.heap.get i = none) :
    (cascade s todo).heap.get i = none := by
  cases hc : (cascade s todo).heap.get i with
  | none => rfl
  | some o' =>
    obtain ⟨o, ho, _⟩ := cascade_get s todo i o' hc
    rw [h] at ho; cases ho

theorem cascade_marked (s : St) (todo : List Id) (i : Id) (o : Obj)
    (h : s.heap.get i = some o) (hm : o.gcRefs = GCH_UNREACHABLE) :
    (cascade s todo).heap.get i = some o := by
  fun_induction cascade s todo with
  | case1 s | case2 s c rest hc | case4 s c rest oc hc hm' hz => exact h
  | case3 s c rest oc hc hm' ih => exact ih h
  | case5 s c rest oc hc hm' hz h1 ih | case6 s c rest oc hc hm' hz h1 ih =>
    apply ih
    have hne : c ≠ i := by intro e; subst e; rw [hc] at h; cases h; exact hm' hm
    simp only
    rw [Heap.get_set_ne _ _ _ _ hne]; exact h

theorem cascade_nil (s : St) : cascade s [] = s := by rw [cascade]

theorem cascade_cons (s : St) (c : Id) (rest : List Id) :
    cascade s (c :: rest) = match s.heap.get c with
      | none => { s with fault := true }
      | some oc =>
        if oc.gcRefs = GCH_UNREACHABLE then cascade s rest
        else if oc.refs = 0 then { s with fault := true }
        else if oc.refs = 1 then cascade { s with heap := s.heap.set c none } (oc.children ++ rest)
        else cascade { s with heap := s.heap.set c (some { oc with refs := oc.refs - 1 }) } rest := by
  rw [cascade]
  split
  · rename_i hn; simp [hn]
  · rename_i oc hoc; simp [hoc]

theorem refdown_eq_cascade (s : St) (o : Id) (h : ∀ ob, s.heap.get o = some ob → ob.gcRefs ≠ GCH_UNREACHABLE) :
    refdown s o = cascade s [o] := by
  unfold refdown
  rw [cascade_cons]
  cases hg : s.heap.get o with
  | none => rfl
  | some ob => simp only [h ob hg, if_false, List.append_nil, cascade_nil]

theorem refdown_self (s : St) (o : Id) (ob : Obj) (h : s.heap.get o = some ob) (hpos : 0 < ob.refs) :
    (refdown s o).heap.get o = if ob.refs = 1 then none else some { ob with refs := ob.refs - 1 } := by
  unfold refdown
  rw [h]
  simp only [Nat.ne_of_gt hpos, if_false]
  by_cases h1 : ob.refs = 1
  · rw [if_pos h1, if_pos h1]
    exact cascade_freed _ _ _ (Heap.get_set_eq _ _ _ (Heap.get_lt h))
  · rw [if_neg h1, if_neg h1]
    exact Heap.get_set_eq _ _ _ (Heap.get_lt h)

theorem refdown_frame (s : St) (o : Id) : SameFrame s (refdown s o) := by
  unfold refdown
  split
  · exact ⟨s.heap, true, rfl, rfl⟩
  · split
    · exact ⟨s.heap, true, rfl, rfl⟩
    · split
      · exact (SameFrame.of_heap s _ (List.length_set ..)).trans (cascade_frame _ _)
      · exact SameFrame.of_heap s _ (List.length_set ..)

theorem finalizePreserve_frame (s : St) (u : Id) : SameFrame s (finalizePreserve s u) := by
  unfold finalizePreserve
  split
  · exact (SameFrame.of_heap s _ (List.length_set ..)).trans (cascade_frame _ _)
  · exact .refl s

theorem finalizeFold_frame (U : List Id) (s : St) : SameFrame s (U.foldl finalizePreserve s) := by
  induction U generalizing s with
  | nil => exact .refl s
  | cons u r ih => exact (finalizePreserve_frame s u).trans (ih _)

/-- between collections an object either sits in generation 0 with the `gc_refs` it was allocated with
(calloc: 0), or in an older generation with the `GCH_MOVED` left by the collection it survived -/
def GcOk (o : Obj) : Prop := (o.gcRefs = GCH_MOVED ∧ 1 ≤ o.gen ∧ o.gen ≤ 2) ∨ (o.gcRefs = 0 ∧ o.gen = 0)

theorem GcOk.unmarked {o : Obj} (h : GcOk o) : o.gcRefs ≠ GCH_UNREACHABLE := by
  rcases h with ⟨h, _⟩ | ⟨h, _⟩ <;> rw [h] <;> decide

theorem GcOk.gen_le {o : Obj} (h : GcOk o) : o.gen ≤ 2 := by
  rcases h with ⟨_, _, h2⟩ | ⟨_, h0⟩ <;> omega

theorem GcOk.moved_of_pos {o : Obj} (h : GcOk o) (hp : 0 < o.gen) : o.gcRefs = GCH_MOVED := by
  rcases h with ⟨hm, _⟩ | ⟨_, h0⟩
  · exact hm
  · omega

theorem GcOk.congr {o o' : Obj} (h : GcOk o) (hg : o'.gcRefs = o.gcRefs) (hgen : o'.gen = o.gen) : GcOk o' := by
  unfold GcOk at *
  rw [hg, hgen]; exact h

theorem gcok_set {h : Heap} (hg : ∀ i o, h.get i = some o → GcOk o) {p : Id} {op op' : Obj} (hp : h.get p = some op)
    (hgc : op'.gcRefs = op.gcRefs) (hgen : op'.gen = op.gen) :
    ∀ i o, Heap.get (h.set p (some op')) i = some o → GcOk o := by
  intro i o hi
  rcases Heap.get_set_some (Heap.get_lt hp) hi with ⟨_, ev⟩ | ⟨_, hi'⟩
  · cases ev; exact (hg p op hp).congr hgc hgen
  · exact hg i o hi'

/-- `o` can be reached from an external holder through container elements -/
inductive Reach (s : St) : Id → Prop where
  | root {r : Id} : r ∈ s.roots → Reach s r
  | step {p c : Id} {ob : Obj} : Reach s p → s.heap.get p = some ob → c ∈ ob.children → Reach s c

theorem no_reach_of_no_roots {s : St} (h : s.roots = []) {o : Id} (hr : Reach s o) : False := by
  induction hr with
  | root hm => rw [h] at hm; cases hm
  | step _ _ _ ih => exact ih

/-- reachable from an external holder or from an element of a container of a generation older than `g`
(the containers a collection of generation `g` does not look at), through container elements -/
inductive ReachG (s : St) (g : Nat) : Id → Prop where
  | root {r : Id} : r ∈ s.roots → ReachG s g r
  | old {p c : Id} {ob : Obj} : s.heap.get p = some ob → g < ob.gen → c ∈ ob.children → ReachG s g c
  | step {p c : Id} {ob : Obj} : ReachG s g p → s.heap.get p = some ob → c ∈ ob.children → ReachG s g c

theorem ReachG.reach {s : St} {g : Nat} {q : Id} (h : ReachG s g q)
    (hold : ∀ p ob, s.heap.get p = some ob → g < ob.gen → Reach s p) : Reach s q := by
  induction h with
  | root hm => exact Reach.root hm
  | old hp hlt hc => exact Reach.step (hold _ _ hp hlt) hp hc
  | step _ hp hc ih => exact Reach.step ih hp hc

theorem reachG_reach {s : St} {g : Nat} (hall : ∀ i o, s.heap.get i = some o → o.gen ≤ g) {q : Id}
    (h : ReachG s g q) : Reach s q :=
  h.reach fun p ob hp hlt => absurd (hall p ob hp) (Nat.not_le.mpr hlt)

structure Inv (s : St) : Prop where
  c : CInv s []
  gc : ∀ i o, s.heap.get i = some o → GcOk o
  legacy : s.legacy = false

theorem Inv.unmarked {s : St} (h : Inv s) {i : Id} {o : Obj} (hi : s.heap.get i = some o) :
    o.gcRefs ≠ GCH_UNREACHABLE := (h.gc i o hi).unmarked

theorem Inv.ledger {s : St} (h : Inv s) {i : Id} {o : Obj} (hi : s.heap.get i = some o) :
    o.refs = s.roots.count i + inDeg s.heap i := by
  simpa using h.c.ledger i o hi (h.unmarked hi)

theorem Inv.held_by {s : St} (h : Inv s) {o : Id} {ob : Obj} (ho : s.heap.get o = some ob) :
    0 < ob.refs ∧ (o ∈ s.roots ∨ ∃ p op, s.heap.get p = some op ∧ o ∈ op.children) := by
  have hpos := h.c.pos o ob ho (h.unmarked ho)
  have hl := h.c.ledger o ob ho (h.unmarked ho)
  exact ⟨hpos, (held_pos (todo := []).mp (show 0 < held s [] o by unfold held; omega)).imp_right
    fun hr => hr.resolve_left List.not_mem_nil⟩

theorem Inv.holder_live {s : St} (h : Inv s) {i : Id} (hr : i ∈ s.roots) :
    ∃ o, s.heap.get i = some o ∧ s.roots.count i ≤ o.refs ∧ 0 < o.refs := by
  obtain ⟨o, ho, _⟩ := h.c.rootsLive i hr
  have := h.ledger ho
  exact ⟨o, ho, by omega, (h.held_by ho).1⟩

theorem Inv.garbage_cyclic {s : St} (h : Inv s) {o : Id} {ob : Obj} (ho : s.heap.get o = some ob) (hu : ¬ Reach s o) :
    ∃ p op, s.heap.get p = some op ∧ ¬ Reach s p ∧ o ∈ op.children := by
  rcases (h.held_by ho).2 with hr | ⟨p, op, hp, hm⟩
  · exact absurd (Reach.root hr) hu
  · exact ⟨p, op, hp, fun hrp => hu (Reach.step hrp hp hm), hm⟩

theorem reach_survives {s s' : St} (hinv' : Inv s') (hroots : s'.roots = s.roots)
    (hframe : ∀ i o', s'.heap.get i = some o' → ∃ o, s.heap.get i = some o ∧ o'.children = o.children)
    {p : Id} (hr : Reach s p) : (s'.heap.get p).isSome ∧ Reach s' p := by
  induction hr with
  | @root r hm =>
    have hm' : r ∈ s'.roots := by rw [hroots]; exact hm
    obtain ⟨ob, hob, _⟩ := hinv'.c.rootsLive _ hm'
    exact ⟨by simp [hob], Reach.root hm'⟩
  | @step q c ob _ hq hc ih =>
    obtain ⟨hl, hr'⟩ := ih
    obtain ⟨oq', hoq'⟩ := Option.isSome_iff_exists.mp hl
    obtain ⟨o, ho, hch⟩ := hframe _ oq' hoq'
    rw [hq] at ho; cases ho
    have hc' : c ∈ oq'.children := by rw [hch]; exact hc
    exact ⟨hinv'.c.closed _ oq' hoq' _ hc', Reach.step hr' hoq' hc'⟩

theorem reach_live {s : St} (h : Inv s) {o : Id} (hr : Reach s o) : (s.heap.get o).isSome :=
  (reach_survives h rfl (fun _ o' hi => ⟨o', hi, rfl⟩) hr).1

theorem inv_of_cascade (s : St) (todo : List Id) (hc : CInv s todo)
    (hg : ∀ i o, s.heap.get i = some o → GcOk o) (hl : s.legacy = false) : Inv (cascade s todo) := by
  refine ⟨cascade_inv s todo hc, ?_, (cascade_frame s todo).legacy.trans hl⟩
  intro i o' hi
  obtain ⟨o, ho, h1, h2, _⟩ := cascade_get s todo i o' hi
  exact (hg i o ho).congr h1 h2

theorem inv_init : Inv {} := by
  refine ⟨⟨rfl, ?_, ?_, ?_, ?_, ?_, ?_⟩, ?_, rfl⟩ <;> simp [Heap.get]

theorem refup_some {h : Heap} {c : Id} {oc : Obj} (hc : h.get c = some oc) :
    refup h c = h.set c (some { oc with refs := oc.refs + 1 }) := by
  unfold refup; rw [hc]

theorem inv_link (s : St) (p c : Id) (s' : St) (h : Inv s) (hs : link s p c = some s') : Inv s' := by
  unfold link at hs
  split at hs
  · rename_i op oc hp hc
    cases hs
    by_cases e : p = c
    · -- a container stored into itself: one object changes
      subst e
      rw [hp] at hc; cases hc
      rw [refup_some (Heap.get_set_eq _ _ _ (Heap.get_lt hp)), List.set_set]
      refine ⟨?_, gcok_set h.gc hp rfl rfl, h.legacy⟩
      exact h.c.set hp _ [] (hg := rfl) (hrefs := by simp only [List.count_cons_self, List.count_nil]; omega)
        (hbal := fun x hx => by rw [List.count_cons_of_ne (Ne.symm hx)])
        (hpos := fun _ => Nat.succ_pos _) (hnew := fun x _ _ ox hox => h.unmarked hox)
    · -- the two writes commute (`p ≠ c`): read as count of `c` up first (an element is owed), then the element stored
      rw [refup_some ((Heap.get_set_ne _ _ _ _ e).trans hc), List.set_comm _ _ e]
      have hp1 : Heap.get (s.heap.set c (some { oc with refs := oc.refs + 1 })) p = some op :=
        (Heap.get_set_ne _ _ _ _ (Ne.symm e)).trans hp
      have g1 : ∀ i o, Heap.get (s.heap.set c (some { oc with refs := oc.refs + 1 })) i = some o → GcOk o :=
        gcok_set h.gc hc rfl rfl
      refine ⟨?_, gcok_set g1 hp1 rfl rfl, h.legacy⟩
      have hcons : ∀ x, op.children.count x + [c].count x = (c :: op.children).count x + [].count x :=
        fun x => by simp [List.count_cons]
      exact (h.c.refup hc).set hp1 _ [] (hg := rfl) (hrefs := by have := hcons p; dsimp only; omega)
        (hbal := fun x _ => hcons x) (hpos := h.c.pos p op hp) (hnew := fun x _ _ ox hox => (g1 x ox hox).unmarked)
  · cases hs

theorem count_erase_add {l : List Id} {c : Id} (hm : c ∈ l) (x : Id) :
    l.count x = (l.erase c).count x + [c].count x := by
  by_cases e : x = c
  · subst e
    have := List.count_pos_iff.mpr hm
    simp [List.count_erase_self]; omega
  · simp [List.count_erase_of_ne e, List.count_cons_of_ne (Ne.symm e)]

theorem CInv.detach (s : St) (p : Id) (op : Obj) (ch' todo : List Id) (h : CInv s [])
    (hp : s.heap.get p = some op) (hcnt : ∀ x, op.children.count x = ch'.count x + todo.count x) :
    CInv { s with heap := s.heap.set p (some { op with children := ch' }) } todo := by
  have hsub : ∀ x ∈ ch', x ∈ op.children := by
    intro x hx
    have := hcnt x
    have := List.count_pos_iff.mpr hx
    exact List.count_pos_iff.mp (by omega)
  exact h.set hp _ todo (hg := rfl) (hrefs := by have := hcnt p; simp only [List.count_nil]; omega)
    (hbal := fun x _ => by have := hcnt x; simp only [List.count_nil]; omega) (hpos := h.pos p op hp)
    (hnew := fun x hx hnx => absurd (hsub x hx) hnx)

theorem inv_unlink (s : St) (p c : Id) (s' : St) (h : Inv s) (hs : unlink s p c = some s') : Inv s' := by
  unfold unlink at hs
  split at hs
  · rename_i op hp
    split at hs
    · rename_i hmem
      cases hs
      refine inv_of_cascade _ _ ?_ (gcok_set h.gc hp rfl rfl) h.legacy
      exact CInv.detach s p op _ [c] h.c hp (count_erase_add hmem)
    · cases hs
  · cases hs

theorem inv_clear (s : St) (p : Id) (s' : St) (h : Inv s) (hs : clear s p = some s') : Inv s' := by
  unfold clear at hs
  split at hs
  · rename_i op hp
    split at hs
    · cases hs
      refine inv_of_cascade _ _ ?_ (gcok_set h.gc hp rfl rfl) h.legacy
      exact CInv.detach s p op [] op.children h.c hp (fun x => by simp)
    · cases hs
  · cases hs

theorem inv_addRoot (s : St) (o : Id) (s' : St) (h : Inv s) (hs : addRoot s o = some s') : Inv s' := by
  unfold addRoot at hs
  split at hs
  · rename_i ob hob
    cases hs
    rw [refup_some hob]
    have g1 : ∀ i ox, Heap.get (s.heap.set o (some { ob with refs := ob.refs + 1 })) i = some ox → GcOk ox :=
      gcok_set h.gc hob rfl rfl
    refine ⟨?_, g1, h.legacy⟩
    exact (h.c.refup hob).reroot (o :: s.roots) [] (fun x => by simp only [List.count_cons, List.count_nil]; omega)
      (fun r _ _ ox hox => (g1 r ox hox).unmarked)
  · cases hs

theorem take_addRoot {s : St} {p c : Id} {s' : St} (hs : take s p c = some s') : addRoot s c = some s' := by
  unfold take at hs
  split at hs
  · split at hs
    · exact hs
    · cases hs
  · cases hs

theorem dropRoot_some {s : St} {o : Id} {s' : St} (hs : dropRoot s o = some s') :
    o ∈ s.roots ∧ s' = refdown { s with roots := s.roots.erase o } o := by
  unfold dropRoot at hs
  split at hs
  · rename_i hmem
    exact ⟨hmem, (Option.some.inj hs).symm⟩
  · cases hs

theorem inv_dropRoot (s : St) (o : Id) (s' : St) (h : Inv s) (hs : dropRoot s o = some s') : Inv s' := by
  obtain ⟨hmem, rfl⟩ := dropRoot_some hs
  rw [refdown_eq_cascade]
  · refine inv_of_cascade _ _ ?_ h.gc h.legacy
    apply h.c.reroot (s.roots.erase o) [o] _ (fun r hr hnr => absurd (List.mem_of_mem_erase hr) hnr)
    intro x
    rw [List.count_nil, Nat.add_zero]
    exact count_erase_add hmem x
  · exact fun ob hob => h.unmarked hob

theorem relink_cases {s : St} {p c d : Id} {s' : St} (hs : relink s p c d = some s') :
    s' = s ∨ ∃ s1, unlink s p c = some s1 ∧ link s1 p d = some s' := by
  unfold relink at hs
  split at hs
  · split at hs
    · split at hs
      · exact Or.inl (Option.some.inj hs).symm
      · split at hs
        · cases hu : unlink s p c with
          | none => rw [hu] at hs; cases hs
          | some s1 => rw [hu] at hs; exact Or.inr ⟨s1, rfl, hs⟩
        · cases hs
    · cases hs
  · cases hs

theorem inv_relink (s : St) (p c d : Id) (s' : St) (h : Inv s) (hs : relink s p c d = some s') : Inv s' := by
  rcases relink_cases hs with rfl | ⟨s1, hu, hl⟩
  · exact h
  · exact inv_link s1 p d s' (inv_unlink s p c s1 h hu) hl

theorem inv_push (s : St) (h : Inv s) (o : Obj) (hr : o.refs = 1) (hch : o.children = []) (hgc : GcOk o) :
    Inv { s with heap := s.heap ++ [some o], roots := s.heap.length :: s.roots, p0 := s.p0 + 1 } := by
  have hget : ∀ i oi, Heap.get (s.heap ++ [some o]) i = some oi →
      (i < s.heap.length ∧ s.heap.get i = some oi) ∨ (i = s.heap.length ∧ oi = o) :=
    fun i oi hi => (Heap.get_append_some hi).imp_right fun ⟨e, ev⟩ => ⟨e, (Option.some.inj ev).symm⟩
  -- the new identity is past the end of the heap: nothing holds it yet
  have hnew0 : held s [] s.heap.length = 0 := by
    apply Nat.eq_zero_of_not_pos
    intro hp
    obtain ⟨o2, ho2⟩ := Option.isSome_iff_exists.mp (h.c.live_of_held hp)
    exact absurd (Heap.get_lt ho2) (Nat.lt_irrefl _)
  have hheld : ∀ x, held { s with heap := s.heap ++ [some o], roots := s.heap.length :: s.roots, p0 := s.p0 + 1 } [] x =
      held s [] x + if s.heap.length = x then 1 else 0 := by
    intro x
    simp only [held, inDeg_append, cnt, hch, List.count_nil, List.count_cons, beq_iff_eq]
    omega
  have hunm : ∀ i oi, Heap.get (s.heap ++ [some o]) i = some oi → oi.gcRefs ≠ GCH_UNREACHABLE := by
    intro i oi hi
    rcases hget i oi hi with ⟨_, hoi⟩ | ⟨_, rfl⟩
    · exact h.unmarked hoi
    · exact hgc.unmarked
  refine ⟨CInv.of_held (s := { s with heap := s.heap ++ [some o], roots := s.heap.length :: s.roots, p0 := s.p0 + 1 })
    h.c.nofault ?_ ?_ (fun x ox hx hmk => absurd hmk (hunm x ox hx)), ?_, h.legacy⟩
  · intro i oi hi _
    rw [hheld]
    rcases hget i oi hi with ⟨hlt, hoi⟩ | ⟨rfl, rfl⟩
    · rw [if_neg (Nat.ne_of_gt hlt)]
      exact ⟨h.c.ledger i oi hoi (h.unmarked hoi), h.c.pos i oi hoi (h.unmarked hoi)⟩
    · rw [hnew0, if_pos rfl, hr]; exact ⟨rfl, Nat.one_pos⟩
  · intro x hx
    rw [hheld] at hx
    by_cases e : s.heap.length = x
    · rw [← e, Heap.get_append_self]; rfl
    · rw [if_neg e] at hx
      obtain ⟨ox, hox⟩ := Option.isSome_iff_exists.mp (h.c.live_of_held hx)
      rw [Heap.get_append_left _ _ _ (Heap.get_lt hox), hox]; rfl
  · intro i oi hi
    rcases hget i oi hi with ⟨_, hoi⟩ | ⟨rfl, rfl⟩
    · exact h.gc i oi hoi
    · exact hgc

theorem decChild_get (h : Heap) (e i : Id) :
    (decChild false h e).get i = (h.get i).map fun o =>
      if i = e ∧ o.gcRefs ≠ GCH_MOVED then { o with gcRefs := o.gcRefs - 1 } else o := by
  unfold decChild
  by_cases hie : i = e
  · subst hie
    cases hi : h.get i with
    | none => simp [hi]
    | some o =>
      by_cases hm : o.gcRefs = GCH_MOVED
      · simp [hm, hi]
      · simp [hm, Heap.get_set_eq _ _ _ (Heap.get_lt hi)]
  · cases he : h.get e with
    | none => simp [hie]
    | some oe =>
      by_cases hm : oe.gcRefs = GCH_MOVED
      · simp [hie, hm]
      · simp [hie, hm, Heap.get_set_ne _ _ _ _ (Ne.symm hie)]

theorem decChild_length (h : Heap) (e : Id) : (decChild false h e).length = h.length := by
  unfold decChild
  split
  · split
    · exact List.length_set ..
    · rfl
  · rfl

/-- `gc_trace_refs` phase 2, one equation per object.  The precondition (about that object only) keeps a count on
its way down from reaching `GCH_MOVED = -1`, where the decrements still to come would be skipped. -/
theorem decFold_get (E : List Id) (h : Heap) (i : Id)
    (hpre : ∀ o, h.get i = some o → o.gcRefs = GCH_MOVED ∨ (E.count i : Int) ≤ o.gcRefs) :
    (E.foldl (decChild false) h).get i = (h.get i).map fun o =>
      if o.gcRefs = GCH_MOVED then o else { o with gcRefs := o.gcRefs - E.count i } := by
  induction E generalizing h with
  | nil =>
    cases hi : h.get i with
    | none => exact hi
    | some o => simp [hi]
  | cons e E' ih =>
    rw [List.foldl_cons]
    have hd := decChild_get h e i
    cases hi : h.get i with
    | none =>
      rw [hi] at hd
      rw [ih _ (fun o ho => by rw [hd] at ho; cases ho), hd]; rfl
    | some o =>
      rw [hi, Option.map_some] at hd
      by_cases hm : o.gcRefs = GCH_MOVED
      · rw [if_neg (fun h => h.2 hm)] at hd
        rw [ih _ (fun o1 ho1 => by rw [hd] at ho1; cases ho1; exact Or.inl hm), hd]
        simp [hm]
      · have hle := (hpre o hi).resolve_left hm
        by_cases hie : i = e
        · subst hie
          rw [if_pos ⟨rfl, hm⟩] at hd
          rw [List.count_cons_self] at hle
          have h1 : o.gcRefs - 1 ≠ GCH_MOVED := by unfold GCH_MOVED; omega
          rw [ih _ (fun o1 ho1 => by rw [hd] at ho1; cases ho1; right; simp only; omega), hd]
          simp only [Option.map_some, if_neg hm, if_neg h1, List.count_cons_self]
          congr 2
          omega
        · rw [if_neg (fun h => hie h.1)] at hd
          rw [List.count_cons_of_ne (Ne.symm hie)] at hle ⊢
          rw [ih _ (fun o1 ho1 => by rw [hd] at ho1; cases ho1; exact Or.inr hle), hd]

theorem decFold_length (E : List Id) (h : Heap) : (E.foldl (decChild false) h).length = h.length := by
  induction E generalizing h with
  | nil => rfl
  | cons e E' ih => rw [List.foldl_cons, ih, decChild_length]

/-- what the second loop of `gc_move_reachables` guarantees: every element of a member of `reachable`
that is still to be looked at is in `todo`; at the end none is left -/
def MoveClosed (h : Heap) (todo : List Id) : Prop :=
  ∀ q oq, h.get q = some oq → oq.gen = TMP → ∀ c ∈ oq.children, ∀ oc, h.get c = some oc →
    oc.gcRefs = GCH_MOVED ∨ c ∈ todo

theorem MoveClosed.drop_head {h : Heap} {c : Id} {rest : List Id} (hp : MoveClosed h (c :: rest))
    (hc : ∀ oc, h.get c = some oc → oc.gcRefs = GCH_MOVED) : MoveClosed h rest := by
  intro q oq hq hg x hx ox hox
  rcases hp q oq hq hg x hx ox hox with hm | hm
  · exact Or.inl hm
  · rcases List.mem_cons.mp hm with rfl | hm
    · exact Or.inl (hc ox hox)
    · exact Or.inr hm

/-- `R` is any reason to be in `reachable` that holds of the initial members and of `todo` and is inherited by
container elements. -/
theorem moveLoop_spec (R : Id → Prop) (h : Heap) (todo : List Id) (hc : MoveClosed h todo)
    (h1 : ∀ c ∈ todo, R c) (h2 : ∀ q oq, h.get q = some oq → oq.gen = TMP → R q)
    (h3 : ∀ q oq, h.get q = some oq → R q → ∀ c ∈ oq.children, R c) :
    (moveLoop h todo).length = h.length ∧
    (∀ i, (moveLoop h todo).get i = h.get i ∨ ∃ o, h.get i = some o ∧ o.gcRefs ≠ GCH_MOVED ∧
      (moveLoop h todo).get i = some { o with gen := TMP, gcRefs := GCH_MOVED }) ∧
    MoveClosed (moveLoop h todo) [] ∧
    ∀ q oq, (moveLoop h todo).get q = some oq → oq.gen = TMP → R q := by
  fun_induction moveLoop h todo with
  | case1 h => exact ⟨rfl, fun i => Or.inl rfl, hc, h2⟩
  | case2 h c rest hn ih =>
    exact ih (hc.drop_head fun oc hoc => by rw [hn] at hoc; cases hoc) (fun x hx => h1 x (List.mem_cons_of_mem _ hx)) h2 h3
  | case4 h c rest oc hoc hm ih =>
    refine ih (hc.drop_head fun oc' hoc' => ?_) (fun x hx => h1 x (List.mem_cons_of_mem _ hx)) h2 h3
    rw [hoc] at hoc'; cases hoc'
    exact Decidable.not_not.mp hm
  | case3 h c rest oc hoc hm ih =>
    have hclt := Heap.get_lt hoc
    have hRc : R c := h1 c List.mem_cons_self
    -- `c` goes to `reachable` and its elements join `todo`: the four hypotheses again, of the heap with `c` rewritten
    obtain ⟨len, pt, cl, prov⟩ := ih
      (hc := by
        intro q oq hq hg x hx ox hox
        rcases Heap.get_set_some hclt hox with ⟨_, ev⟩ | ⟨hxc, hox'⟩
        · cases ev; exact Or.inl rfl
        · rcases Heap.get_set_some hclt hq with ⟨_, ev⟩ | ⟨_, hq'⟩
          · cases ev; exact Or.inr (List.mem_append.mpr (Or.inr hx))
          · refine (hc q oq hq' hg x hx ox hox').imp_right fun hm' => ?_
            exact List.mem_append.mpr (Or.inl ((List.mem_cons.mp hm').resolve_left hxc)))
      (h1 := fun x hx => (List.mem_append.mp hx).elim (fun hx => h1 x (List.mem_cons_of_mem _ hx)) (h3 c oc hoc hRc x))
      (h2 := fun q oq hq hg => by
        rcases Heap.get_set_some hclt hq with ⟨rfl, _⟩ | ⟨_, hq'⟩
        · exact hRc
        · exact h2 q oq hq' hg)
      (h3 := fun q oq hq hR x hx => by
        rcases Heap.get_set_some hclt hq with ⟨rfl, ev⟩ | ⟨_, hq'⟩
        · cases ev; exact h3 q oc hoc hR x hx
        · exact h3 q oq hq' hR x hx)
    refine ⟨len.trans (List.length_set ..), fun i => ?_, cl, prov⟩
    have hi := Heap.get_set h c i (some { oc with gen := TMP, gcRefs := GCH_MOVED }) hclt
    by_cases e : c = i
    · subst e
      rw [if_pos rfl] at hi
      right
      refine ⟨oc, hoc, hm, ?_⟩
      rcases pt c with hp | ⟨o, ho, hnm, _⟩
      · exact hp.trans hi
      · rw [hi] at ho; cases ho; exact absurd rfl hnm
    · rw [if_neg e] at hi
      rw [← hi]; exact pt i

/-- heap after `gc_move_all_gchs` of the younger lists and `gc_trace_refs` phase 1.  A digit in a name, here and
below, is a point of a collection: 2, 3, 4 are `h2`, `h3`, `h4` of `collectGen`; 6 has the unreachable set marked and
7 has it finalised (`s1`, `s2` of `freeUnreachables`); 9 is swept and promoted, the heap the collection returns. -/
def heap2 (s : St) (g : Nat) : Heap := tracePhase1 (mergeYounger s.heap g) g

/-- members of the lists being collected, merged into list `g` and given their count as the start of the trace -/
def young (g : Nat) (o : Obj) : Obj := if o.gen ≤ g then { o with gen := g, gcRefs := o.refs } else o

theorem heap2_eq (s : St) (g : Nat) : heap2 s g = s.heap.upd (young g) := by
  unfold heap2 tracePhase1 mergeYounger
  rw [Heap.upd_upd]
  congr 1
  funext o
  unfold young
  simp only [Function.comp]
  by_cases h1 : o.gen < g
  · rw [if_pos h1, if_pos rfl, if_pos (Nat.le_of_lt h1)]
  · rw [if_neg h1]
    by_cases h2 : o.gen = g
    · rw [if_pos h2, if_pos (Nat.le_of_eq h2), h2]
    · rw [if_neg h2, if_neg (by omega)]

theorem young_children (g : Nat) (o : Obj) : (young g o).children = o.children := by
  unfold young; split <;> rfl

/-- the residual count `gc_trace_refs` leaves in a member of the collected list -/
def resid (s : St) (g : Nat) (i : Id) (o : Obj) : Int :=
  (o.refs : Int) - (inDegFrom (heap2 s g) (fun o => o.gen == g) i : Nat)

theorem resid_eq (s : St) (g : Nat) (hinv : Inv s) {i : Id} {o : Obj} (hi : s.heap.get i = some o) :
    resid s g i o = ((s.roots.count i + inDegFrom s.heap (fun o => decide (g < o.gen)) i : Nat) : Int) := by
  have h1 := inDeg_split s.heap (fun o => decide (g < o.gen)) i
  have h2 := hinv.ledger hi
  -- after the merge the members of list `g` are the containers that are not older
  have h3 : inDegFrom (heap2 s g) (fun o => o.gen == g) i = inDegFrom s.heap (fun o => !decide (g < o.gen)) i := by
    rw [heap2_eq, inDegFrom_upd _ _ (young_children g)]
    congr 1
    funext o
    unfold young
    by_cases h : o.gen ≤ g
    · simp [h, Nat.not_lt.mpr h]
    · have : o.gen ≠ g := fun e => h (Nat.le_of_eq e)
      simp [h, this, Nat.lt_of_not_le h]
  unfold resid
  omega

theorem resid_pos_reason (s : St) (g : Nat) (hinv : Inv s) (i : Id) (o : Obj) (hi : s.heap.get i = some o)
    (hr : resid s g i o ≠ 0) : ReachG s g i := by
  rw [resid_eq s g hinv hi] at hr
  by_cases hc : 0 < s.roots.count i
  · exact ReachG.root (List.count_pos_iff.mp hc)
  · obtain ⟨j, oj, hj, hp, hm⟩ := inDegFrom_pos.mp (show 0 < inDegFrom s.heap (fun o => decide (g < o.gen)) i by omega)
    exact ReachG.old hj (of_decide_eq_true hp) hm

/-- heap after `gc_trace_refs` -/
def heap3 (s : St) (g : Nat) : Heap := tracePhase2 false (heap2 s g) g

/-- what `gc_trace_refs` makes of an object: a member of the collected lists carries its residual count -/
def traced (s : St) (g : Nat) (i : Id) (o : Obj) : Obj :=
  if o.gen ≤ g then { o with gen := g, gcRefs := resid s g i o } else o

theorem heap3_get (s : St) (g : Nat) (hinv : Inv s) (i : Id) :
    (heap3 s g).get i = (s.heap.get i).map (traced s g i) := by
  unfold heap3 tracePhase2
  rw [decFold_get, heap2_eq, Heap.get_upd]
  · cases hi : s.heap.get i with
    | none => rfl
    | some o =>
      simp only [Option.map_some, ← heap2_eq]
      unfold traced young
      by_cases hle : o.gen ≤ g
      · have : (o.refs : Int) ≠ GCH_MOVED := by unfold GCH_MOVED; omega
        simp only [hle, if_true, this, if_false, count_edgesWhere]
        rfl
      · have := (hinv.gc i o hi).moved_of_pos (by omega)
        simp only [hle, if_false, this, if_true]
  · intro o2 hj
    rw [heap2_eq, Heap.get_upd] at hj
    obtain ⟨o, ho, rfl⟩ := Option.map_eq_some_iff.mp hj
    unfold young
    by_cases hle : o.gen ≤ g
    · right
      have := resid_eq s g hinv ho
      unfold resid at this
      rw [count_edgesWhere]
      simp only [hle, if_true]
      omega
    · left
      simp only [hle, if_false]
      exact (hinv.gc i o ho).moved_of_pos (by omega)

theorem heap3_length (s : St) (g : Nat) : (heap3 s g).length = s.heap.length := by
  unfold heap3 tracePhase2
  rw [decFold_length, heap2_eq, Heap.length_upd]

/-- heap after `gc_move_reachables` -/
def heap4 (s : St) (g : Nat) : Heap := moveReachables (heap3 s g) g

/-- what is known after `gc_move_reachables`: the members left in list `g` (the unreachable set) have a zero
residual, hence (`heap6_spec`) no holder and no referring element outside the set -/
structure Moved (s : St) (g : Nat) : Prop where
  len : (heap4 s g).length = s.heap.length
  getNone : ∀ i, s.heap.get i = none → (heap4 s g).get i = none
  getSome : ∀ i o, s.heap.get i = some o → ∃ o4, (heap4 s g).get i = some o4 ∧ o4.refs = o.refs ∧ o4.children = o.children ∧
      ((o4.gen = g ∧ o4.gcRefs = 0 ∧ o.gen ≤ g ∧ resid s g i o = 0) ∨
       (o4.gen = TMP ∧ o4.gcRefs = GCH_MOVED ∧ o.gen ≤ g) ∨
       (o4.gen = o.gen ∧ g < o.gen ∧ o4.gcRefs = GCH_MOVED))
  closed : MoveClosed (heap4 s g) []

theorem moveRoots_get (h : Heap) (g : Nat) (i : Id) :
    (moveRoots h g).get i = (h.get i).map fun o =>
      if o.gen = g ∧ o.gcRefs ≠ 0 then { o with gen := TMP, gcRefs := GCH_MOVED } else o := by
  unfold moveRoots; rw [Heap.get_upd]

/-- what the first loop of `gc_move_reachables` makes of an object: a member with a non-zero residual goes to `reachable` -/
def rooted (s : St) (g : Nat) (i : Id) (o : Obj) : Obj :=
  if o.gen ≤ g then
    if resid s g i o = 0 then { o with gen := g, gcRefs := 0 } else { o with gen := TMP, gcRefs := GCH_MOVED }
  else o

theorem rooted_get (s : St) (g : Nat) (hinv : Inv s) (i : Id) :
    (moveRoots (heap3 s g) g).get i = (s.heap.get i).map (rooted s g i) := by
  rw [moveRoots_get, heap3_get s g hinv, Option.map_map]
  congr 1
  funext o
  unfold traced rooted
  simp only [Function.comp]
  by_cases hle : o.gen ≤ g
  · by_cases hz : resid s g i o = 0
    · simp [hle, hz]
    · simp [hle, hz]
  · simp only [hle, if_false]
    exact if_neg fun h => hle (Nat.le_of_eq h.1)

theorem rooted_cases (s : St) (g : Nat) (i : Id) (o : Obj) :
    (rooted s g i o).refs = o.refs ∧ (rooted s g i o).children = o.children ∧
    ((o.gen ≤ g ∧ resid s g i o = 0 ∧ (rooted s g i o).gen = g ∧ (rooted s g i o).gcRefs = 0) ∨
     (o.gen ≤ g ∧ resid s g i o ≠ 0 ∧ (rooted s g i o).gen = TMP ∧ (rooted s g i o).gcRefs = GCH_MOVED) ∨
     (g < o.gen ∧ rooted s g i o = o)) := by
  unfold rooted
  by_cases hle : o.gen ≤ g
  · by_cases hz : resid s g i o = 0
    · rw [if_pos hle, if_pos hz]; exact ⟨rfl, rfl, Or.inl ⟨hle, hz, rfl, rfl⟩⟩
    · rw [if_pos hle, if_neg hz]; exact ⟨rfl, rfl, Or.inr (Or.inl ⟨hle, hz, rfl, rfl⟩)⟩
  · rw [if_neg hle]; exact ⟨rfl, rfl, Or.inr (Or.inr ⟨Nat.lt_of_not_le hle, rfl⟩)⟩

theorem moved_spec (s : St) (g : Nat) (hg : g ≤ 2) (hinv : Inv s) :
    Moved s g ∧ ∀ q oq, (heap4 s g).get q = some oq → oq.gen = TMP → ReachG s g q := by
  have hTMP : ∀ n, n ≤ 2 → TMP ≠ n := fun n hn e => absurd (e ▸ hn) (by decide)
  have h4a : ∀ i, (moveRoots (heap3 s g) g).get i = (s.heap.get i).map (rooted s g i) := rooted_get s g hinv
  have hback : ∀ q oq, (moveRoots (heap3 s g) g).get q = some oq → ∃ o, s.heap.get q = some o ∧
      oq.children = o.children ∧ (oq.gen = TMP → ReachG s g q) := by
    intro q oq hq
    rw [h4a] at hq
    obtain ⟨o, ho, rfl⟩ := Option.map_eq_some_iff.mp hq
    obtain ⟨_, hch, hcase⟩ := rooted_cases s g q o
    refine ⟨o, ho, hch, fun hT => ?_⟩
    rcases hcase with ⟨_, _, hgen, _⟩ | ⟨_, hz, _⟩ | ⟨_, he⟩
    · exact absurd (hT.symm.trans hgen) (hTMP g hg)
    · exact resid_pos_reason s g hinv q o ho hz
    · exact absurd (hT.symm.trans (congrArg Obj.gen he)) (hTMP _ (hinv.gc q o ho).gen_le)
  obtain ⟨len, pt, cl, prov⟩ := moveLoop_spec (ReachG s g) (moveRoots (heap3 s g) g)
    ((moveRoots (heap3 s g) g).edgesWhere fun o => o.gen == TMP)
    (fun q oq hq hgen x hx ox hox => Or.inr (mem_edgesWhere.mpr ⟨q, oq, hq, by simp [hgen], hx⟩))
    (fun c hc => by
      obtain ⟨q, oq, hq, hp, hm⟩ := mem_edgesWhere.mp hc
      obtain ⟨o, ho, hch, hroot⟩ := hback q oq hq
      exact ReachG.step (hroot (by simpa using hp)) ho (hch ▸ hm))
    (fun q oq hq hgen => (hback q oq hq).elim fun o ⟨_, _, hroot⟩ => hroot hgen)
    (fun q oq hq hR c hc => (hback q oq hq).elim fun o ⟨ho, hch, _⟩ => ReachG.step hR ho (hch ▸ hc))
  refine ⟨⟨?_, ?_, ?_, cl⟩, prov⟩
  · exact len.trans ((Heap.length_upd _ _).trans (heap3_length s g))
  · intro i hi
    rcases pt i with hp | ⟨o, ho, _⟩
    · exact hp.trans ((h4a i).trans (congrArg _ hi))
    · rw [h4a, hi] at ho; cases ho
  · intro i o hi
    obtain ⟨hr, hch, hcase⟩ := rooted_cases s g i o
    have hold : g < o.gen → o.gcRefs = GCH_MOVED := fun hlt => (hinv.gc i o hi).moved_of_pos (by omega)
    rcases pt i with hp | ⟨o4a, ho4a, hnm, hp⟩
    · -- left where the first loop put it
      refine ⟨_, hp.trans ((h4a i).trans (congrArg _ hi)), hr, hch, ?_⟩
      rcases hcase with ⟨hle, hz, hgen, hgc⟩ | ⟨hle, _, hgen, hgc⟩ | ⟨hlt, he⟩
      · exact Or.inl ⟨hgen, hgc, hle, hz⟩
      · exact Or.inr (Or.inl ⟨hgen, hgc, hle⟩)
      · rw [he]; exact Or.inr (Or.inr ⟨rfl, hlt, hold hlt⟩)
    · -- moved by the second loop: it was a member of the list with residual zero
      rw [h4a, hi] at ho4a; cases ho4a
      refine ⟨_, hp, hr, hch, Or.inr (Or.inl ⟨rfl, rfl, ?_⟩)⟩
      rcases hcase with ⟨hle, _⟩ | ⟨_, _, _, hgc⟩ | ⟨hlt, he⟩
      · exact hle
      · exact absurd hgc hnm
      · exact absurd ((congrArg Obj.gcRefs he).trans (hold hlt)) hnm

/-- heap after the first loop of `gc_free_unreachables` -/
def heap6 (s : St) (g : Nat) : Heap := markUnreachable (heap4 s g) g

theorem heap6_get (s : St) (g : Nat) (i : Id) :
    (heap6 s g).get i = ((heap4 s g).get i).map fun o => if o.gen = g then { o with gcRefs := GCH_UNREACHABLE } else o := by
  unfold heap6 markUnreachable; rw [Heap.get_upd]

/-- the heap with the unreachable set marked, object by object against the start state: left in list `g` and marked,
in `reachable` (the closedness of the second loop read here), or in an older list and as it was -/
theorem heap6_back (s : St) (g : Nat) (hg : g ≤ 2) (hinv : Inv s) {i : Id} {o6 : Obj}
    (hi6 : (heap6 s g).get i = some o6) :
    ∃ o, s.heap.get i = some o ∧ o6.refs = o.refs ∧ o6.children = o.children ∧
      ((o6.gen = g ∧ o6.gcRefs = GCH_UNREACHABLE ∧ resid s g i o = 0) ∨
       (o6.gen = TMP ∧ o6.gcRefs = GCH_MOVED ∧ o.gen ≤ g ∧ ReachG s g i ∧
          ∀ c ∈ o.children, ∀ oc6, (heap6 s g).get c = some oc6 → oc6.gcRefs ≠ GCH_UNREACHABLE) ∨
       (o6.gen = o.gen ∧ o6.gcRefs = GCH_MOVED ∧ g < o.gen ∧ o.gen ≤ 2)) := by
  obtain ⟨hm, hprov⟩ := moved_spec s g hg hinv
  have hTMP : TMP ≠ g := by unfold TMP; omega
  have hMU : GCH_MOVED ≠ GCH_UNREACHABLE := by decide
  rw [heap6_get] at hi6
  obtain ⟨o4, ho4, rfl⟩ := Option.map_eq_some_iff.mp hi6
  obtain ⟨o, ho, hr, hch, hcase⟩ := Heap.get_back hm.getNone hm.getSome ho4
  refine ⟨o, ho, ?_⟩
  rcases hcase with ⟨hgen, _, _, hres⟩ | ⟨hgen, hmv, hle⟩ | ⟨hgen, hlt, hmv⟩
  · rw [if_pos hgen]; exact ⟨hr, hch, Or.inl ⟨hgen, rfl, hres⟩⟩
  · rw [if_neg (hgen ▸ hTMP)]
    refine ⟨hr, hch, Or.inr (Or.inl ⟨hgen, hmv, hle, hprov i o4 ho4 hgen, fun c hc oc6 hc6 hmk => ?_⟩)⟩
    -- the second loop left no element of a member of `reachable` unmoved, and only unmoved members get marked
    rw [heap6_get] at hc6
    obtain ⟨oc4, hoc4, rfl⟩ := Option.map_eq_some_iff.mp hc6
    have hcm := (hm.closed i o4 ho4 hgen c (hch ▸ hc) oc4 hoc4).resolve_right List.not_mem_nil
    obtain ⟨_, _, _, _, hcc⟩ := Heap.get_back hm.getNone hm.getSome hoc4
    rcases hcc with ⟨_, hz, _⟩ | ⟨hT, _⟩ | ⟨hgen', hlt', _⟩
    · rw [hz] at hcm; exact absurd hcm (by decide)
    · rw [if_neg (hT ▸ hTMP)] at hmk; exact hMU (hcm.symm.trans hmk)
    · rw [if_neg (by omega)] at hmk; exact hMU (hcm.symm.trans hmk)
  · rw [if_neg (by omega)]
    exact ⟨hr, hch, Or.inr (Or.inr ⟨hgen, hmv, hlt, (hinv.gc i o ho).gen_le⟩)⟩

theorem heap6_spec (s : St) (g : Nat) (hg : g ≤ 2) (hinv : Inv s) :
    CInv { s with heap := heap6 s g } [] ∧ (heap6 s g).length = s.heap.length := by
  have hm := (moved_spec s g hg hinv).1
  have hMU : GCH_MOVED ≠ GCH_UNREACHABLE := by decide
  have hlive : ∀ i, (s.heap.get i).isSome → ((heap6 s g).get i).isSome := by
    intro i hi
    obtain ⟨o, ho⟩ := Option.isSome_iff_exists.mp hi
    obtain ⟨o4, ho4, _⟩ := hm.getSome i o ho
    rw [heap6_get, ho4]; rfl
  have hlen : (heap6 s g).length = s.heap.length := by
    unfold heap6 markUnreachable; rw [Heap.length_upd, hm.len]
  have hdeg : ∀ x, inDeg (heap6 s g) x = inDeg s.heap x := by
    intro x
    rw [inDeg_eq_inDegFrom, inDeg_eq_inDegFrom]
    apply inDegFrom_congr _ _ _ _ _ hlen
    intro i
    cases hi : s.heap.get i with
    | none => rw [heap6_get, hm.getNone i hi]; trivial
    | some o =>
      obtain ⟨o6, ho6⟩ := Option.isSome_iff_exists.mp (hlive i (by rw [hi]; rfl))
      obtain ⟨o', ho', _, hch, _⟩ := heap6_back s g hg hinv ho6
      rw [hi] at ho'; cases ho'
      rw [ho6]; exact ⟨hch, rfl⟩
  have hheld : ∀ x, held { s with heap := heap6 s g } [] x = held s [] x := fun x => by simp only [held, hdeg]
  refine ⟨CInv.of_held (s := { s with heap := heap6 s g }) hinv.c.nofault ?_ ?_ ?_, hlen⟩
  · intro i o6 hi6 _
    obtain ⟨o, ho, hr, _⟩ := heap6_back s g hg hinv hi6
    rw [hheld, hr]
    exact ⟨hinv.c.ledger i o ho (hinv.unmarked ho), hinv.c.pos i o ho (hinv.unmarked ho)⟩
  · intro x hx
    rw [hheld] at hx
    exact hlive x (hinv.c.live_of_held hx)
  · -- a marked container has residual count zero: no holder, and no element of an older container is it
    intro x ox6 hx hmk
    obtain ⟨ox, hox, _, _, hxcase⟩ := heap6_back s g hg hinv hx
    rcases hxcase with ⟨_, _, hres⟩ | ⟨_, hmv, _⟩ | ⟨_, hmv, _⟩
    · rw [resid_eq s g hinv hox] at hres
      have hr0 : s.roots.count x = 0 := by omega
      have hout : inDegFrom s.heap (fun o => decide (g < o.gen)) x = 0 := by omega
      refine ⟨List.count_eq_zero.mp hr0, fun i o6 hi6 hu hc => ?_⟩
      obtain ⟨o, ho, _, hch, hcase⟩ := heap6_back s g hg hinv hi6
      rcases hcase with ⟨_, hmk', _⟩ | ⟨_, _, _, _, hcl⟩ | ⟨_, _, hlt, _⟩
      · exact hu hmk'
      · exact hcl x (hch ▸ hc) ox6 hx hmk
      · have : 0 < inDegFrom s.heap (fun o => decide (g < o.gen)) x :=
          inDegFrom_pos.mpr ⟨i, o, ho, decide_eq_true hlt, hch ▸ hc⟩
        omega
    · exact absurd (hmv.symm.trans hmk) hMU
    · exact absurd (hmv.symm.trans hmk) hMU

theorem finalizePreserve_spec (s : St) (u : Id) (h : CInv s []) :
    CInv (finalizePreserve s u) [] ∧
    ∀ i o', (finalizePreserve s u).heap.get i = some o' → ∃ o, s.heap.get i = some o ∧ o'.gcRefs = o.gcRefs ∧
      o'.gen = o.gen ∧ o'.children = if i = u then [] else o.children := by
  unfold finalizePreserve
  cases hu : s.heap.get u with
  | none =>
    refine ⟨h, fun i o' hi => ⟨o', hi, rfl, rfl, ?_⟩⟩
    have hne : i ≠ u := by intro e; subst e; rw [hu] at hi; cases hi
    rw [if_neg hne]
  | some ou =>
    refine ⟨cascade_inv _ _ (CInv.detach s u ou [] ou.children h hu (by intro x; simp)), ?_⟩
    intro i o' hi
    obtain ⟨o1, ho1, hg1, hgen1, hch1⟩ := cascade_get _ _ i o' hi
    rcases Heap.get_set_some (Heap.get_lt hu) ho1 with ⟨rfl, ev⟩ | ⟨hne, ho1'⟩
    · cases ev
      exact ⟨ou, hu, hg1, hgen1, by rw [if_pos rfl]; exact hch1⟩
    · exact ⟨o1, ho1', hg1, hgen1, by rw [if_neg hne]; exact hch1⟩

theorem finalizeFold_spec (U : List Id) (s : St) (h : CInv s []) :
    CInv (U.foldl finalizePreserve s) [] ∧
    ∀ i o', (U.foldl finalizePreserve s).heap.get i = some o' → ∃ o, s.heap.get i = some o ∧ o'.gcRefs = o.gcRefs ∧
      o'.gen = o.gen ∧ o'.children = if i ∈ U then [] else o.children := by
  induction U generalizing s with
  | nil => exact ⟨h, fun i o' hi => ⟨o', hi, rfl, rfl, by rw [if_neg List.not_mem_nil]⟩⟩
  | cons u U' ih =>
    simp only [List.foldl_cons]
    obtain ⟨a1, a5⟩ := finalizePreserve_spec s u h
    obtain ⟨b1, b5⟩ := ih (finalizePreserve s u) a1
    refine ⟨b1, ?_⟩
    intro i o' hi
    obtain ⟨o1, ho1, hg1, hgen1, hch1⟩ := b5 i o' hi
    obtain ⟨o, ho, hg, hgen, hch⟩ := a5 i o1 ho1
    refine ⟨o, ho, hg1.trans hg, hgen1.trans hgen, ?_⟩
    rw [hch1, hch]
    by_cases hm : i ∈ U'
    · simp [hm]
    · simp [hm]

theorem dropShells_get (h : Heap) (g : Nat) (i : Id) :
    (dropShells h g).get i = match h.get i with | some o => if o.gen = g then none else some o | none => none := by
  unfold dropShells Heap.get
  simp only [List.getElem?_map]
  cases h[i]? with
  | none => rfl
  | some oo => cases oo <;> rfl

theorem inDeg_dropShells (h : Heap) (g : Nat) (x : Id)
    (hempty : ∀ i o, h.get i = some o → o.gen = g → o.children = []) : inDeg (dropShells h g) x = inDeg h x := by
  unfold inDeg dropShells
  rw [List.map_map]
  congr 1
  apply List.map_congr_left
  intro oo hoo
  cases oo with
  | none => rfl
  | some o =>
    simp only [Function.comp]
    by_cases hgen : o.gen = g
    · obtain ⟨i, hi⟩ := Heap.mem_get hoo
      simp [hgen, cnt, hempty i o hi hgen]
    · simp [hgen]

theorem sweep_get (h : Heap) (g ng : Nat) (i : Id) : (promote (dropShells h g) ng).get i = (h.get i).bind fun o =>
    if o.gen = g then none else some (if o.gen = TMP then { o with gen := ng } else o) := by
  unfold promote
  rw [Heap.get_upd, dropShells_get]
  cases h.get i with
  | none => rfl
  | some o => simp only [Option.bind_some]; split <;> rfl

theorem sweep_back {h : Heap} {g ng : Nat} {i : Id} {o9 : Obj} (hi : (promote (dropShells h g) ng).get i = some o9) :
    ∃ o, h.get i = some o ∧ o.gen ≠ g ∧ o9.refs = o.refs ∧ o9.gcRefs = o.gcRefs ∧ o9.children = o.children ∧
      o9.gen = if o.gen = TMP then ng else o.gen := by
  rw [sweep_get] at hi
  obtain ⟨o, ho, hi⟩ := Option.bind_eq_some_iff.mp hi
  by_cases hgen : o.gen = g
  · rw [if_pos hgen] at hi; cases hi
  · rw [if_neg hgen] at hi
    cases hi
    refine ⟨o, ho, hgen, ?_⟩
    by_cases ht : o.gen = TMP
    · simp only [if_pos ht, and_self]
    · simp only [if_neg ht, and_self]

/-- `gc_free_unreachables`, third loop, and the move of `reachable` to `newgen`.  Once the marked containers are
exactly the members of list `g` and have been emptied, dropping them takes no element away, and nothing that stays
refers to one of them (`noInto`). -/
theorem CInv.sweep {s : St} (h : CInv s []) (g ng : Nat)
    (hshape : ∀ i o, s.heap.get i = some o → (o.gen = g ↔ o.gcRefs = GCH_UNREACHABLE))
    (hempty : ∀ i o, s.heap.get i = some o → o.gen = g → o.children = []) :
    CInv { s with heap := promote (dropShells s.heap g) ng } [] := by
  have hheld : ∀ x, held { s with heap := promote (dropShells s.heap g) ng } [] x = held s [] x := by
    intro x
    unfold held promote
    rw [inDeg_upd _ _ (fun o => by split <;> rfl), inDeg_dropShells _ g x hempty]
  have hun : ∀ i o, s.heap.get i = some o → o.gen ≠ g → o.gcRefs ≠ GCH_UNREACHABLE :=
    fun i o ho hne hu => hne ((hshape i o ho).mpr hu)
  -- a marked container is held by marked ones only, and those have been emptied: nothing holds it
  have hfree : ∀ x ox, s.heap.get x = some ox → 0 < held s [] x → ox.gen ≠ g := by
    intro x ox hx hpos hgen
    obtain ⟨hr, hch⟩ := h.marked_free hx ((hshape x ox hx).mp hgen)
    rcases held_pos.mp hpos with hr' | ht | ⟨i, o, hi, hc⟩
    · exact hr hr'
    · cases ht
    · by_cases hu : o.gcRefs = GCH_UNREACHABLE
      · rw [hempty i o hi ((hshape i o hi).mpr hu)] at hc; cases hc
      · exact hch i o hi hu hc
  refine CInv.of_held (s := { s with heap := promote (dropShells s.heap g) ng }) h.nofault ?_ ?_ ?_
  · intro i o9 hi _
    obtain ⟨o, ho, hne, hr, _⟩ := sweep_back hi
    rw [hheld, hr]
    exact ⟨h.ledger i o ho (hun i o ho hne), h.pos i o ho (hun i o ho hne)⟩
  · intro x hx
    rw [hheld] at hx
    obtain ⟨ox, hox⟩ := Option.isSome_iff_exists.mp (h.live_of_held hx)
    show (Heap.get (promote (dropShells s.heap g) ng) x).isSome
    rw [sweep_get, hox, Option.bind_some, if_neg (hfree x ox hox hx)]; rfl
  · intro x ox9 hx hmk
    obtain ⟨ox, hox, hne, _, hg9, _⟩ := sweep_back hx
    exact absurd (hg9.symm.trans hmk) (hun x ox hox hne)

/-- the second loop of `gc_free_unreachables`: every member of list `g` finalised -/
def finalizeAll (s : St) (g : Nat) : St := (s.heap.idsWhere fun o => o.gen == g).foldl finalizePreserve s

/-- `gc_free_unreachables` from its second loop on, and the move of `reachable` to `ng`, in any state whose marked
containers are exactly the members of list `g`. -/
theorem CInv.dispose {s : St} (h : CInv s []) (g ng : Nat)
    (hshape : ∀ i o, s.heap.get i = some o → (o.gen = g ↔ o.gcRefs = GCH_UNREACHABLE)) :
    CInv { finalizeAll s g with heap := promote (dropShells (finalizeAll s g).heap g) ng } [] ∧
    ∀ i o9, (promote (dropShells (finalizeAll s g).heap g) ng).get i = some o9 → ∃ o, s.heap.get i = some o ∧
      o.gen ≠ g ∧ o9.gcRefs = o.gcRefs ∧ o9.children = o.children ∧ o9.gen = if o.gen = TMP then ng else o.gen := by
  obtain ⟨c7, get7⟩ := finalizeFold_spec (s.heap.idsWhere fun o => o.gen == g) s h
  have h7 : ∀ i o7, (finalizeAll s g).heap.get i = some o7 →
      ∃ o, s.heap.get i = some o ∧ o7.gcRefs = o.gcRefs ∧ o7.gen = o.gen ∧
        o7.children = if o.gen = g then [] else o.children := by
    intro i o7 hi7
    obtain ⟨o, ho, hg, hgen, hch⟩ := get7 i o7 hi7
    refine ⟨o, ho, hg, hgen, ?_⟩
    have : i ∈ (s.heap.idsWhere fun o => o.gen == g) ↔ o.gen = g := by
      rw [mem_idsWhere]
      exact ⟨fun ⟨o', ho', hp⟩ => by rw [ho] at ho'; cases ho'; simpa using hp, fun e => ⟨o, ho, by simp [e]⟩⟩
    rw [hch]
    by_cases e : o.gen = g
    · rw [if_pos (this.mpr e), if_pos e]
    · rw [if_neg (mt this.mp e), if_neg e]
  refine ⟨CInv.sweep (s := finalizeAll s g) c7 g ng ?_ ?_, ?_⟩
  · intro i o7 hi7
    obtain ⟨o, ho, hg, hgen, _⟩ := h7 i o7 hi7
    rw [hg, hgen]; exact hshape i o ho
  · intro i o7 hi7 hgen7
    obtain ⟨o, _, _, hgen, hch⟩ := h7 i o7 hi7
    rw [hch, if_pos (hgen ▸ hgen7)]
  · intro i o9 hi9
    obtain ⟨o7, ho7, hne, _, hgc, hch, hgen9⟩ := sweep_back hi9
    obtain ⟨o, ho, hg, hgen, hch7⟩ := h7 i o7 ho7
    rw [hgen] at hne hgen9
    exact ⟨o, ho, hne, hgc.trans hg, by rw [hch, hch7, if_neg hne], hgen9⟩

theorem bumpPressure_eq (s : St) (g : Nat) :
    ∃ q0 q1 q2 q3, bumpPressure s g = { s with p0 := q0, p1 := q1, p2 := q2, p3 := q3 } := by
  unfold bumpPressure
  split <;> exact ⟨_, _, _, _, rfl⟩

theorem collectGen_eq (s : St) (g : Nat) (hl : s.legacy = false) : ∃ q0 q1 q2 q3, collectGen s g =
    { finalizeAll { s with heap := heap6 s g } g with
        heap := promote (dropShells (finalizeAll { s with heap := heap6 s g } g).heap g) (if g < 2 then g + 1 else g),
        p0 := q0, p1 := q1, p2 := q2, p3 := q3 } := by
  obtain ⟨q0, q1, q2, q3, hb⟩ := bumpPressure_eq
    { finalizeAll { s with heap := heap6 s g } g with
        heap := promote (dropShells (finalizeAll { s with heap := heap6 s g } g).heap g) (if g < 2 then g + 1 else g) } g
  refine ⟨q0, q1, q2, q3, ?_⟩
  rw [← hb]
  unfold collectGen freeUnreachables finalizeAll heap6 heap4 heap3 heap2
  simp only [hl]

/-- what `gc_collect_garbage_in_generation (g)` does to `s`, giving `s'` -/
structure Collected (s : St) (g : Nat) (s' : St) : Prop where
  inv : Inv s'
  roots : s'.roots = s.roots
  len : s'.heap.length = s.heap.length
  surv : ∀ i o', s'.heap.get i = some o' → ∃ o, s.heap.get i = some o ∧ o'.children = o.children ∧
    o'.gcRefs = GCH_MOVED ∧
    ((o.gen ≤ g ∧ o'.gen = (if g < 2 then g + 1 else g) ∧ ReachG s g i) ∨ (g < o.gen ∧ o'.gen = o.gen))

theorem Collected.frame {s s' : St} {g : Nat} (h : Collected s g s') :
    ∀ i o', s'.heap.get i = some o' → ∃ o, s.heap.get i = some o ∧ o'.children = o.children :=
  fun i o' hi => (h.surv i o' hi).imp fun _ ⟨ho, hch, _⟩ => ⟨ho, hch⟩

theorem Collected.keeps {s s' : St} {g : Nat} (h : Collected s g s') {p : Id} (hr : Reach s p) :
    (s'.heap.get p).isSome ∧ Reach s' p := reach_survives h.inv h.roots h.frame hr

theorem Collected.freed {s s' : St} {g : Nat} (h : Collected s g s') {i : Id} {o : Obj} (ho : s.heap.get i = some o)
    (hle : o.gen ≤ g) (hu : ¬ ReachG s g i) : s'.heap.get i = none := by
  cases h9 : s'.heap.get i with
  | none => rfl
  | some o9 =>
    obtain ⟨o', ho', _, _, hcase⟩ := h.surv i o9 h9
    rw [ho] at ho'; cases ho'
    rcases hcase with ⟨_, _, hr⟩ | ⟨hlt, _⟩
    · exact absurd hr hu
    · omega

/-- the full collection, and the one that ends `fini_rtx`, are this case -/
theorem Collected.full {s s' : St} {g : Nat} (h : Collected s g s') (hall : ∀ i o, s.heap.get i = some o → o.gen ≤ g)
    {i : Id} {o' : Obj} (hi : s'.heap.get i = some o') : Reach s' i := by
  obtain ⟨o, ho, _, _, hcase⟩ := h.surv i o' hi
  rcases hcase with ⟨_, _, hr⟩ | ⟨hlt, _⟩
  · exact (h.keeps (reachG_reach hall hr)).2
  · exact absurd (hall i o ho) (Nat.not_le.mpr hlt)

theorem collectGen_spec (s : St) (g : Nat) (hg : g ≤ 2) (hinv : Inv s) : Collected s g (collectGen s g) := by
  obtain ⟨c6, len6⟩ := heap6_spec s g hg hinv
  have hMU : GCH_MOVED ≠ GCH_UNREACHABLE := by decide
  have hTMP : TMP ≠ g := by unfold TMP; omega
  have frame7 : SameFrame { s with heap := heap6 s g } (finalizeAll { s with heap := heap6 s g } g) :=
    finalizeFold_frame _ _
  obtain ⟨c9, back9⟩ := c6.dispose g (if g < 2 then g + 1 else g) (by
    intro i o6 hi6
    obtain ⟨_, _, _, _, hs6⟩ := heap6_back s g hg hinv hi6
    rcases hs6 with ⟨hgen, hmk, _⟩ | ⟨hT, hmv, _⟩ | ⟨hgen, hmv, hlt, _⟩
    · exact ⟨fun _ => hmk, fun _ => hgen⟩
    · exact ⟨fun e => absurd (hT.symm.trans e) hTMP, fun e => absurd (hmv.symm.trans e) hMU⟩
    · exact ⟨fun e => by omega, fun e => absurd (hmv.symm.trans e) hMU⟩)
  obtain ⟨q0, q1, q2, q3, he⟩ := collectGen_eq s g hinv.legacy
  rw [he]
  have surv : ∀ i o9, (promote (dropShells (finalizeAll { s with heap := heap6 s g } g).heap g)
        (if g < 2 then g + 1 else g)).get i = some o9 →
      ∃ o, s.heap.get i = some o ∧ o9.children = o.children ∧ o9.gcRefs = GCH_MOVED ∧
        ((o.gen ≤ g ∧ o9.gen = (if g < 2 then g + 1 else g) ∧ ReachG s g i) ∨ (g < o.gen ∧ o9.gen = o.gen)) := by
    intro i o9 hi9
    obtain ⟨o6, ho6, hne, hgc, hch, hgen9⟩ := back9 i o9 hi9
    obtain ⟨o, ho, _, hch6, hs6⟩ := heap6_back s g hg hinv ho6
    refine ⟨o, ho, hch.trans hch6, ?_⟩
    rcases hs6 with ⟨hgen, _⟩ | ⟨hT, hmv, hle, hr, _⟩ | ⟨hgen, hmv, hlt, h2⟩
    · exact absurd hgen hne
    · exact ⟨hgc.trans hmv, Or.inl ⟨hle, by rw [hgen9, if_pos hT], hr⟩⟩
    · exact ⟨hgc.trans hmv, Or.inr ⟨hlt, by rw [hgen9, if_neg (by unfold TMP; omega), hgen]⟩⟩
  refine ⟨⟨c9.congr rfl rfl rfl, ?_, frame7.legacy.trans hinv.legacy⟩, frame7.roots, ?_, surv⟩
  · intro i o9 hi9
    obtain ⟨o, ho, _, hmv, hcase⟩ := surv i o9 hi9
    have := (hinv.gc i o ho).gen_le
    refine Or.inl ⟨hmv, ?_⟩
    rcases hcase with ⟨_, h9, _⟩ | ⟨_, h9⟩
    · rw [h9]; split <;> omega
    · omega
  · show (promote (dropShells (finalizeAll { s with heap := heap6 s g } g).heap g) _).length = _
    unfold promote dropShells
    rw [Heap.length_upd, List.length_map]
    exact frame7.length.trans len6

theorem collectAuto_fst (s : St) : (collectAuto s).1 = collectGen s (collectAuto s).2 ∧ (collectAuto s).2 ≤ 2 := by
  unfold collectAuto
  split
  · exact ⟨rfl, Nat.le_refl 2⟩
  · split
    · exact ⟨rfl, by omega⟩
    · exact ⟨rfl, by omega⟩

theorem inv_collectAuto (s : St) (h : Inv s) : Inv (collectAuto s).1 := by
  rw [(collectAuto_fst s).1]
  exact (collectGen_spec s _ (collectAuto_fst s).2 h).inv

theorem gc_fst (s : St) (gen : Int) : (gc s gen).1 = collectGen s (gc s gen).2 ∧ (gc s gen).2 ≤ 2 := by
  unfold gc
  split
  · exact collectAuto_fst s
  · refine ⟨rfl, ?_⟩
    simp only
    split <;> omega

theorem gc_snd_full (s : St) (gen : Int) (h : 2 ≤ gen) : (gc s gen).2 = 2 := by
  unfold gc
  rw [if_neg (by omega)]
  simp only
  split <;> omega

theorem gc_explicit (s : St) (n : Nat) (hn : n ≤ 2) : (gc s (n : Int)).1 = collectGen s n ∧ (gc s (n : Int)).2 = n := by
  have : n = 0 ∨ n = 1 ∨ n = 2 := by omega
  rcases this with rfl | rfl | rfl <;> simp [gc]

theorem gc_spec (s : St) (gen : Int) (h : Inv s) : Collected s (gc s gen).2 (gc s gen).1 := by
  rw [(gc_fst s gen).1]
  exact collectGen_spec s _ (gc_fst s gen).2 h

theorem inv_alloc (s : St) (h : Inv s) : Inv (alloc s).1 := by
  unfold alloc
  simp only
  split
  · exact inv_push _ (inv_collectAuto s h) _ rfl rfl (Or.inr ⟨rfl, rfl⟩)
  · exact inv_push _ h _ rfl rfl (Or.inr ⟨rfl, rfl⟩)

theorem inv_setThreshold (s : St) (g t : Int) (h : Inv s) : Inv (setThreshold s g t).1 := by
  have key : (setThreshold s g t).1.heap = s.heap ∧ (setThreshold s g t).1.roots = s.roots ∧
      (setThreshold s g t).1.fault = s.fault ∧ (setThreshold s g t).1.legacy = s.legacy := by
    unfold setThreshold
    simp only
    split <;> split <;> simp
  obtain ⟨k1, k2, k3, k4⟩ := key
  exact ⟨h.c.congr k1 k2 k3, by rw [k1]; exact h.gc, by rw [k4]; exact h.legacy⟩

theorem getD_ind {P : St → Prop} {r : Option St} {s : St} (hs : P s) (h : ∀ s', r = some s' → P s') :
    P (r.getD s) := by
  cases r with
  | none => exact hs
  | some s' => exact h s' rfl

theorem inv_step (s : St) (op : Op) (h : Inv s) : Inv (step s op) := by
  cases op with
  | alloc => exact inv_alloc s h
  | link p c => exact getD_ind h fun s' hs => inv_link s p c s' h hs
  | unlink p c => exact getD_ind h fun s' hs => inv_unlink s p c s' h hs
  | relink p c d => exact getD_ind h fun s' hs => inv_relink s p c d s' h hs
  | clear p => exact getD_ind h fun s' hs => inv_clear s p s' h hs
  | addRoot o => exact getD_ind h fun s' hs => inv_addRoot s o s' h hs
  | take p c => exact getD_ind h fun s' hs => inv_addRoot s c s' h (take_addRoot hs)
  | dropRoot o => exact getD_ind h fun s' hs => inv_dropRoot s o s' h hs
  | gc g => exact (gc_spec s g h).inv
  | setThr g t => exact inv_setThreshold s g t h

theorem inv_foldl (ops : List Op) (s : St) (h : Inv s) : Inv (ops.foldl step s) :=
  List.foldlRecOn ops step h fun s h op _ => inv_step s op h

theorem inv_run (ops : List Op) : Inv (run ops) := inv_foldl ops {} inv_init

theorem run_snoc (ops : List Op) (op : Op) : run (ops ++ [op]) = step (run ops) op := by simp [run]

theorem run_append (ops ops' : List Op) : run (ops ++ ops') = ops'.foldl step (run ops) := by simp [run]

theorem run_gc (ops : List Op) (gen : Int) : Collected (run ops) (gc (run ops) gen).2 (run (ops ++ [.gc gen])) := by
  rw [run_snoc]
  exact gc_spec (run ops) gen (inv_run ops)

theorem run_gc_nat (ops : List Op) (n : Nat) (hn : n ≤ 2) : Collected (run ops) n (run (ops ++ [.gc (n : Int)])) := by
  have := run_gc ops n
  rwa [(gc_explicit _ n hn).2] at this

theorem step_dropRoot_roots (s : St) (o : Id) : (step s (.dropRoot o)).roots = s.roots.erase o := by
  simp only [step, dropRoot]
  by_cases hm : o ∈ s.roots
  · simp only [hm, if_true, Option.getD_some]; exact (refdown_frame _ o).roots
  · simp only [hm, if_false, Option.getD_none]; exact (List.erase_of_not_mem hm).symm

theorem step_dropRoot_self (s : St) {o : Id} {ob : Obj} (hr : o ∈ s.roots) (h : s.heap.get o = some ob)
    (hpos : 0 < ob.refs) :
    (step s (.dropRoot o)).heap.get o = if ob.refs = 1 then none else some { ob with refs := ob.refs - 1 } := by
  simp only [step, dropRoot, hr, if_true, Option.getD_some]
  exact refdown_self _ o ob h hpos

theorem step_unlink_elem (s : St) {p c : Id} {op oc : Obj} (hp : s.heap.get p = some op) (hmem : c ∈ op.children)
    (hne : p ≠ c) (hc : s.heap.get c = some oc) (hu : oc.gcRefs ≠ GCH_UNREACHABLE) (hpos : 0 < oc.refs) :
    (step s (.unlink p c)).heap.get c = if oc.refs = 1 then none else some { oc with refs := oc.refs - 1 } := by
  simp only [step, unlink, hp, hmem, if_true, Option.getD_some]
  have hc' : Heap.get (s.heap.set p (some { op with children := op.children.erase c })) c = some oc :=
    (Heap.get_set_ne _ _ _ _ hne).trans hc
  rw [← refdown_eq_cascade]
  · exact refdown_self _ c oc hc' hpos
  · intro ob hob
    rw [hc'] at hob; cases hob
    exact hu

/-- the first half of `fini_rtx` is a history of `dropRoot`s -/
theorem dropAll_spec (l : List Id) (s : St) (h : Inv s) (hl : s.roots = l) :
    Inv (l.foldl (fun s r => (dropRoot s r).getD s) s) ∧ (l.foldl (fun s r => (dropRoot s r).getD s) s).roots = [] := by
  induction l generalizing s with
  | nil => exact ⟨h, hl⟩
  | cons r t ih =>
    refine ih (step s (.dropRoot r)) (inv_step s _ h) ?_
    rw [step_dropRoot_roots, hl, List.erase_cons_head]

/-! Unfolding equations of `moveLoop` without the dependent match, for evaluating concrete histories by `simp`
(`cascade_nil` and `cascade_cons` are those of `cascade`). -/

theorem moveLoop_nil (h : Heap) : moveLoop h [] = h := by rw [moveLoop]

theorem moveLoop_cons (h : Heap) (c : Id) (rest : List Id) :
    moveLoop h (c :: rest) = match h.get c with
      | none => moveLoop h rest
      | some oc =>
        if oc.gcRefs ≠ GCH_MOVED then moveLoop (h.set c (some { oc with gen := TMP, gcRefs := GCH_MOVED })) (rest ++ oc.children)
        else moveLoop h rest := by
  rw [moveLoop]
  split
  · rename_i hn; simp [hn]
  · rename_i oc hoc; simp [hoc]

end Hawk.Gc
