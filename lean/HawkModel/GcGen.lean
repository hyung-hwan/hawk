import HawkModel.GcLemmas
/-!
# C07 — the pressure and threshold counters, and `fini_rtx`

The refcount cascade and the finalisers leave the counters alone (`SameFrame`), so a collection moves them as
`bumpPressure` does; `fini_rtx` ends in a full collection, the case of `Collected.full` with no older generation.
-/
namespace Hawk.Gc

/-- the seven counters of `rtx->gc` -/
def St.counters (s : St) : Nat × Nat × Nat × Nat × Nat × Nat × Nat := (s.p0, s.p1, s.p2, s.p3, s.t0, s.t1, s.t2)

theorem SameFrame.counters {s s' : St} (h : SameFrame s s') : s'.counters = s.counters := by
  obtain ⟨_, _, rfl, _⟩ := h; rfl

theorem bumpPressure_counters {s s' : St} (h : s'.counters = s.counters) (g : Nat) :
    (bumpPressure s' g).counters = (bumpPressure s g).counters := by
  simp only [St.counters, Prod.mk.injEq] at h
  obtain ⟨h0, h1, h2, h3, h4, h5, h6⟩ := h
  unfold bumpPressure
  split <;> simp only [St.counters, h1, h2, h3, h4, h5, h6]

/-- `pressure[gen + 1]++; pressure[gen] = 0; pressure[0] = 0;` is all a collection does to the counters: the
finalisers in between leave them alone -/
theorem collectGen_counters (s : St) (g : Nat) :
    (collectGen s g).counters = (bumpPressure s g).counters := by
  unfold collectGen freeUnreachables
  apply bumpPressure_counters (s := s)
  exact (finalizeFold_frame _ { s with heap := _ }).counters

theorem collectAuto_p0 (s : St) : (collectAuto s).1.p0 = 0 := by
  have := collectGen_counters s (collectAuto s).2
  simp only [St.counters, Prod.mk.injEq] at this
  rw [(collectAuto_fst s).1, this.1]
  unfold bumpPressure
  split <;> rfl

theorem link_counters {s : St} {p c : Id} {s' : St} (h : link s p c = some s') : s'.counters = s.counters := by
  unfold link at h
  split at h
  · cases h; rfl
  · cases h

theorem unlink_counters {s : St} {p c : Id} {s' : St} (h : unlink s p c = some s') : s'.counters = s.counters := by
  unfold unlink at h
  split at h
  · split at h
    · cases h; exact (cascade_frame _ _).counters
    · cases h
  · cases h

theorem relink_counters {s : St} {p c d : Id} {s' : St} (h : relink s p c d = some s') : s'.counters = s.counters := by
  rcases relink_cases h with rfl | ⟨s1, hu, hl⟩
  · rfl
  · rw [link_counters hl, unlink_counters hu]

theorem clear_counters {s : St} {p : Id} {s' : St} (h : clear s p = some s') : s'.counters = s.counters := by
  unfold clear at h
  split at h
  · split at h
    · cases h; exact (cascade_frame _ _).counters
    · cases h
  · cases h

theorem addRoot_counters {s : St} {o : Id} {s' : St} (h : addRoot s o = some s') : s'.counters = s.counters := by
  unfold addRoot at h
  split at h
  · cases h; rfl
  · cases h

theorem take_counters {s : St} {p c : Id} {s' : St} (h : take s p c = some s') : s'.counters = s.counters :=
  addRoot_counters (take_addRoot h)

theorem dropRoot_counters {s : St} {o : Id} {s' : St} (h : dropRoot s o = some s') : s'.counters = s.counters := by
  obtain ⟨_, rfl⟩ := dropRoot_some h
  exact (refdown_frame _ _).counters

theorem getD_counters {s : St} {r : Option St} (h : ∀ s', r = some s' → s'.counters = s.counters) :
    (r.getD s).counters = s.counters :=
  getD_ind (P := fun s' => s'.counters = s.counters) rfl h

/-- `fini_rtx` from any state satisfying the invariant: with every holder gone nothing is reachable, so the full
collection leaves nothing -/
theorem teardown_spec (s : St) (h : Inv s) :
    (∀ i, (teardown s).heap.get i = none) ∧ (teardown s).fault = false ∧ (teardown s).roots = [] := by
  obtain ⟨hinv, hroots⟩ := dropAll_spec s.roots s h rfl
  have hc := gc_spec _ 2147483647 hinv
  rw [gc_snd_full _ _ (by omega)] at hc
  refine ⟨fun i => ?_, hc.inv.c.nofault, hc.roots.trans hroots⟩
  cases hi : (teardown s).heap.get i with
  | none => rfl
  | some o => exact (no_reach_of_no_roots (hc.roots.trans hroots)
      (hc.full (fun j oj hj => (hinv.gc j oj hj).gen_le) hi)).elim

end Hawk.Gc
