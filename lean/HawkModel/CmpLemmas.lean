import HawkModel.Cmp
/-! Comparison of scalars is a table of routines whose leaves are the three-way helpers of run.c; these are one function,
    `cmp3` of a strict order (`compChars` on the folded texts, ordered lexicographically), so their laws are proved once and
    the table facts are sweeps over the scalar pairs. Sorting is generic in a comparator that may fail. -/
namespace Hawk.Cmp
variable {F : Type}

def FltAsymm (P : Params F) : Prop := ∀ x y, P.lt x y = true → P.lt y x = false

/-- what the property's "finite floats" buys: `<` on hawk_flt_t is a strict weak order, and the
    int→float conversion is exact enough to be strictly monotone (true of a 64-bit-mantissa long double) -/
structure FltLaws (P : Params F) : Prop where
  asymm : ∀ x y, P.lt x y = true → P.lt y x = false
  negTrans : ∀ x y z, P.lt x y = false → P.lt y z = false → P.lt x z = false
  ofInt_lt : ∀ i j : Int, P.lt (P.ofInt i) (P.ofInt j) = decide (i < j)

section
variable {α ε : Type}

/-- `x ≤ y` under a three-way comparator that may fail -/
def LeC (c : α → α → Except ε Int) (x y : α) : Prop := ∃ n, c x y = .ok n ∧ n ≤ 0

theorem leC_ok {c : α → α → Except ε Int} {x y : α} {n : Int} (h : c x y = .ok n) : LeC c x y ↔ n ≤ 0 := by
  simp [LeC, h]

/-- the comparator never fails on `S`, and `LeC` is total and transitive there -/
structure TotalPreorderOn (c : α → α → Except ε Int) (S : α → Prop) : Prop where
  ok : ∀ x y, S x → S y → ∃ n, c x y = .ok n
  total : ∀ x y, S x → S y → LeC c x y ∨ LeC c y x
  trans : ∀ x y z, S x → S y → S z → LeC c x y → LeC c y z → LeC c x z
end

/-- the "kinds" of the property: all numbers, all (plain) strings; and further classes on which the
    comparator is also a total preorder: numeric strings (flag set), byte strings, characters, byte characters -/
inductive Kind where
  | num | str | nstr | mbs | char | bchr
  deriving DecidableEq, Repr

def Val.hasKind (v : Val F) : Kind → Bool
  | .num => match v with | .int _ | .flt _ => true | _ => false
  | .str => match v with | .str _ n => n == 0 | _ => false
  | .nstr => match v with | .str _ n => n != 0 | _ => false
  | .mbs => match v with | .mbs _ _ => true | _ => false
  | .char => match v with | .char _ => true | _ => false
  | .bchr => match v with | .bchr _ => true | _ => false

/-- `v_nstr` is what `hawk_rtx_makenstrvalwithoochars` assigns: `hawk_oochars_to_num(..) + 1` or 0 -/
def NstrOK (P : Params F) : Val F → Prop
  | .str s n => n = 0 ∨ (n = 1 ∧ ∃ i, P.strToNum s = .int i) ∨ (n = 2 ∧ ∃ f, P.strToNum s = .flt f)
  | _ => True

/-- strings that `hawk_comp_oochars` finds equal (case-insensitively when IGNORECASE is on) are numeric
    strings of the same sort and convert to the same numbers -/
def FoldNum (P : Params F) (cfg : Cfg) : Prop := ∀ s t, compOo P cfg s t = 0 →
  ((∃ i, P.strToNum s = .int i) → ∃ j, P.strToNum t = .int j) ∧
  ((∃ f, P.strToNum s = .flt f) → ∃ g, P.strToNum t = .flt g) ∧
  P.strToInt s = P.strToInt t ∧
  P.lt (P.strToFlt s).1 (P.strToFlt t).1 = false ∧ P.lt (P.strToFlt t).1 (P.strToFlt s).1 = false

/-- number parsing reads the case-folded text only (`1E1`/`1e1`, `0X1a`/`0x1A`) -/
def CaseInsensitiveParse (P : Params F) : Prop := ∀ s t : Str, s.map P.lower = t.map P.lower →
  P.strToNum s = P.strToNum t ∧ P.strToInt s = P.strToInt t ∧ P.strToFlt s = P.strToFlt t

theorem Ty.code_lt (t : Ty) : t.code < 10 := by cases t <;> decide

theorem Ty.ofCode_code (t : Ty) : Ty.ofCode t.code = some t := by cases t <;> rfl

theorem Ty.code_inj {l r : Ty} (h : l.code = r.code) : l = r :=
  Option.some.inj (by rw [← Ty.ofCode_code l, h, Ty.ofCode_code])

theorem table_eq : Gen.table = (List.range 100).map (fun i => (i / 10, i % 10)) := by decide +kernel

theorem table_ok (l r : Ty) : Gen.table[l.code * Gen.stride + r.code]? = some (l.code, r.code) := by
  have hl := l.code_lt
  have hr := r.code_lt
  rw [table_eq, show Gen.stride = 10 from rfl, List.getElem?_map, List.getElem?_range (by omega)]
  simp only [Option.map_some, Option.some.injEq, Prod.mk.injEq]
  omega

/-- `expectedShape` on type codes; the `else` is what `Gen.shape` answers off the table -/
def shapeOfCodes (l r : Nat) : Gen.Shape :=
  if l < 10 ∧ r < 10 then expectedShape ((Ty.ofCode l).getD .nil) ((Ty.ofCode r).getD .nil) else .reject

/-- Stated for all codes, not only `l.code`, `r.code`: the routines look up the shapes of their callees, whose
    codes are what `Gen.shape` answered. -/
theorem shape_eq (l r : Nat) : Gen.shape l r = shapeOfCodes l r := by
  by_cases h : l < 10 ∧ r < 10
  · exact (by decide +kernel : ∀ l < 10, ∀ r < 10, Gen.shape l r = shapeOfCodes l r) l h.1 r h.2
  · have hk : ∀ e ∈ Gen.shapes, e.1.1 < 10 ∧ e.1.2 < 10 := by decide +kernel
    have hnone : Gen.shapes.find? (fun e => e.1.1 == l && e.1.2 == r) = none :=
      List.find?_eq_none.mpr fun e he => by have := hk e he; simp; omega
    rw [Gen.shape, hnone, shapeOfCodes, if_neg h]

theorem shape_ok (l r : Ty) : Gen.shape l.code r.code = expectedShape l r := by
  rw [shape_eq, shapeOfCodes, if_pos ⟨l.code_lt, r.code_lt⟩, Ty.ofCode_code, Ty.ofCode_code]
  rfl

theorem run2_code (P : Params F) (cfg : Cfg) (l r : Ty) : run2 P cfg l.code r.code = routine P cfg l r := by
  funext h a b
  -- the pair's own shape is read off `shape_ok` for all pairs at once; only a callee's shape is computed per pair
  simp only [run2, run1, run0, shape_ok, Ty.ofCode_code]
  simp only [shape_eq, shapeOfCodes]
  cases l <;> cases r <;> rfl

theorem cmpVal_eq_direct (P : Params F) (cfg : Cfg) (h : Hint) (a b : Val F) :
    cmpVal P cfg h a b = cmpDirect P cfg h a b := by
  simp only [cmpVal, cmpDirect, table_ok, run2_code]

def Tri (n : Int) : Prop := n = -1 ∨ n = 0 ∨ n = 1
theorem tri_zero : Tri 0 := .inr (.inl rfl)
theorem tri_one : Tri 1 := .inr (.inr rfl)
theorem tri_neg {n : Int} : Tri (-n) ↔ Tri n := by unfold Tri; omega
theorem tri_ite {c : Prop} [Decidable c] {x y : Int} (hx : Tri x) (hy : Tri y) : Tri (if c then x else y) := by
  split <;> assumption

/-- `(x > y)? 1: ((x < y)? -1: 0)` over any `<`: `cmp3Nat`, `cmp3Int`, `cmp3F` are this by unfolding, `compChars` is
    this on the folded texts under the lexicographic order -/
def cmp3 {K : Type} (lt : K → K → Prop) [DecidableRel lt] (a b : K) : Int :=
  if lt b a then 1 else if lt a b then -1 else 0

section
variable {K : Type} {lt : K → K → Prop} [DecidableRel lt] (a b : K)

theorem cmp3_tri : Tri (cmp3 lt a b) :=
  tri_ite tri_one (tri_ite (tri_neg.mpr tri_one) tri_zero)

theorem cmp3_antisymm (h : ∀ a b, lt a b → ¬ lt b a) : cmp3 lt b a = -cmp3 lt a b := by
  unfold cmp3
  by_cases hab : lt a b
  · simp [hab, h a b hab]
  · by_cases hba : lt b a <;> simp [hab, hba]

theorem cmp3_le_iff : cmp3 lt a b ≤ 0 ↔ ¬ lt b a := by
  unfold cmp3
  by_cases hba : lt b a <;> by_cases hab : lt a b <;> simp [hab, hba]

theorem cmp3_eq_zero : cmp3 lt a b = 0 ↔ ¬ lt a b ∧ ¬ lt b a := by
  unfold cmp3
  by_cases hba : lt b a <;> by_cases hab : lt a b <;> simp [hab, hba]
end

theorem compChars_eq (f : Nat → Nat) : ∀ s t : Str, compChars f s t = cmp3 (· < ·) (s.map f) (t.map f)
  | [], [] | [], _ :: _ | _ :: _, [] => rfl
  | a :: as, b :: bs => by
    simp only [compChars, compChars_eq f as bs, cmp3, List.map_cons, List.cons_lt_cons_iff]
    rcases Nat.lt_trichotomy (f a) (f b) with h | h | h
    · simp [h, Nat.lt_asymm h, Nat.ne_of_gt h]
    · simp [h]
    · simp [h, Nat.ne_of_lt h]

theorem cmp3Nat_tri (a b : Nat) : Tri (cmp3Nat a b) := cmp3_tri (lt := (· < ·)) a b
theorem cmp3Int_tri (a b : Int) : Tri (cmp3Int a b) := cmp3_tri (lt := (· < ·)) a b
theorem cmp3F_tri (P : Params F) (a b : F) : Tri (cmp3F P a b) := cmp3_tri (lt := (P.lt · · = true)) a b
theorem compChars_tri (f : Nat → Nat) (s t : Str) : Tri (compChars f s t) := compChars_eq f s t ▸ cmp3_tri _ _
theorem compOo_tri (P : Params F) (cfg : Cfg) (s t : Str) : Tri (compOo P cfg s t) := compChars_tri _ _ _
theorem compBc_tri (P : Params F) (cfg : Cfg) (s t : Str) : Tri (compBc P cfg s t) := compChars_tri _ _ _

theorem cmp3Nat_antisymm (a b : Nat) : cmp3Nat b a = -cmp3Nat a b :=
  cmp3_antisymm (lt := (· < ·)) a b fun _ _ => Nat.lt_asymm
theorem cmp3Int_antisymm (a b : Int) : cmp3Int b a = -cmp3Int a b :=
  cmp3_antisymm (lt := (· < ·)) a b fun _ _ => Int.lt_asymm
theorem cmp3F_antisymm (P : Params F) (hP : FltAsymm P) (a b : F) : cmp3F P b a = -cmp3F P a b :=
  cmp3_antisymm (lt := (P.lt · · = true)) a b fun x y h => by simp [hP x y h]
theorem compChars_antisymm (f : Nat → Nat) (s t : Str) : compChars f t s = -compChars f s t := by
  rw [compChars_eq, compChars_eq]
  exact cmp3_antisymm _ _ fun _ _ => List.lt_asymm

theorem cmp3Int_eq_cmp3F (P : Params F) (hL : FltLaws P) (i j : Int) :
    cmp3Int i j = cmp3F P (P.ofInt i) (P.ofInt j) := by
  simp only [cmp3Int, cmp3F, hL.ofInt_lt, decide_eq_true_eq, gt_iff_lt]

theorem cmp3F_le_iff (P : Params F) (x y : F) : cmp3F P x y ≤ 0 ↔ P.lt y x = false :=
  Bool.not_eq_true (P.lt y x) ▸ cmp3_le_iff (lt := (P.lt · · = true)) x y

theorem cmp3F_trans (P : Params F) (hL : FltLaws P) (x y z : F) :
    cmp3F P x y ≤ 0 → cmp3F P y z ≤ 0 → cmp3F P x z ≤ 0 := by
  rw [cmp3F_le_iff, cmp3F_le_iff, cmp3F_le_iff]
  intro h1 h2; exact hL.negTrans z y x h2 h1

theorem cmp3Nat_le_iff (a b : Nat) : cmp3Nat a b ≤ 0 ↔ a ≤ b :=
  (cmp3_le_iff (lt := (· < ·)) a b).trans Nat.not_lt

theorem cmp3Nat_trans (a b c : Nat) : cmp3Nat a b ≤ 0 → cmp3Nat b c ≤ 0 → cmp3Nat a c ≤ 0 := by
  rw [cmp3Nat_le_iff, cmp3Nat_le_iff, cmp3Nat_le_iff]; omega

theorem compChars_le_trans (f : Nat → Nat) (s t u : Str) :
    compChars f s t ≤ 0 → compChars f t u ≤ 0 → compChars f s u ≤ 0 := by
  simp only [compChars_eq, cmp3_le_iff]
  exact List.le_trans

theorem compChars_eq_zero_map (f : Nat → Nat) (s t : Str) (h : compChars f s t = 0) : s.map f = t.map f := by
  rw [compChars_eq, cmp3_eq_zero] at h
  exact List.le_antisymm h.2 h.1

theorem compChars_id_eq (s t : Str) (h : compChars id s t = 0) : s = t := by
  simpa using compChars_eq_zero_map id s t h

theorem neg_neg (r : Except Err Int) : neg (neg r) = r := by
  cases r <;> simp [neg]

theorem neg_ok (n : Int) : neg (.ok n) = .ok (-n) := rfl

def OkTri (r : Except Err Int) : Prop := ∃ n, r = .ok n ∧ Tri n
theorem okTri_ok {n : Int} : OkTri (.ok n) ↔ Tri n := by
  simp [OkTri]
theorem okTri_neg {r : Except Err Int} : OkTri (neg r) ↔ OkTri r := by
  cases r <;> simp [OkTri, neg, tri_neg]

theorem refusesMap_scalar (cfg : Cfg) (a b : Val F) (ha : a.scalar = true) (hb : b.scalar = true) :
    refusesMap cfg a b = false := by
  have key : ∀ v : Val F, v.scalar = true → (v.ty == .map) = false ∧ (v.ty == .arr) = false := by
    intro v hv; cases v <;> cases hv <;> exact ⟨rfl, rfl⟩
  simp only [refusesMap, key a ha, key b hb, Bool.or_self, Bool.and_false]

theorem cmpVal_scalar (P : Params F) (cfg : Cfg) (h : Hint) (a b : Val F)
    (ha : a.scalar = true) (hb : b.scalar = true) :
    cmpVal P cfg h a b = routine P cfg a.ty b.ty h a b := by
  simp [cmpVal_eq_direct, cmpDirect, refusesMap_scalar cfg a b ha hb]

/-- Every routine ends in a literal, a three-way primitive or an `if` of such, negated below the diagonal; only
    `rIntStr` and `rIntMbs` have a `match` (on the parsed number) left to split. -/
theorem routine_scalar_ok (P : Params F) (cfg : Cfg) (h : Hint) (a b : Val F)
    (ha : a.scalar = true) (hb : b.scalar = true) : OkTri (routine P cfg a.ty b.ty h a b) := by
  cases a <;> cases ha <;> cases b <;> cases hb <;>
  dsimp only [Val.ty, routine, mirrorOf, rNilNil, rNilChar, rNilBchr, rNilInt, rNilFlt,
    rNilStr, rNilMbs, rCharChar, rCharBchr, rCharInt, rCharStr, rCharMbs, rBchrBchr, rBchrInt, rBchrStr, rBchrMbs,
    rIntInt, rIntFlt, rIntStr, rIntMbs, rFltFlt, rFltStr, rFltMbs, rStrStr, rStrMbs, rMbsMbs] <;>
  simp only [okTri_ok, okTri_neg, apply_ite OkTri, tri_ite, tri_neg, tri_zero, tri_one,
    cmp3Nat_tri, cmp3Int_tri, cmp3F_tri, compOo_tri, compBc_tri, ite_self]
  all_goals repeat' split
  all_goals simp only [okTri_ok, cmp3Int_tri, cmp3F_tri, compOo_tri, compBc_tri]

theorem routine_hint (P : Params F) (cfg : Cfg) (h h' : Hint) (a b : Val F)
    (ha : a.scalar = true) (hb : b.scalar = true) :
    routine P cfg a.ty b.ty h a b = routine P cfg a.ty b.ty h' a b := by
  cases a <;> cases ha <;> cases b <;> cases hb <;> rfl

theorem rStrStr_antisymm (P : Params F) (hP : FltAsymm P) (cfg : Cfg) (h : Hint) (s t : Str) (m n : Nat) :
    rStrStr P cfg h (.str t n) (.str s m) = neg (rStrStr P cfg h (.str s m) (.str t n)) := by
  -- negation moves into the branches and swaps the operands of each primitive; the flags are then tested in the other order
  simp only [rStrStr, apply_ite neg, neg_ok, ← cmp3Int_antisymm, ← cmp3F_antisymm P hP, compOo, ← compChars_antisymm,
    Bool.or_comm (decide (n = 0))]
  by_cases hm1 : m = 1 <;> by_cases hn1 : n = 1 <;> simp only [hm1, hn1, if_true, if_false]

/-- `mirrorOf` passes the inverse hint, which no routine of a scalar pair reads: hence the same `h` on both sides -/
theorem routine_mirror (P : Params F) (cfg : Cfg) (h : Hint) (a b : Val F)
    (ha : a.scalar = true) (hb : b.scalar = true) (hlt : a.ty.code < b.ty.code) :
    routine P cfg b.ty a.ty h b a = neg (routine P cfg a.ty b.ty h a b) := by
  cases a <;> cases ha <;> cases b <;> cases hb <;> first | exact absurd hlt (of_decide_eq_false rfl) | rfl

theorem routine_antisymm (P : Params F) (hP : FltAsymm P) (cfg : Cfg) (h : Hint) (a b : Val F)
    (ha : a.scalar = true) (hb : b.scalar = true) :
    routine P cfg b.ty a.ty h b a = neg (routine P cfg a.ty b.ty h a b) := by
  rcases Nat.lt_trichotomy a.ty.code b.ty.code with hlt | heq | hgt
  · exact routine_mirror P cfg h a b ha hb hlt
  · have hab := Ty.code_inj heq
    cases a <;> cases ha <;> cases b <;> cases hab
    · rfl
    · exact congrArg Except.ok (cmp3Nat_antisymm _ _)
    · exact congrArg Except.ok (cmp3Nat_antisymm _ _)
    · exact congrArg Except.ok (cmp3Int_antisymm _ _)
    · exact congrArg Except.ok (cmp3F_antisymm P hP _ _)
    · exact rStrStr_antisymm P hP cfg h _ _ _ _
    · exact congrArg Except.ok (compChars_antisymm _ _ _)
  · rw [routine_mirror P cfg h b a hb ha hgt, neg_neg]

theorem cmpVal_scalar_ok (P : Params F) (cfg : Cfg) (a b : Val F) (ha : a.scalar = true) (hb : b.scalar = true) :
    ∃ n, Tri n ∧ ∀ h, cmpVal P cfg h a b = .ok n := by
  obtain ⟨n, hn, ht⟩ := routine_scalar_ok P cfg .none a b ha hb
  refine ⟨n, ht, fun h => ?_⟩
  rw [cmpVal_scalar P cfg h a b ha hb, routine_hint P cfg h .none a b ha hb, hn]

theorem cmpVal_scalar_antisymm (P : Params F) (hP : FltAsymm P) (cfg : Cfg) (a b : Val F) (ha : a.scalar = true) (hb : b.scalar = true) :
    ∃ n, (∀ h, cmpVal P cfg h a b = .ok n) ∧ (∀ h, cmpVal P cfg h b a = .ok (-n)) := by
  obtain ⟨n, _, hn⟩ := cmpVal_scalar_ok P cfg a b ha hb
  refine ⟨n, hn, fun h => ?_⟩
  rw [cmpVal_scalar P cfg h b a hb ha, routine_antisymm P hP cfg h a b ha hb, ← cmpVal_scalar P cfg h a b ha hb, hn h]
  rfl

section Sorting
variable {α ε : Type}

theorem sink_perm (c : α → α → Except ε Int) (x : α) (rp r : List α) (h : sink c x rp = .ok r) :
    r.Perm (x :: rp) := by
  fun_induction sink c x rp generalizing r with
  | case1 => cases h; exact .refl _
  | case2 => cases h
  | case3 => cases h; exact .refl _
  | case4 => cases h
  | case5 p rp n hn hle r' hr ih => cases h; exact ((ih r' hr).cons p).trans (.swap x p rp)

theorem isortAux_perm (c : α → α → Except ε Int) (rest rp out : List α) (h : isortAux c rp rest = .ok out) :
    out.Perm (rp ++ rest) := by
  fun_induction isortAux c rp rest with
  | case1 => cases h; simp
  | case2 => cases h
  | case3 rp x rest r hr ih =>
    refine (ih h).trans (((sink_perm c x rp r hr).append_right rest).trans ?_)
    simpa using (List.perm_middle (a := x) (l₁ := rp) (l₂ := rest)).symm

theorem isort_perm (c : α → α → Except ε Int) (l out : List α) (h : isort c l = .ok out) : out.Perm l := by
  simpa [isort] using isortAux_perm c l [] out h

theorem sink_sorted (c : α → α → Except ε Int) (S : α → Prop) (hT : TotalPreorderOn c S) (x : α) (hx : S x) :
    ∀ (rp : List α), (∀ y ∈ rp, S y) → rp.Pairwise (fun u v => LeC c v u) →
      ∃ r, sink c x rp = .ok r ∧ r.Pairwise (fun u v => LeC c v u)
  | [], _, _ => ⟨[x], rfl, by simp⟩
  | p :: rp, hS, hs => by
    obtain ⟨hp, hrpS⟩ := List.forall_mem_cons.mp hS
    obtain ⟨hsp, hsr⟩ := List.pairwise_cons.mp hs
    obtain ⟨n, hn⟩ := hT.ok p x hp hx
    simp only [sink, hn]
    by_cases hle : n ≤ 0
    · have hpx : LeC c p x := (leC_ok hn).mpr hle
      rw [if_pos hle]
      exact ⟨_, rfl, List.pairwise_cons.mpr ⟨List.forall_mem_cons.mpr
        ⟨hpx, fun y hy => hT.trans y p x (hrpS y hy) hp hx (hsp y hy) hpx⟩, hs⟩⟩
    · obtain ⟨r, hr, hrs⟩ := sink_sorted c S hT x hx rp hrpS hsr
      have hxp : LeC c x p := (hT.total p x hp hx).resolve_left fun h => hle ((leC_ok hn).mp h)
      have hall : ∀ y ∈ x :: rp, LeC c y p := List.forall_mem_cons.mpr ⟨hxp, hsp⟩
      rw [if_neg hle, hr]
      exact ⟨_, rfl, List.pairwise_cons.mpr ⟨fun y hy => hall y ((sink_perm c x rp r hr).mem_iff.mp hy), hrs⟩⟩

theorem isortAux_sorted (c : α → α → Except ε Int) (S : α → Prop) (hT : TotalPreorderOn c S) :
    ∀ (rest rp : List α), (∀ y ∈ rest, S y) → (∀ y ∈ rp, S y) → rp.Pairwise (fun u v => LeC c v u) →
      ∃ out, isortAux c rp rest = .ok out ∧ out.Pairwise (LeC c)
  | [], rp, _, _, hs => ⟨rp.reverse, rfl, by simpa [List.pairwise_reverse] using hs⟩
  | x :: rest, rp, hrest, hrp, hs => by
    obtain ⟨hx, hrest'⟩ := List.forall_mem_cons.mp hrest
    obtain ⟨r, hr, hrs⟩ := sink_sorted c S hT x hx rp hrp hs
    simp only [isortAux, hr]
    exact isortAux_sorted c S hT rest r hrest' (fun y hy =>
      List.forall_mem_cons.mpr ⟨hx, hrp⟩ y ((sink_perm c x rp r hr).mem_iff.mp hy)) hrs

theorem isort_sorted (c : α → α → Except ε Int) (S : α → Prop) (hT : TotalPreorderOn c S) (l : List α)
    (hl : ∀ y ∈ l, S y) : ∃ out, isort c l = .ok out ∧ out.Perm l ∧ out.Pairwise (LeC c) := by
  obtain ⟨out, h, hs⟩ := isortAux_sorted c S hT l [] hl (by simp) (by simp)
  exact ⟨out, h, isort_perm c l out h, hs⟩

theorem TotalPreorderOn.comap {β : Type} {c : α → α → Except ε Int} {S : α → Prop} (hT : TotalPreorderOn c S)
    (f : β → α) : TotalPreorderOn (fun x y => c (f x) (f y)) (fun x => S (f x)) :=
  ⟨fun _ _ => hT.ok _ _, fun _ _ => hT.total _ _, fun _ _ _ => hT.trans _ _ _⟩

/-- what `asortBy` and `fncAsortSrc` make of the sort's outcome -/
def withLength (r : Except ε (List α)) : Except ε (Nat × List α) :=
  match r with
  | .ok out => .ok (out.length, out)
  | .error e => .error e

theorem isort_withLength_perm (c : α → α → Except ε Int) (l : List α) (rv : Nat) (out : List α)
    (h : withLength (isort c l) = .ok (rv, out)) : rv = out.length ∧ out.Perm l := by
  unfold withLength at h
  split at h
  · cases h; exact ⟨rfl, isort_perm c l _ ‹_›⟩
  · cases h

theorem isort_withLength_sorted (c : α → α → Except ε Int) (S : α → Prop) (hT : TotalPreorderOn c S) (l : List α)
    (hl : ∀ y ∈ l, S y) :
    ∃ out, withLength (isort c l) = .ok (l.length, out) ∧ out.Perm l ∧ out.Pairwise (LeC c) := by
  obtain ⟨out, ho, hp, hs⟩ := isort_sorted c S hT l hl
  exact ⟨out, by rw [ho, ← hp.length_eq]; rfl, hp, hs⟩

open Classical in
theorem sorted_perm_pointwise (c : α → α → Except ε Int) (S : α → Prop) (hT : TotalPreorderOn c S)
    (l1 l2 : List α) (hS : ∀ x ∈ l1, S x) (hp : l1.Perm l2)
    (h1 : l1.Pairwise (LeC c)) (h2 : l2.Pairwise (LeC c)) (i : Nat) (hi1 : i < l1.length) (hi2 : i < l2.length) :
    LeC c l1[i] l2[i] := by
  have hx : S l1[i] := hS _ (List.getElem_mem hi1)
  have hy : S l2[i] := hS _ (hp.mem_iff.mpr (List.getElem_mem hi2))
  apply Classical.byContradiction
  intro hnot
  -- count the elements `≤ l2[i]`: the first `i + 1` of `l2` all are, of `l1` none from position `i` on
  let p : α → Bool := fun z => decide (LeC c z l2[i])
  have hall : ∀ z ∈ l2.take (i + 1), p z = true := by
    intro z hz
    obtain ⟨j, hj, rfl⟩ := List.mem_take_iff_getElem.mp hz
    rcases Nat.lt_or_eq_of_le (show j ≤ i by omega) with h | rfl
    · exact decide_eq_true (List.pairwise_iff_getElem.mp h2 j i _ hi2 h)
    · exact decide_eq_true ((hT.total _ _ hy hy).elim id id)
  have hnone : ∀ z ∈ l1.drop i, ¬ p z = true := by
    intro z hz hpz
    obtain ⟨j, hj, rfl⟩ := List.mem_drop_iff_getElem.mp hz
    rcases Nat.eq_zero_or_pos j with rfl | hpos
    · exact hnot (of_decide_eq_true hpz)
    · exact hnot (hT.trans _ _ _ hx (hS _ (List.getElem_mem _)) hy
        (List.pairwise_iff_getElem.mp h1 i (i + j) hi1 _ (by omega)) (of_decide_eq_true hpz))
  have e1 := List.countP_append (p := p) (l₁ := l1.take i) (l₂ := l1.drop i)
  rw [List.take_append_drop, List.countP_eq_zero.mpr hnone] at e1
  have e2 := (List.take_sublist (i + 1) l2).countP_le (p := p)
  rw [List.countP_eq_length.mpr hall, List.length_take] at e2
  have := hp.countP_eq p
  have := List.countP_le_length (p := p) (l := l1.take i)
  rw [List.length_take] at this
  omega

end Sorting

theorem asortBy_eq {α : Type} (P : Params F) (cfg : Cfg) (val : α → Val F) (src : Option (List α)) :
    asortBy P cfg val src = withLength (isort (fun x y => cmpVal P cfg .none (val x) (val y)) (src.getD [])) := by
  cases src with
  | none => rfl
  | some elems =>
    dsimp only [asortBy, withLength, Option.getD_some]
    cases isort (fun x y => cmpVal P cfg .none (val x) (val y)) elems <;> rfl

theorem fncAsortSrc_eq (c : Val F → Val F → Except Err Int) (sortKeys : Bool) (src : Src F) :
    fncAsortSrc c sortKeys src = withLength (isort c (src.elems sortKeys)) := by
  unfold fncAsortSrc withLength
  split
  · cases sortKeys <;> rfl
  · cases isort c (src.elems sortKeys) <;> rfl

theorem occupied_eq (sl : List (Option (Val F))) (k : Nat) :
    occupied sl k = (sl.zipIdx k).filterMap (fun p => p.1.map (fun v => (p.2, v))) := by
  induction sl generalizing k with
  | nil => rfl
  | cons o r ih => cases o <;> simp [occupied, ih]

theorem mem_occupied (sl : List (Option (Val F))) (k j : Nat) (v : Val F) :
    (j, v) ∈ occupied sl k ↔ k ≤ j ∧ sl[j - k]? = some (some v) := by
  simp [occupied_eq, List.mem_filterMap, List.mem_zipIdx_iff_le_and_getElem?_sub]

theorem hasKind_scalar (v : Val F) (k : Kind) (h : v.hasKind k = true) : v.scalar = true := by
  cases v <;> first | rfl | (cases k <;> cases h)

/-- Two scalars always compare, and one way round the result is `≤ 0` (antisymmetry); so a key under which the
    comparator is a transitive three-way comparison makes it a total preorder. -/
theorem tpo_of_key {K : Type} (P : Params F) (hP : FltAsymm P) (cfg : Cfg) (S : Val F → Prop)
    (hS : ∀ v, S v → v.scalar = true) (key : Val F → K) (c3 : K → K → Int)
    (hc : ∀ x y, S x → S y → routine P cfg x.ty y.ty .none x y = .ok (c3 (key x) (key y)))
    (htr : ∀ x y z : K, c3 x y ≤ 0 → c3 y z ≤ 0 → c3 x z ≤ 0) : TotalPreorderOn (cmpVal P cfg .none) S := by
  have hc' : ∀ x y, S x → S y → cmpVal P cfg .none x y = .ok (c3 (key x) (key y)) := fun x y hx hy =>
    (cmpVal_scalar P cfg .none x y (hS x hx) (hS y hy)).trans (hc x y hx hy)
  refine ⟨fun x y hx hy => ⟨_, hc' x y hx hy⟩, fun x y hx hy => ?_, fun x y z hx hy hz => ?_⟩
  · obtain ⟨n, h1, h2⟩ := cmpVal_scalar_antisymm P hP cfg x y (hS x hx) (hS y hy)
    rw [leC_ok (h1 .none), leC_ok (h2 .none)]
    omega
  · rw [leC_ok (hc' x y hx hy), leC_ok (hc' y z hy hz), leC_ok (hc' x z hx hz)]
    exact htr _ _ _

/-- the float by which the comparator orders numbers, and flagged numeric strings (`__cmp_str_str` reads a text
    flagged 1 as an integer, otherwise as a float) -/
def numKey (P : Params F) : Val F → F
  | .int i => P.ofInt i
  | .flt f => f
  | .str s n => if n = 1 then P.ofInt (P.strToInt s) else (P.strToFlt s).1
  | _ => P.ofInt 0

def strKey : Val F → Str
  | .str s _ => s
  | .mbs s _ => s
  | _ => []

def chrKey : Val F → Nat
  | .char c => c
  | .bchr c => c
  | _ => 0

/-- On each kind the comparator is a three-way comparison of keys.  For two flagged integer strings
    `__cmp_str_str` compares the integers, which `FltLaws.ofInt_lt` makes the same as comparing their conversions. -/
theorem kind_tpo (P : Params F) (hL : FltLaws P) (cfg : Cfg) (k : Kind) :
    TotalPreorderOn (cmpVal P cfg .none) (fun v => v.hasKind k = true) := by
  have hS : ∀ v : Val F, v.hasKind k = true → v.scalar = true := fun v => hasKind_scalar v k
  cases k
  case num =>
    refine tpo_of_key P hL.asymm cfg _ hS (numKey P) (cmp3F P) (fun a b ha hb => ?_) (cmp3F_trans P hL)
    cases a <;> cases ha <;> cases b <;> cases hb
    · exact congrArg Except.ok (cmp3Int_eq_cmp3F P hL _ _)
    · rfl
    · exact congrArg Except.ok (cmp3F_antisymm P hL.asymm _ _).symm
    · rfl
  case nstr =>
    refine tpo_of_key P hL.asymm cfg _ hS (numKey P) (cmp3F P) (fun a b ha hb => ?_) (cmp3F_trans P hL)
    cases a <;> try cases ha
    cases b <;> try cases hb
    rename_i s m t n
    have hm : m ≠ 0 := by simpa [Val.hasKind] using ha
    have hn : n ≠ 0 := by simpa [Val.hasKind] using hb
    simp only [Val.ty, routine, rStrStr, numKey]
    by_cases hm1 : m = 1 <;> by_cases hn1 : n = 1 <;> simp [hm, hn, hm1, hn1, cmp3Int_eq_cmp3F P hL]
  case str =>
    refine tpo_of_key P hL.asymm cfg _ hS strKey (compOo P cfg) (fun a b ha hb => ?_) (compChars_le_trans _)
    cases a <;> try cases ha
    cases b <;> try cases hb
    obtain rfl := beq_iff_eq.mp ha
    rfl
  case mbs =>
    refine tpo_of_key P hL.asymm cfg _ hS strKey (compBc P cfg) (fun a b ha hb => ?_) (compChars_le_trans _)
    cases a <;> cases ha <;> cases b <;> cases hb <;> rfl
  case char | bchr =>
    refine tpo_of_key P hL.asymm cfg _ hS chrKey cmp3Nat (fun a b ha hb => ?_) cmp3Nat_trans
    cases a <;> cases ha <;> cases b <;> cases hb <;> rfl

theorem subscripts_hasKind (src : Src F) : ∃ k, ∀ x ∈ src.subscripts, x.hasKind k = true := by
  cases src with
  | nil => exact ⟨.str, nofun⟩
  | map ps => exact ⟨.str, fun x hx => by obtain ⟨p, _, rfl⟩ := List.mem_map.mp hx; rfl⟩
  | arr sl => exact ⟨.num, fun x hx => by obtain ⟨p, _, rfl⟩ := List.mem_map.mp hx; rfl⟩

theorem FltAsymm.irrefl {P : Params F} (hP : FltAsymm P) (x : F) : P.lt x x = false := by
  cases h : P.lt x x
  · rfl
  · have := hP x x h; simp_all

theorem foldNum_of_caseInsensitiveParse (P : Params F) (hP : FltAsymm P) (cfg : Cfg) (hi : cfg.ignorecase = true)
    (hC : CaseInsensitiveParse P) : FoldNum P cfg := by
  intro s t hst
  simp only [compOo, hi, if_true] at hst
  obtain ⟨h1, h2, h3⟩ := hC s t (compChars_eq_zero_map _ s t hst)
  rw [h1, h2, h3]
  exact ⟨id, id, rfl, hP.irrefl _, hP.irrefl _⟩

theorem foldNum_of_exact (P : Params F) (hP : FltAsymm P) (cfg : Cfg) (h : cfg.ignorecase = false) : FoldNum P cfg := by
  intro s t hst
  obtain rfl := compChars_id_eq s t (by simpa [compOo, h] using hst)
  exact ⟨id, id, rfl, hP.irrefl _, hP.irrefl _⟩

theorem teq_cmp_zero (P : Params F) (cfg : Cfg) (hF : FoldNum P cfg) (a b : Val F)
    (ha : a.scalar = true) (hb : b.scalar = true) (hwa : NstrOK P a) (hwb : NstrOK P b)
    (ht : teqVal P cfg a b = true) : ∀ h, cmpVal P cfg h a b = .ok 0 := by
  intro h
  rw [cmpVal_scalar P cfg h a b ha hb]
  -- `===` is false on operands of different types
  cases a <;> cases ha <;> cases b <;> try cases ht
  · rfl
  all_goals simp only [teqVal, beq_iff_eq, Bool.and_eq_true, Bool.not_eq_true'] at ht
  all_goals simp only [Val.ty, routine]
  · simp [rCharChar, ht, cmp3Nat]
  · simp [rBchrBchr, ht, cmp3Nat]
  · simp [rIntInt, ht, cmp3Int]
  · simp [rFltFlt, cmp3F, ht]
  · rename_i s m t n
    obtain ⟨hi, hf, hint, hl1, hl2⟩ := hF s t ht
    simp only [NstrOK] at hwa hwb
    rcases hwa with rfl | ⟨rfl, hs⟩ | ⟨rfl, hs⟩ <;> rcases hwb with rfl | ⟨rfl, hn⟩ | ⟨rfl, hn⟩
    -- an integer string is not `===` a float string
    case inr.inl.inr.inr =>
      obtain ⟨j, hj⟩ := hi hs
      obtain ⟨g, hg⟩ := hn
      cases hj.symm.trans hg
    case inr.inr.inr.inl =>
      obtain ⟨g, hg⟩ := hf hs
      obtain ⟨j, hj⟩ := hn
      cases hg.symm.trans hj
    all_goals simp [rStrStr, ht, hint, cmp3Int, cmp3F, hl1, hl2]
  · simp [rMbsMbs, ht]

theorem Dy.lt_fin_scale (m1 e1 m2 e2 k : Int) (h1 : k ≤ e1) (h2 : k ≤ e2) :
    Dy.lt (.fin m1 e1) (.fin m2 e2) = true ↔ m1 * 2 ^ (e1 - k).toNat < m2 * 2 ^ (e2 - k).toNat := by
  have hk : k ≤ min e1 e2 := Int.le_min.mpr ⟨h1, h2⟩
  have hj1 := Int.min_le_left e1 e2
  have hj2 := Int.min_le_right e1 e2
  simp only [Dy.lt, decide_eq_true_eq]
  generalize min e1 e2 = j at hk hj1 hj2 ⊢
  -- both sides carry the extra factor `2 ^ (j - k)`
  have s : ∀ e, j ≤ e → (e - k).toNat = (e - j).toNat + (j - k).toNat := fun e _ => by omega
  rw [s e1 hj1, s e2 hj2, Int.pow_add, Int.pow_add, ← Int.mul_assoc, ← Int.mul_assoc,
    Int.mul_lt_mul_right (Int.pow_pos (by decide))]

theorem Dy.lt_asymm (x y : Dy) (h : Dy.lt x y = true) : Dy.lt y x = false := by
  cases x <;> cases y <;> simp_all [Dy.lt]
  rw [Int.min_comm]
  omega

/-- NaN breaks this only as the middle operand: `x < NaN` and `NaN < z` are false whatever `x < z` is. -/
theorem Dy.lt_negTrans (x y z : Dy) (hy : y ≠ .nan)
    (h1 : Dy.lt x y = false) (h2 : Dy.lt y z = false) : Dy.lt x z = false := by
  cases x <;> cases y <;> cases z <;> simp_all [Dy.lt]
  rename_i m1 e1 m2 e2 m3 e3
  -- compare all three at one scale below the three exponents
  obtain ⟨k, k1, k2, k3⟩ : ∃ k, k ≤ e1 ∧ k ≤ e2 ∧ k ≤ e3 := ⟨min (min e1 e2) e3, by omega, by omega, by omega⟩
  have a := Dy.lt_fin_scale m1 e1 m2 e2 k k1 k2
  have b := Dy.lt_fin_scale m2 e2 m3 e3 k k2 k3
  have c := Dy.lt_fin_scale m1 e1 m3 e3 k k1 k3
  simp only [Dy.lt, decide_eq_true_eq] at a b c
  omega

theorem Dy.ofInt_lt (i j : Int) : Dy.lt (Dy.ofInt i) (Dy.ofInt j) = decide (i < j) := by
  simp [Dy.ofInt, Dy.lt]

end Hawk.Cmp
