import HawkModel.CoreLemmas
import HawkModel.Arr
/-! The arr.c model by cases: bounds on what the capacity computation and the retry loop can return, `delete`, `uplete`,
    `update` and `insert` as one equation or disjunction each, and from those that every operation keeps `WF` and `Fits`. -/
namespace Hawk.Arr

theorem dblLoop_gt (c bound : Nat) (hc : 0 < c) : bound < dblLoop c bound := by
  fun_induction dblLoop c bound with
  | case1 c h ih => exact ih (by omega)
  | case2 c h => omega

theorem align64_ge (x : Nat) : x ≤ align64 x := by
  unfold align64; omega

theorem minCapa_le_wantCapa (a : Arr) (pos : Nat) (h : a.size ≤ a.capa) :
    minCapa a pos ≤ wantCapa a pos := by
  unfold minCapa wantCapa
  by_cases hc : a.capa = 0
  · have hs : a.size = 0 := by omega
    have := align64_ge (pos + 1)
    simp only [hc, if_true, hs]; split <;> omega
  · simp only [hc, if_false]
    split
    · have := dblLoop_gt a.capa pos (by omega); omega
    · have := dblLoop_gt a.capa a.size (by omega); omega

theorem lt_of_minCapa_le {a : Arr} {pos c : Nat} (h : minCapa a pos ≤ c) : pos < c ∧ a.size < c := by
  unfold minCapa at h; split at h <;> omega

theorem setcapaAsk_true {capa : Nat} {o o' : Oracle} (h : setcapaAsk capa o = (true, o')) : capa ≤ maxCapa := by
  unfold setcapaAsk at h
  split at h
  · simp at h
  · omega

theorem setcapaAsk_len {capa : Nat} {o o1 : Oracle} {b : Bool} (h : setcapaAsk capa o = (b, o1)) :
    o.length ≤ o1.length + 1 := by
  obtain rfl : (setcapaAsk capa o).2 = o1 := by rw [h]
  unfold setcapaAsk
  split
  · simp
  · cases o <;> simp [Oracle.next]

theorem setcapaAsk_nil {capa : Nat} {o1 : Oracle} {b : Bool} (h : setcapaAsk capa [] = (b, o1)) :
    o1 = [] ∧ (b = true ↔ capa ≤ maxCapa) := by
  unfold setcapaAsk at h
  split at h
  · cases h; exact ⟨rfl, by simp; omega⟩
  · cases h; exact ⟨rfl, by simp; omega⟩

theorem retryCapa_some (capa mincapa : Nat) (o : Oracle) (c : Nat) (o' : Oracle)
    (h : retryCapa capa mincapa o = (some c, o')) :
    (mincapa ≤ capa → mincapa ≤ c) ∧ c ≤ capa ∧ c ≤ maxCapa := by
  fun_induction retryCapa capa mincapa o with
  | case1 capa o o1 hn =>
    have := setcapaAsk_true hn
    simp at h; omega
  | case2 capa o o1 hn hc => simp at h
  | case3 capa o o1 hn hc ih => have := ih h; omega

/-- with an allocator that never refuses, a request is granted as soon as the table size fits the word: the loop
    cannot give up while the minimum capacity itself fits -/
theorem retryCapa_nil (capa mincapa : Nat) (hm : mincapa ≤ maxCapa) (hle : mincapa ≤ capa) :
    ∃ c, retryCapa capa mincapa [] = (some c, []) := by
  generalize ho : ([] : Oracle) = o
  fun_induction retryCapa capa mincapa o with
  | case1 capa o o1 hn =>
    subst ho
    exact ⟨capa, by rw [(setcapaAsk_nil hn).1]⟩
  | case2 capa o o1 hn hc =>
    subst ho
    exact absurd ((setcapaAsk_nil hn).2.2 (by omega)) (by simp)
  | case3 capa o o1 hn hc ih =>
    subst ho
    obtain rfl := (setcapaAsk_nil hn).1
    exact ih (by omega) rfl

/-- requests the retry loop can make when the wish exceeds the minimum by `d`: one, and one more per halving of `d` -/
def reqBound (d : Nat) : Nat := if d = 0 then 1 else Nat.log2 d + 2

theorem reqBound_pos (d : Nat) : 1 ≤ reqBound d := by
  unfold reqBound; split <;> omega

theorem reqBound_half (d : Nat) (h : d ≠ 0) : reqBound (d / 2) + 1 = reqBound d := by
  unfold reqBound
  rw [if_neg h, Nat.log2_def d]
  by_cases h2 : 2 ≤ d
  · rw [if_neg (by omega), if_pos h2]
  · rw [if_pos (by omega), if_neg h2]

theorem retryCapa_requests_le (capa mincapa : Nat) (o : Oracle) :
    o.length ≤ (retryCapa capa mincapa o).2.length + reqBound (capa - mincapa) := by
  fun_induction retryCapa capa mincapa o with
  | case1 capa o o1 hn | case2 capa o o1 hn hc =>
    exact Nat.le_trans (setcapaAsk_len hn) (Nat.add_le_add_left (reqBound_pos _) _)
  | case3 capa o o1 hn hc ih =>
    have h1 := setcapaAsk_len hn
    rw [Nat.add_sub_cancel_left] at ih
    rw [← reqBound_half _ (by omega : capa - mincapa ≠ 0)]
    omega

theorem occupied_append (a b : List (Option Nat)) : occupied (a ++ b) = occupied a + occupied b := by
  simp [occupied]

theorem occupied_replicate_none (n : Nat) : occupied (List.replicate n none) = 0 := by
  simp [occupied]

theorem occupied_take_drop (s : List (Option Nat)) (n : Nat) :
    occupied (s.take n) + occupied (s.drop n) = occupied s := by
  rw [← occupied_append, List.take_append_drop]

theorem occupied_insSlots (s : List (Option Nat)) (pos v : Nat) :
    occupied (insSlots s pos v) = occupied s + 1 := by
  unfold insSlots
  split
  · simp [occupied_append, occupied_replicate_none]; simp [occupied]
  · rw [occupied_append, occupied_append]
    have := occupied_take_drop s pos
    simp [occupied] at *; omega

theorem length_insSlots (s : List (Option Nat)) (pos v : Nat) :
    (insSlots s pos v).length = if pos > s.length then pos + 1 else s.length + 1 := by
  unfold insSlots
  split
  · simp only [List.length_append, List.length_replicate, List.length_singleton]; split <;> omega
  · simp only [List.length_append, List.length_take, List.length_drop, List.length_singleton]; split <;> omega

theorem occupied_le_length (s : List (Option Nat)) : occupied s ≤ s.length := by
  simp [occupied]; exact List.length_filter_le _ _

theorem occupied_eq_countP (s : List (Option Nat)) : occupied s = s.countP Option.isSome :=
  List.countP_eq_length_filter.symm

theorem occupied_set_some (s : List (Option Nat)) (i v : Nat) (hi : i < s.length) :
    occupied (s.set i (some v)) = occupied s + (if s.getD i none = none then 1 else 0) := by
  rw [occupied_eq_countP, occupied_eq_countP, List.countP_set hi, ← List.getElem_eq_getD none (h := hi)]
  have := List.boole_getElem_le_countP (p := Option.isSome) hi
  cases h : s[i] with
  | none => rfl
  | some x => exact Nat.sub_add_cancel (h ▸ this)

theorem occupied_split3 (s : List (Option Nat)) (i n : Nat) :
    occupied s = occupied (s.take i) + occupied ((s.drop i).take n) + occupied (s.drop (i + n)) := by
  have h1 := occupied_take_drop s i
  have h2 := occupied_take_drop (s.drop i) n
  rw [List.drop_drop] at h2
  omega

theorem getD_blank (s : List (Option Nat)) (i n j : Nat) (h : i + n ≤ s.length) :
    (s.take i ++ List.replicate n none ++ s.drop (i + n)).getD j none =
      if i ≤ j ∧ j < i + n then none else s.getD j none := by
  simp only [List.getD_eq_getElem?_getD, List.getElem?_append, List.getElem?_take, List.getElem?_drop,
    List.getElem?_replicate, List.length_append, List.length_take, List.length_replicate,
    Nat.min_eq_left (by omega : i ≤ s.length)]
  by_cases h1 : j < i
  · rw [if_pos (by omega), if_pos h1, if_pos h1, if_neg (by omega)]
  · by_cases h2 : j < i + n
    · rw [if_pos h2, if_neg h1, if_pos (by omega), if_pos (by omega)]; rfl
    · rw [if_neg h2, if_neg (by omega), (by omega : i + n + (j - (i + n)) = j)]

theorem getD_insSlots_append (s : List (Option Nat)) (pos v j : Nat) (h : s.length ≤ pos) :
    (insSlots s pos v).getD j none = if j = pos then some v else s.getD j none := by
  unfold insSlots
  simp only [ge_iff_le, h, if_true, List.getD_eq_getElem?_getD, List.getElem?_append, List.getElem?_replicate,
    List.length_append, List.length_replicate, (by omega : s.length + (pos - s.length) = pos)]
  by_cases h1 : j < pos
  · rw [if_pos h1, if_neg (show ¬ j = pos by omega)]
    by_cases h2 : j < s.length
    · rw [if_pos h2]
    · rw [if_neg h2, if_pos (by omega), List.getElem?_eq_none (by omega)]; rfl
  · rw [if_neg h1]
    by_cases h2 : j = pos
    · rw [if_pos h2, h2, Nat.sub_self]; rfl
    · rw [if_neg h2, List.getElem?_eq_none (by simp; omega), List.getElem?_eq_none (by omega)]

/-- the `if (count > arr->size - index) count = arr->size - index;` clamp -/
theorem clamp_eq_min (count m : Nat) : (if count > m then m else count) = min count m := by
  split <;> omega

/-- `delete` without cases: an `index` at or beyond `size`, or a count of 0, is the removal of an empty segment -/
theorem delete_eq (a : Arr) (index count : Nat) :
    delete a index count =
      ({ a with slots := a.slots.take index ++ a.slots.drop (index + min count (a.size - index)),
                size := a.size - min count (a.size - index),
                tally := a.tally - occupied ((a.slots.drop index).take (min count (a.size - index))) },
       min count (a.size - index), freedOf ((a.slots.drop index).take (min count (a.size - index)))) := by
  unfold delete
  split
  · next hi => rw [Nat.sub_eq_zero_of_le hi, Nat.min_zero, Nat.add_zero, List.take_append_drop]; rfl
  · simp only [clamp_eq_min]
    split
    · next h0 => rw [h0, Nat.add_zero, List.take_append_drop]; rfl
    · rfl

theorem uplete_eq (a : Arr) (index count : Nat) :
    uplete a index count =
      ({ a with slots := a.slots.take index ++ List.replicate (min count (a.size - index)) none
                          ++ a.slots.drop (index + min count (a.size - index)),
                tally := a.tally - occupied ((a.slots.drop index).take (min count (a.size - index))) },
       min count (a.size - index), freedOf ((a.slots.drop index).take (min count (a.size - index)))) := by
  unfold uplete
  split
  · next hi =>
    rw [Nat.sub_eq_zero_of_le hi, Nat.min_zero, Nat.add_zero, List.replicate_zero, List.append_nil,
      List.take_append_drop]
    rfl
  · simp only [clamp_eq_min]

theorem read_uplete (a : Arr) (index count j : Nat) (h : WF a) :
    read (uplete a index count).1 j =
      if index ≤ j ∧ j < index + min count (a.size - index) then none else read a j := by
  have hs := h.size_eq
  by_cases hi : index < a.size
  · rw [uplete_eq]
    exact getD_blank _ _ _ _ (by omega)
  · rw [uplete, if_pos (Nat.le_of_not_lt hi), Nat.sub_eq_zero_of_le (Nat.le_of_not_lt hi), Nat.min_zero,
      if_neg (by omega)]

theorem update_cases (a : Arr) (pos v : Nat) (o : Oracle) :
    (∃ evs o', pos < a.size ∧ update a pos v o =
        ⟨{ a with slots := a.slots.set pos (some v),
                  tally := a.tally + if a.slots.getD pos none = none then 1 else 0 }, .ok pos, evs, o'⟩)
    ∨ (∃ e o', update a pos v o = ⟨a, .error e, [], o'⟩ ∧ (e = .einval ∧ a.size ≤ pos ∨ e = .enomem)) := by
  fun_cases update a pos v o with
  | case1 hp => exact .inr ⟨_, _, rfl, .inl ⟨rfl, hp⟩⟩
  | case2 hp hc o1 ho | case5 hp c hc hcv o1 ho => exact .inr ⟨_, _, rfl, .inr rfl⟩
  | case3 hp hc o1 ho | case6 hp c hc hcv o1 ho => exact .inl ⟨_, _, Nat.lt_of_not_le hp, by rw [hc]; rfl⟩
  | case4 hp hc =>
    -- the cell already holds `v`: storing it again changes nothing
    have hs : a.slots.set pos (some v) = a.slots := by rw [← hc, List.set_getD_self]
    exact .inl ⟨_, _, Nat.lt_of_not_le hp, by rw [hs, hc]; rfl⟩

/-- the three ways `insert` can end; on success `c` is the old capacity or one the retry loop obtained.  The model's
    fourth ending, `ebuffull` (arr.c tests the capacity again after growing, for the sake of a custom sizer), is dead when
    `size ≤ capa`. -/
theorem insert_cases (a : Arr) (pos v : Nat) (o : Oracle) (h : a.size ≤ a.capa) :
    (∃ c o', insert a pos v o =
        ⟨{ slots := insSlots a.slots pos v, size := if pos > a.size then pos + 1 else a.size + 1,
           tally := a.tally + 1, capa := c }, .ok pos, [], o'⟩ ∧
        pos < c ∧ a.size < c)
    ∨ (∃ o', insert a pos v o = ⟨a, .error .enomem, [], o'⟩ ∧
        (o.next.1 = false ∨ (retryCapa (wantCapa a pos) (minCapa a pos) o.next.2).1 = none))
    ∨ (insert a pos v o = ⟨a, .error .einval, [], o⟩ ∧ maxCapa ≤ pos) := by
  fun_cases insert a pos v o with
  | case1 hfar => exact .inr (.inr ⟨rfl, hfar⟩)
  | case2 hfar o1 ho => exact .inr (.inl ⟨o1, rfl, .inl (by rw [ho])⟩)
  | case3 hfar o1 ho hfull o2 hc => exact .inr (.inl ⟨o2, rfl, .inr (by rw [ho, hc])⟩)
  | case4 hfar o1 ho hfull c o2 hc a' hfull' =>
    -- `ebuffull`: what the retry loop obtains is at least `minCapa a pos`, which is beyond both `pos` and `size`
    have hm := lt_of_minCapa_le ((retryCapa_some _ _ _ _ _ hc).1 (minCapa_le_wantCapa a pos h))
    exact absurd hfull' (by simp only [a']; omega)
  | case5 hfar o1 ho place hfull c o2 hc a' hfull' =>
    exact .inl ⟨c, o2, rfl, lt_of_minCapa_le ((retryCapa_some _ _ _ _ _ hc).1 (minCapa_le_wantCapa a pos h))⟩
  | case6 hfar o1 ho place hfull => exact .inl ⟨a.capa, o1, rfl, by omega, by omega⟩

/-- a successful `upsert` never shifts -/
theorem read_upsert (a : Arr) (pos v : Nat) (o : Oracle) (j : Nat) (h : WF a)
    (hok : (upsert a pos v o).ret = .ok pos) :
    read (upsert a pos v o).arr j = if j = pos then some v else read a j := by
  unfold upsert at *
  split at hok
  · next hp =>
    rcases update_cases a pos v o with ⟨_, _, _, he⟩ | ⟨_, _, he, _⟩
    · rw [if_pos hp, he]; exact List.getD_set _ _ _ _ (h.size_eq ▸ hp)
    · rw [he] at hok; cases hok
  · next hp =>
    rcases insert_cases a pos v o h.size_le_capa with ⟨_, _, he, _⟩ | ⟨_, he, _⟩ | ⟨he, _⟩
    · rw [if_neg hp, he]; exact getD_insSlots_append _ _ _ _ (by have := h.size_eq; omega)
    · rw [he] at hok; cases hok
    · rw [he] at hok; cases hok

theorem update_wf (a : Arr) (pos v : Nat) (o : Oracle) (h : WF a) : WF (update a pos v o).arr := by
  rcases update_cases a pos v o with ⟨_, _, hp, he⟩ | ⟨_, _, he, _⟩
  · have hl : pos < a.slots.length := by rw [← h.size_eq]; exact hp
    rw [he]
    exact ⟨by simp [h.size_eq], by simp only; rw [occupied_set_some _ _ _ hl, h.tally_eq], h.size_le_capa⟩
  · rw [he]; exact h

theorem update_capa (a : Arr) (pos v : Nat) (o : Oracle) : (update a pos v o).arr.capa = a.capa := by
  rcases update_cases a pos v o with ⟨_, _, _, he⟩ | ⟨_, _, he, _⟩
  · rw [he]
  · rw [he]

theorem delete_wf (a : Arr) (index count : Nat) (h : WF a) : WF (delete a index count).1 := by
  rw [delete_eq]
  have hn : min count (a.size - index) ≤ a.size - index := Nat.min_le_right _ _
  generalize min count (a.size - index) = n at *
  have hs := h.size_eq
  refine ⟨?_, ?_, ?_⟩
  · simp only [List.length_append, List.length_take, List.length_drop]; omega
  · have := occupied_split3 a.slots index n
    simp only [occupied_append, h.tally_eq]; omega
  · have := h.size_le_capa
    simp only; omega

theorem uplete_wf (a : Arr) (index count : Nat) (h : WF a) : WF (uplete a index count).1 := by
  rw [uplete_eq]
  have hn : min count (a.size - index) ≤ a.size - index := Nat.min_le_right _ _
  generalize min count (a.size - index) = n at *
  have hs := h.size_eq
  refine ⟨?_, ?_, h.size_le_capa⟩
  · simp only [List.length_append, List.length_take, List.length_drop, List.length_replicate]; omega
  · have := occupied_split3 a.slots index n
    simp only [occupied_append, occupied_replicate_none, h.tally_eq]; omega

theorem delete_capa (a : Arr) (i c : Nat) : (delete a i c).1.capa = a.capa := by
  rw [delete_eq]

theorem uplete_capa (a : Arr) (i c : Nat) : (uplete a i c).1.capa = a.capa := by
  rw [uplete_eq]

theorem clear_wf (a : Arr) : WF (clear a).1 := by
  unfold clear; exact ⟨rfl, by simp [occupied], by simp⟩

/-- the truncation `setcapa` starts with: cells beyond the new capacity go, the capacity field is not touched yet -/
theorem setcapa_trunc {a a1 : Arr} {capa n : Nat} {ev1 : List Ev}
    (hd : (if capa < a.size then delete a capa (a.size - capa) else (a, 0, [])) = (a1, n, ev1)) :
    a1.capa = a.capa ∧ (WF a → WF a1 ∧ a1.size ≤ capa) := by
  split at hd
  · obtain rfl : (delete a capa (a.size - capa)).1 = a1 := by rw [hd]
    refine ⟨delete_capa _ _ _, fun h => ⟨delete_wf a capa _ h, ?_⟩⟩
    rw [delete_eq, Nat.min_self]
    simp only; omega
  · cases hd
    exact ⟨rfl, fun h => ⟨h, by omega⟩⟩

theorem setcapa_wf (a : Arr) (capa : Nat) (o : Oracle) (h : WF a) : WF (setcapa a capa o).1 := by
  fun_cases setcapa a capa o with
  | case1 => exact h
  | case2 _ a1 n ev1 hd => exact ((setcapa_trunc hd).2 h).1
  | case3 _ a1 n ev1 hd =>
    obtain ⟨hw, hsz⟩ := (setcapa_trunc hd).2 h
    exact ⟨hw.size_eq, hw.tally_eq, hsz⟩
  | case4 _ a1 n ev1 hd _ a2 ev2 hc =>
    cases hc
    exact ⟨rfl, rfl, Nat.zero_le _⟩

/-- the slot table's size in bytes fits a 64-bit word -/
def Fits (a : Arr) : Prop := a.capa ≤ maxCapa

/-- only the retry loop changes the capacity, and what it obtains fits: no hypothesis on the bookkeeping -/
theorem insert_fits (a : Arr) (pos v : Nat) (o : Oracle) (h : Fits a) : Fits (insert a pos v o).arr := by
  fun_cases insert a pos v o with
  | case1 | case2 | case3 | case6 => exact h
  | case4 _ _ _ _ c o2 hc | case5 _ _ _ _ _ c o2 hc => exact (retryCapa_some _ _ _ _ _ hc).2.2

theorem setcapa_fits (a : Arr) (capa : Nat) (o : Oracle) (h : Fits a) : Fits (setcapa a capa o).1 := by
  fun_cases setcapa a capa o with
  | case1 => exact h
  | case2 _ a1 n ev1 hd => exact Nat.le_trans (Nat.le_of_eq (setcapa_trunc hd).1) h
  | case3 _ a1 n ev1 hd _ o1 hs => exact setcapaAsk_true hs
  | case4 => exact Nat.zero_le _

inductive Op where
  | insert (pos v : Nat) (o : Oracle)
  | upsert (pos v : Nat) (o : Oracle)
  | update (pos v : Nat) (o : Oracle)
  | delete (index count : Nat)
  | uplete (index count : Nat)
  | clear
  | setcapa (capa : Nat) (o : Oracle)

def step (a : Arr) : Op → Arr
  | .insert p v o => (insert a p v o).arr
  | .upsert p v o => (upsert a p v o).arr
  | .update p v o => (update a p v o).arr
  | .delete i c => (delete a i c).1
  | .uplete i c => (uplete a i c).1
  | .clear => (clear a).1
  | .setcapa c o => (setcapa a c o).1

/-- an operation leaves `capa` alone or sets it to 0 or to a capacity `setcapaAsk` granted, so `WF` is not asked for -/
theorem step_keeps_fits (a : Arr) (op : Op) (h : Fits a) : Fits (step a op) := by
  cases op with
  | insert p v o => exact insert_fits a p v o h
  | upsert p v o =>
    simp only [step, upsert]; split
    · simp only [Fits]; rw [update_capa]; exact h
    · exact insert_fits a p v o h
  | update p v o => simp only [step, Fits]; rw [update_capa]; exact h
  | delete i c => simp only [step, Fits]; rw [delete_capa]; exact h
  | uplete i c => simp only [step, Fits]; rw [uplete_capa]; exact h
  | clear => simp only [step, clear, Fits]; exact h
  | setcapa c o => exact setcapa_fits a c o h

end Hawk.Arr
