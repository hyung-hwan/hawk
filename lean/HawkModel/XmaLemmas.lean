import HawkModel.Xma
/-!
  What one call of Xma.lean does to the state, and that it keeps `WF`.

  An operation rewrites the chain `P ++ mid ++ R` into `P ++ mid' ++ R'`, where `mid'` has the extent of `mid` and `R'` is `R`
  up to the `prev` field of its first block, takes the free blocks of `mid` out of the free lists and puts those of `mid'` in.
  `Effect.seg` shows once what follows from that.  Its free-list part, `seg_FL`, is about `FLInv`: the free-list clauses of
  `WF` over an arbitrary relation between offsets and sizes, so that they can be followed through the single `detach` and
  `attach` calls.
-/
namespace Hawk.Xma

/-- the relations between the extracted layout constants (Gen/XmaConst.lean) on which the proofs rely; the proofs
    themselves unfold the constants -/
theorem consts_ok :
    0 < HDR ∧ 0 < ALIGN ∧ HDR % ALIGN = 0 ∧ MINALLOC % ALIGN = 0 ∧ 0 < MINALLOC ∧ MINALLOC ≤ ALIGN ∧
    FBLKMIN = HDR + MINALLOC ∧ FBLKMIN % ALIGN = 0 ∧ 0 < NCLS ∧ FIXED < NCLS := by decide

theorem HDR_pos : 0 < HDR := by decide

@[simp] theorem total_nil : total [] = 0 := rfl
@[simp] theorem total_cons (b : Blk) (r : List Blk) : total (b :: r) = HDR + b.size + total r := rfl

@[simp] theorem total_append (A B : List Blk) : total (A ++ B) = total A + total B := by
  induction A with
  | nil => simp
  | cons a A ih => simp [ih]; omega

@[simp] theorem total_setPrevHd (v : Nat) (l : List Blk) : total (setPrevHd v l) = total l := by
  cases l <;> simp [setPrevHd]

theorem findBlk_spec (o : Nat) (l : List Blk) (cur : Nat) (rp rp' : List Blk) (b : Blk) (q : List Blk) :
    findBlk o cur rp l = some (rp', b, q) → ∃ p, l = p ++ b :: q ∧ rp' = p.reverse ++ rp ∧ cur + total p = o := by
  fun_induction findBlk o cur rp l with
  | case1 | case3 => nofun
  | case2 =>
    rintro ⟨⟩
    exact ⟨[], rfl, rfl, rfl⟩
  | case4 cur rp a _ _ _ ih =>
    intro h
    obtain ⟨p, hp1, hp2, hp3⟩ := ih h
    exact ⟨a :: p, by simp [hp1], by simp [hp2], by simp; omega⟩

theorem findBlk_split {o : Nat} {l rp : List Blk} {b : Blk} {q : List Blk}
    (h : findBlk o 0 [] l = some (rp, b, q)) : l = rp.reverse ++ b :: q ∧ total rp.reverse = o := by
  obtain ⟨p, h1, h2, h3⟩ := findBlk_spec o l 0 [] rp b q h
  simp at h2
  subst h2
  simp at h3 ⊢
  exact ⟨h1, h3⟩

theorem findBlk_at {o : Nat} {b : Blk} {q : List Blk} : ∀ (p : List Blk) (cur : Nat) (rp : List Blk), cur + total p = o →
    findBlk o cur rp (p ++ b :: q) = some (p.reverse ++ rp, b, q) := by
  intro p
  induction p with
  | nil => intro cur rp h; simp [findBlk, ← h]
  | cons a p ih =>
    intro cur rp h
    have hp := HDR_pos
    simp only [total_cons] at h
    rw [List.cons_append, findBlk, if_neg (by omega), if_neg (by omega), ih _ _ (by omega)]
    simp

theorem hdr_unique {p q p' q' : List Blk} {b b' : Blk} (e : p ++ b :: q = p' ++ b' :: q') (ht : total p = total p') :
    b = b' := by
  have h := findBlk_at (b := b) (q := q) p 0 [] rfl
  rw [e, ht, findBlk_at p' 0 [] rfl] at h
  simp only [Option.some.injEq, Prod.mk.injEq] at h
  exact h.2.1.symm

/-- `lastSz ps l`, `lastFr pf l`: size and free flag of the last block of `l` (`ps`, `pf` if `l` is empty), which is what `ChainOK`
    goes on with behind `l` (`chainOK_append`) -/
def lastSz (ps : Nat) : List Blk → Nat
  | [] => ps
  | b :: r => lastSz b.size r

def lastFr (pf : Bool) : List Blk → Bool
  | [] => pf
  | b :: r => lastFr b.free r

@[simp] theorem lastSz_nil (ps : Nat) : lastSz ps [] = ps := rfl
@[simp] theorem lastSz_cons (ps : Nat) (b : Blk) (r : List Blk) : lastSz ps (b :: r) = lastSz b.size r := rfl
@[simp] theorem lastFr_nil (pf : Bool) : lastFr pf [] = pf := rfl
@[simp] theorem lastFr_cons (pf : Bool) (b : Blk) (r : List Blk) : lastFr pf (b :: r) = lastFr b.free r := rfl

@[simp] theorem lastSz_append_cons (ps : Nat) (A : List Blk) (b : Blk) (r : List Blk) :
    lastSz ps (A ++ b :: r) = lastSz b.size r := by
  induction A generalizing ps with
  | nil => rfl
  | cons a A ih => simp [ih]

@[simp] theorem lastFr_append_cons (pf : Bool) (A : List Blk) (b : Blk) (r : List Blk) :
    lastFr pf (A ++ b :: r) = lastFr b.free r := by
  induction A generalizing pf with
  | nil => rfl
  | cons a A ih => simp [ih]

@[simp] theorem lastFr_reverse_cons (pf : Bool) (x : Blk) (rp : List Blk) : lastFr pf (x :: rp).reverse = x.free := by
  simp

@[simp] theorem lastSz_reverse_cons (ps : Nat) (x : Blk) (rp : List Blk) : lastSz ps (x :: rp).reverse = x.size := by
  simp

theorem lastFr_reverse_false {rp : List Blk} (h : ∀ x ∈ rp.head?, x.free = false) : lastFr false rp.reverse = false := by
  cases rp with
  | nil => rfl
  | cons x rp => simpa using h

theorem chainOK_append (A B : List Blk) (c ps : Nat) (pf : Bool) :
    ChainOK c ps pf (A ++ B) ↔ ChainOK c ps pf A ∧ ChainOK (c + total A) (lastSz ps A) (lastFr pf A) B := by
  induction A generalizing c ps pf with
  | nil => simp [ChainOK]
  | cons a A ih => simp [ChainOK, ih, and_assoc, Nat.add_assoc]

/-- a stretch `mid` of a chain may be replaced by `mid'` of the same extent that is a chain in the same place, if what
    follows gets the size of the new last block as `prev` and does not come to stand free behind a free block -/
theorem chainOK_seg {c ps : Nat} {pf : Bool} {mid mid' R R' : List Blk}
    (h : ChainOK c ps pf (mid ++ R)) (ht : total mid' = total mid)
    (hm : ChainOK c ps pf mid → ChainOK c ps pf mid')
    (hf : lastFr pf mid' = true → lastFr pf mid = true ∨ ∀ y ∈ R.head?, y.free = false)
    (hR : (R' = R ∧ lastSz ps mid' = lastSz ps mid) ∨ R' = setPrevHd (lastSz ps mid') R) :
    ChainOK c ps pf (mid' ++ R') := by
  rw [chainOK_append] at h ⊢
  refine ⟨hm h.1, ?_⟩
  rw [ht]
  cases R with
  | nil => rcases hR with ⟨rfl, _⟩ | rfl <;> trivial
  | cons y R =>
    have hy : ¬(lastFr pf mid' = true ∧ y.free = true) := fun ⟨a, b⟩ =>
      (hf a).elim (fun a' => h.2.2.1 ⟨a', b⟩) (fun a' => by simp [b] at a')
    rcases hR with ⟨rfl, e⟩ | rfl
    · exact ⟨e ▸ h.2.1, hy, h.2.2.2⟩
    · exact ⟨rfl, hy, h.2.2.2⟩

theorem chainOK_pair {c ps ysz : Nat} {pf : Bool} {b' : Blk} (hp : b'.prev = ps) (hbf : b'.free = false)
    (hc : c % ALIGN = 0) (h1 : MINALLOC ≤ b'.size) (h2 : b'.size % ALIGN = 0) (h3 : MINALLOC ≤ ysz) :
    ChainOK c ps pf [b', { size := ysz, free := true, prev := b'.size }] :=
  ⟨hp, by simp [hbf], hc, h1, rfl, by simp [hbf], Nat.mod_eq_zero_of_dvd
    (Nat.dvd_add (Nat.dvd_add (Nat.dvd_of_mod_eq_zero hc) (Nat.dvd_refl _)) (Nat.dvd_of_mod_eq_zero h2)), h3, trivial⟩

theorem chainOK_sizes {c ps : Nat} {pf : Bool} {l : List Blk} (h : ChainOK c ps pf l) :
    ∀ p b q, l = p ++ b :: q → (c + total p) % ALIGN = 0 ∧ MINALLOC ≤ b.size := by
  intro p b q e
  subst e
  rw [chainOK_append] at h
  exact ⟨h.2.2.2.1, h.2.2.2.2.1⟩

theorem chainOK_adjacent {c ps : Nat} {pf : Bool} {l p q : List Blk} {a b : Blk} (h : ChainOK c ps pf l)
    (e : l = p ++ a :: b :: q) : b.prev = a.size ∧ ¬(a.free = true ∧ b.free = true) := by
  subst e
  rw [chainOK_append] at h
  exact ⟨h.2.2.2.2.2.1, h.2.2.2.2.2.2.1⟩

@[simp] theorem freeOffs_nil (c : Nat) : freeOffs c [] = [] := rfl
@[simp] theorem liveOffs_nil (c : Nat) : liveOffs c [] = [] := rfl

theorem freeOffs_cons (c : Nat) (b : Blk) (r : List Blk) :
    freeOffs c (b :: r) = (if b.free then [(c, b.size)] else []) ++ freeOffs (c + HDR + b.size) r := by
  simp only [freeOffs]; split <;> simp

theorem liveOffs_cons (c : Nat) (b : Blk) (r : List Blk) :
    liveOffs c (b :: r) = (if b.free then [] else [(c, b.size, b.data)]) ++ liveOffs (c + HDR + b.size) r := by
  simp only [liveOffs]; split <;> simp

theorem freeOffs_append (A B : List Blk) (c : Nat) :
    freeOffs c (A ++ B) = freeOffs c A ++ freeOffs (c + total A) B := by
  induction A generalizing c with
  | nil => simp
  | cons a A ih => simp [freeOffs_cons, ih, Nat.add_assoc]

theorem liveOffs_append (A B : List Blk) (c : Nat) :
    liveOffs c (A ++ B) = liveOffs c A ++ liveOffs (c + total A) B := by
  induction A generalizing c with
  | nil => simp
  | cons a A ih => simp [liveOffs_cons, ih, Nat.add_assoc]

@[simp] theorem freeOffs_setPrevHd (v c : Nat) (l : List Blk) : freeOffs c (setPrevHd v l) = freeOffs c l := by
  cases l <;> simp [setPrevHd, freeOffs]

@[simp] theorem liveOffs_setPrevHd (v c : Nat) (l : List Blk) : liveOffs c (setPrevHd v l) = liveOffs c l := by
  cases l <;> simp [setPrevHd, liveOffs]

theorem freeOffs_mem_iff {c o sz : Nat} {l : List Blk} :
    (o, sz) ∈ freeOffs c l ↔ ∃ p b q, l = p ++ b :: q ∧ c + total p = o ∧ b.free = true ∧ b.size = sz := by
  constructor
  · intro h
    induction l generalizing c with
    | nil => simp at h
    | cons a l ih =>
      rw [freeOffs_cons, List.mem_append] at h
      rcases h with h | h
      · split at h
        · simp at h
          exact ⟨[], a, l, rfl, by simp [h.1], ‹_›, h.2.symm⟩
        · simp at h
      · obtain ⟨p, b, q, rfl, rfl, e⟩ := ih h
        exact ⟨a :: p, b, q, rfl, by simp; omega, e⟩
  · rintro ⟨p, b, q, rfl, rfl, e3, e4⟩
    simp [freeOffs_append, freeOffs_cons, e3, e4]

theorem liveOffs_mem_iff {c o sz : Nat} {d : List Nat} {l : List Blk} :
    (o, sz, d) ∈ liveOffs c l ↔ ∃ p b q, l = p ++ b :: q ∧ c + total p = o ∧ b.free = false ∧ b.size = sz ∧ b.data = d := by
  constructor
  · intro h
    induction l generalizing c with
    | nil => simp at h
    | cons a l ih =>
      rw [liveOffs_cons, List.mem_append] at h
      rcases h with h | h
      · split at h
        · simp at h
        · simp at h
          exact ⟨[], a, l, rfl, by simp [h.1], Bool.eq_false_iff.2 ‹_›, h.2.1.symm, h.2.2.symm⟩
      · obtain ⟨p, b, q, rfl, rfl, e⟩ := ih h
        exact ⟨a :: p, b, q, rfl, by simp; omega, e⟩
  · rintro ⟨p, b, q, rfl, rfl, e3, e4, e5⟩
    simp [liveOffs_append, liveOffs_cons, e3, e4, e5]

theorem freeOffs_bounds {c : Nat} {l : List Blk} {p : Nat × Nat} (h : p ∈ freeOffs c l) :
    c ≤ p.1 ∧ p.1 + HDR + p.2 ≤ c + total l := by
  obtain ⟨o, sz⟩ := p
  obtain ⟨q, b, r, rfl, rfl, -, rfl⟩ := freeOffs_mem_iff.1 h
  simp; omega

theorem liveOffs_bounds {c : Nat} {l : List Blk} {p : Nat × Nat × List Nat} (h : p ∈ liveOffs c l) :
    c ≤ p.1 ∧ p.1 + HDR + p.2.1 ≤ c + total l := by
  obtain ⟨o, sz, d⟩ := p
  obtain ⟨q, b, r, rfl, rfl, -, rfl, -⟩ := liveOffs_mem_iff.1 h
  simp; omega

theorem freeOffs_fun {c : Nat} {l : List Blk} {o s1 s2 : Nat} (h1 : (o, s1) ∈ freeOffs c l) (h2 : (o, s2) ∈ freeOffs c l) :
    s1 = s2 := by
  obtain ⟨p, b, q, rfl, ho, -, rfl⟩ := freeOffs_mem_iff.1 h1
  obtain ⟨p', b', q', e, ho', -, rfl⟩ := freeOffs_mem_iff.1 h2
  rw [hdr_unique e (by omega)]

theorem free_live_offsets {c : Nat} {l : List Blk} {p : Nat × Nat} {x : Nat × Nat × List Nat}
    (hp : p ∈ freeOffs c l) (hx : x ∈ liveOffs c l) : p.1 ≠ x.1 := by
  obtain ⟨o, sz⟩ := p
  obtain ⟨o', sz', d⟩ := x
  obtain ⟨q, b, r, rfl, rfl, hf, -⟩ := freeOffs_mem_iff.1 hp
  obtain ⟨q', b', r', e, rfl, hf', -⟩ := liveOffs_mem_iff.1 hx
  intro ho
  rw [hdr_unique e (by simp at ho; omega), hf'] at hf
  cases hf

theorem findBlk_of_free {o sz : Nat} {l : List Blk} (hm : (o, sz) ∈ freeOffs 0 l) :
    ∃ rp b q, findBlk o 0 [] l = some (rp, b, q) ∧ b.free = true ∧ b.size = sz := by
  obtain ⟨p, b, q, rfl, ho, hf, hs⟩ := freeOffs_mem_iff.1 hm
  exact ⟨_, b, q, findBlk_at p 0 [] ho, hf, hs⟩

theorem findBlk_of_live {o sz : Nat} {d : List Nat} {l : List Blk} (hm : (o, sz, d) ∈ liveOffs 0 l) :
    ∃ rp b q, findBlk o 0 [] l = some (rp, b, q) ∧ b.free = false ∧ b.size = sz ∧ b.data = d := by
  obtain ⟨p, b, q, rfl, ho, hf⟩ := liveOffs_mem_iff.1 hm
  exact ⟨_, b, q, findBlk_at p 0 [] ho, hf⟩

theorem freeOffs_sorted (c : Nat) (l : List Blk) : (freeOffs c l).Pairwise (fun x y => x.1 + HDR + x.2 ≤ y.1) := by
  induction l generalizing c with
  | nil => exact List.Pairwise.nil
  | cons a l ih =>
    rw [freeOffs_cons, List.pairwise_append]
    refine ⟨by split <;> simp, ih _, ?_⟩
    intro x hx y hy
    have := freeOffs_bounds hy
    split at hx
    · simp at hx
      subst hx
      exact this.1
    · simp at hx

theorem liveOffs_sorted (c : Nat) (l : List Blk) : (liveOffs c l).Pairwise (fun x y => x.1 + HDR + x.2.1 ≤ y.1) := by
  induction l generalizing c with
  | nil => exact List.Pairwise.nil
  | cons a l ih =>
    rw [liveOffs_cons, List.pairwise_append]
    refine ⟨by split <;> simp, ih _, ?_⟩
    intro x hx y hy
    have := liveOffs_bounds hy
    split at hx
    · simp at hx
    · simp at hx
      subst hx
      exact this.1

theorem freeOffs_fst_nodup (c : Nat) (l : List Blk) : ((freeOffs c l).map Prod.fst).Nodup := by
  have hp := HDR_pos
  rw [List.Nodup, List.pairwise_map]
  exact (freeOffs_sorted c l).imp (fun h => by omega)

theorem liveOffs_fst_nodup (c : Nat) (l : List Blk) : ((liveOffs c l).map (·.1)).Nodup := by
  have hp := HDR_pos
  rw [List.Nodup, List.pairwise_map]
  exact (liveOffs_sorted c l).imp (fun h => by omega)

theorem live_disjoint {c : Nat} {l : List Blk} {x y : Nat × Nat × List Nat} (hx : x ∈ liveOffs c l) (hy : y ∈ liveOffs c l)
    (hne : x.1 ≠ y.1) : x.1 + HDR + x.2.1 ≤ y.1 ∨ y.1 + HDR + y.2.1 ≤ x.1 :=
  List.Pairwise.forall_of_forall_of_flip
    (R := fun x y => x.1 ≠ y.1 → x.1 + HDR + x.2.1 ≤ y.1 ∨ y.1 + HDR + y.2.1 ≤ x.1)
    (fun _ _ h => absurd rfl h) ((liveOffs_sorted c l).imp fun h _ => Or.inl h)
    ((liveOffs_sorted c l).imp fun h _ => Or.inr h) hx hy hne

theorem all_free_single {c ps : Nat} {pf : Bool} {l : List Blk} (h : ChainOK c ps pf l) (hl : liveOffs c l = []) :
    l = [] ∨ ∃ b, l = [b] ∧ b.free = true := by
  cases l with
  | nil => exact Or.inl rfl
  | cons a l =>
    rw [liveOffs_cons] at hl
    have ha : a.free = true := by
      cases ha : a.free with
      | true => rfl
      | false => simp [ha] at hl
    cases l with
    | nil => exact Or.inr ⟨a, rfl, ha⟩
    | cons b l =>
      -- a second block would be live, as no free block follows a free one
      rw [liveOffs_cons] at hl
      have hb : b.free = false := by simpa [ha] using h.2.2.2.2.2.1
      simp [hb] at hl

theorem getxfi_lt (sz : Nat) : getxfi sz < NCLS := by
  unfold getxfi
  simp only [XFIMAX]
  have : 0 < NCLS := by decide
  split <;> split <;> omega

theorem fl_set_eq {xf : List (List Nat)} {i : Nat} (l : List Nat) (h : i < xf.length) : fl (xf.set i l) i = l := by
  simp [fl, List.getD_eq_getElem?_getD, h]

theorem fl_set_ne {xf : List (List Nat)} {i j : Nat} (l : List Nat) (h : i ≠ j) : fl (xf.set i l) j = fl xf j := by
  simp [fl, List.getD_eq_getElem?_getD, List.getElem?_set_ne h]

/-- the free lists hold, without duplicates, exactly the (offset,size) pairs described by `S`, each in the list of its class -/
def FLInv (xf : List (List Nat)) (S : Nat → Nat → Prop) : Prop :=
  xf.length = NCLS ∧ (∀ i, (fl xf i).Nodup) ∧ ∀ i o, o ∈ fl xf i ↔ ∃ sz, S o sz ∧ getxfi sz = i

theorem FLInv.congr {xf : List (List Nat)} {S S' : Nat → Nat → Prop} (h : FLInv xf S) (e : ∀ o s, S o s ↔ S' o s) :
    FLInv xf S' := by
  obtain ⟨h1, h2, h3⟩ := h
  exact ⟨h1, h2, fun i o => by simp only [h3, e]⟩

theorem FLInv.detach {xf : List (List Nat)} {S : Nat → Nat → Prop} {o sz : Nat} (h : FLInv xf S)
    (hfun : ∀ s2, S o s2 → s2 = sz) : FLInv (detach xf o sz) (fun o' s' => S o' s' ∧ o' ≠ o) := by
  obtain ⟨h1, h2, h3⟩ := h
  have hi : getxfi sz < xf.length := by rw [h1]; exact getxfi_lt sz
  refine ⟨by simp [Hawk.Xma.detach, h1], ?_, ?_⟩
  · intro j
    by_cases hj : getxfi sz = j
    · subst hj; unfold Hawk.Xma.detach; rw [fl_set_eq _ hi]; exact (h2 _).erase _
    · unfold Hawk.Xma.detach; rw [fl_set_ne _ hj]; exact h2 j
  · intro j o'
    by_cases hj : getxfi sz = j
    · subst hj; unfold Hawk.Xma.detach; rw [fl_set_eq _ hi, (h2 _).mem_erase_iff, h3]
      constructor
      · intro ⟨hne, s', a, b⟩; exact ⟨s', ⟨a, hne⟩, b⟩
      · intro ⟨s', ⟨a, hne⟩, b⟩; exact ⟨hne, s', a, b⟩
    · unfold Hawk.Xma.detach; rw [fl_set_ne _ hj, h3]
      constructor
      · intro ⟨s', a, b⟩
        refine ⟨s', ⟨a, ?_⟩, b⟩
        intro he; subst he
        have := hfun _ a; subst this; exact hj b
      · intro ⟨s', ⟨a, _⟩, b⟩; exact ⟨s', a, b⟩

theorem FLInv.attach {xf : List (List Nat)} {S : Nat → Nat → Prop} {o sz : Nat} (h : FLInv xf S)
    (hnew : ∀ s2, ¬ S o s2) : FLInv (attach xf o sz) (fun o' s' => S o' s' ∨ (o' = o ∧ s' = sz)) := by
  obtain ⟨h1, h2, h3⟩ := h
  have hi : getxfi sz < xf.length := by rw [h1]; exact getxfi_lt sz
  refine ⟨by simp [Hawk.Xma.attach, h1], ?_, ?_⟩
  · intro j
    by_cases hj : getxfi sz = j
    · subst hj; unfold Hawk.Xma.attach; rw [fl_set_eq _ hi]
      refine List.nodup_cons.2 ⟨?_, h2 _⟩
      intro hm
      obtain ⟨s', a, _⟩ := (h3 _ _).1 hm
      exact hnew _ a
    · unfold Hawk.Xma.attach; rw [fl_set_ne _ hj]; exact h2 j
  · intro j o'
    by_cases hj : getxfi sz = j
    · subst hj; unfold Hawk.Xma.attach; rw [fl_set_eq _ hi, List.mem_cons, h3]
      constructor
      · rintro (he | ⟨s', a, b⟩)
        · exact ⟨sz, Or.inr ⟨he, rfl⟩, rfl⟩
        · exact ⟨s', Or.inl a, b⟩
      · rintro ⟨s', (a | ⟨a1, a2⟩), b⟩
        · exact Or.inr ⟨s', a, b⟩
        · exact Or.inl a1
    · unfold Hawk.Xma.attach; rw [fl_set_ne _ hj, h3]
      constructor
      · intro ⟨s', a, b⟩; exact ⟨s', Or.inl a, b⟩
      · rintro ⟨s', (a | ⟨_, a2⟩), b⟩
        · exact ⟨s', a, b⟩
        · subst a2; exact absurd b hj

theorem FLInv.single {xf : List (List Nat)} {S : Nat → Nat → Prop} {o sz : Nat} (h : FLInv xf S)
    (hS : ∀ o' s', S o' s' ↔ o' = o ∧ s' = sz) : fl xf (getxfi sz) = [o] ∧ ∀ i, i ≠ getxfi sz → fl xf i = [] := by
  obtain ⟨-, h2, h3⟩ := h
  constructor
  · refine List.perm_singleton.1 ((List.perm_ext_iff_of_nodup (h2 _) (by simp)).2 fun a => ?_)
    rw [h3, List.mem_singleton]
    exact ⟨fun ⟨_, hs, _⟩ => ((hS _ _).1 hs).1, fun e => ⟨sz, (hS _ _).2 ⟨e, rfl⟩, rfl⟩⟩
  · intro i hi
    refine List.eq_nil_iff_forall_not_mem.2 fun a ha => ?_
    obtain ⟨s', hs, hc⟩ := (h3 i a).1 ha
    exact hi (((hS _ _).1 hs).2 ▸ hc).symm

def detachAll (xf : List (List Nat)) (D : List (Nat × Nat)) : List (List Nat) :=
  D.foldl (fun xf p => detach xf p.1 p.2) xf

def attachAll (xf : List (List Nat)) (A : List (Nat × Nat)) : List (List Nat) :=
  A.foldl (fun xf p => attach xf p.1 p.2) xf

@[simp] theorem detachAll_nil (xf : List (List Nat)) : detachAll xf [] = xf := rfl
@[simp] theorem detachAll_cons (xf : List (List Nat)) (p : Nat × Nat) (D : List (Nat × Nat)) :
    detachAll xf (p :: D) = detachAll (detach xf p.1 p.2) D := rfl
@[simp] theorem attachAll_nil (xf : List (List Nat)) : attachAll xf [] = xf := rfl
@[simp] theorem attachAll_cons (xf : List (List Nat)) (p : Nat × Nat) (A : List (Nat × Nat)) :
    attachAll xf (p :: A) = attachAll (attach xf p.1 p.2) A := rfl

theorem FLInv.detachAll {S : Nat → Nat → Prop} (hS : ∀ o s1 s2, S o s1 → S o s2 → s1 = s2) :
    ∀ (D : List (Nat × Nat)) (xf : List (List Nat)), FLInv xf S → (∀ p ∈ D, S p.1 p.2) → (D.map Prod.fst).Nodup →
    FLInv (Hawk.Xma.detachAll xf D) (fun o s => S o s ∧ ∀ p ∈ D, p.1 ≠ o) := by
  intro D
  induction D generalizing S with
  | nil => intro xf h _ _; simpa using h
  | cons p D ih =>
    intro xf h hD hnd
    simp only [List.map_cons, List.nodup_cons, List.mem_map] at hnd
    have h1 := h.detach (o := p.1) (sz := p.2) (fun s2 hs => hS _ _ _ hs (hD p (by simp)))
    have h2 := ih (S := fun o' s' => S o' s' ∧ o' ≠ p.1) (fun o s1 s2 a b => hS o s1 s2 a.1 b.1) _ h1
      (fun q hq => ⟨hD q (by simp [hq]), fun he => hnd.1 ⟨q, hq, he⟩⟩) hnd.2
    simp only [detachAll_cons]
    refine h2.congr ?_
    intro o s
    simp only [List.mem_cons, forall_eq_or_imp, and_assoc, ne_comm (a := o) (b := p.1)]

theorem FLInv.attachAll :
    ∀ (A : List (Nat × Nat)) (xf : List (List Nat)) (S : Nat → Nat → Prop), FLInv xf S → (∀ p ∈ A, ∀ s2, ¬ S p.1 s2) →
    (A.map Prod.fst).Nodup → FLInv (Hawk.Xma.attachAll xf A) (fun o s => S o s ∨ (o, s) ∈ A) := by
  intro A
  induction A with
  | nil => intro xf S h _ _; simpa using h
  | cons p A ih =>
    intro xf S h hA hnd
    simp only [List.map_cons, List.nodup_cons, List.mem_map] at hnd
    have h1 := h.attach (o := p.1) (sz := p.2) (hA p (by simp))
    have h2 := ih _ _ h1 (fun q hq s2 hs => by
      rcases hs with hs | ⟨hs, _⟩
      · exact hA q (by simp [hq]) s2 hs
      · exact hnd.1 ⟨q, hq, hs⟩) hnd.2
    simp only [attachAll_cons]
    refine h2.congr ?_
    intro o s
    simp only [List.mem_cons, Prod.ext_iff, or_assoc]

theorem seg_FL {P mid mid' R R' : List Blk} {xf : List (List Nat)}
    (h : FLInv xf (fun o sz => (o, sz) ∈ freeOffs 0 (P ++ mid ++ R)))
    (ht : total mid' = total mid) (hR : ∀ c, freeOffs c R' = freeOffs c R) :
    FLInv (attachAll (detachAll xf (freeOffs (total P) mid)) (freeOffs (total P) mid'))
      (fun o sz => (o, sz) ∈ freeOffs 0 (P ++ mid' ++ R')) := by
  have hp := HDR_pos
  -- the free blocks outside the segment: no segment of the extent of `mid` has an offset in common with them
  let S0 : Nat → Nat → Prop := fun o sz => (o, sz) ∈ freeOffs 0 P ∨ (o, sz) ∈ freeOffs (total P + total mid) R
  have hdis : ∀ X : List Blk, total X = total mid → ∀ p ∈ freeOffs (total P) X, ∀ s2, ¬ S0 p.1 s2 := by
    intro X hX p hpm s2 hs
    have := freeOffs_bounds hpm
    rcases hs with hs | hs
    · have := freeOffs_bounds hs; dsimp only at this; omega
    · have := freeOffs_bounds hs; dsimp only at this; omega
  have e0 : ∀ o sz, (o, sz) ∈ freeOffs 0 (P ++ mid ++ R) ↔ S0 o sz ∨ (o, sz) ∈ freeOffs (total P) mid := by
    intro o sz
    simp only [S0, freeOffs_append, List.mem_append, total_append, Nat.zero_add]
    exact or_right_comm
  have e1 : ∀ o sz, S0 o sz ∨ (o, sz) ∈ freeOffs (total P) mid' ↔ (o, sz) ∈ freeOffs 0 (P ++ mid' ++ R') := by
    intro o sz
    simp only [S0, freeOffs_append, List.mem_append, total_append, Nat.zero_add, hR, ht]
    exact or_right_comm
  have d := FLInv.detachAll (fun o s1 s2 a b => freeOffs_fun ((e0 o s1).2 a) ((e0 o s2).2 b))
    (freeOffs (total P) mid) xf (h.congr e0) (fun p hp => Or.inr hp) (freeOffs_fst_nodup _ _)
  have d' : FLInv (detachAll xf (freeOffs (total P) mid)) S0 := d.congr (fun o s =>
    ⟨fun ⟨hs, hall⟩ => hs.resolve_right (fun hm => hall _ hm rfl),
     fun hs => ⟨Or.inl hs, fun p hpm he => hdis mid rfl p hpm s (he ▸ hs)⟩⟩)
  exact (FLInv.attachAll _ _ _ d' (hdis mid' ht) (freeOffs_fst_nodup _ _)).congr e1

theorem WF_iff (s : Xma) : WF s ↔ total s.blks = s.zone ∧ ChainOK 0 0 false s.blks ∧
    FLInv s.xfree (fun o sz => (o, sz) ∈ freeOffs 0 s.blks) := by
  constructor
  · intro h; exact ⟨h.tile, h.chain, h.len, h.nodup, h.mem⟩
  · intro ⟨a, b, c, d, e⟩; exact ⟨a, b, c, d, e⟩

/-- the live blocks of `blks'` are those of `blks` with the entries `rem` replaced (in place) by `add` -/
def LiveStep (blks blks' : List Blk) (rem add : List (Nat × Nat × List Nat)) : Prop :=
  ∃ L1 L2, liveOffs 0 blks = L1 ++ (rem ++ L2) ∧ liveOffs 0 blks' = L1 ++ (add ++ L2)

theorem liveStep_refl {blks : List Blk} {x : Nat × Nat × List Nat} (hx : x ∈ liveOffs 0 blks) : LiveStep blks blks [x] [x] := by
  obtain ⟨L1, L2, e⟩ := List.append_of_mem hx
  exact ⟨L1, L2, e, e⟩

/-- what one call does: a segment of the chain is replaced by one of equal extent and the free lists follow; so the zone
    stays, the invariant is kept, and the live entries `rem` are replaced in place by `add` -/
structure Effect (s s' : Xma) (rem add : List (Nat × Nat × List Nat)) : Prop where
  zone : s'.zone = s.zone
  wf : WF s → WF s'
  live : LiveStep s.blks s'.blks rem add

/-- the segment `mid` of the chain (behind `P`) becomes `mid'` of the same extent and a chain in its place (`hm`, `hf`, `hR` are
    what `chainOK_seg` asks), the free blocks of `mid` are unlinked and those of `mid'` linked.  The free-list equation may
    assume `WF s`: `free` finds its left neighbour through the stored `prev`.  The zone and the live blocks need no `WF`. -/
theorem Effect.seg {s s' : Xma} {P mid mid' R R' : List Blk} (hb : s.blks = P ++ (mid ++ R))
    (hb' : s'.blks = P ++ (mid' ++ R')) (hz : s'.zone = s.zone) (ht : total mid' = total mid)
    (hx : WF s → s'.xfree = attachAll (detachAll s.xfree (freeOffs (total P) mid)) (freeOffs (total P) mid'))
    (hm : ChainOK (total P) (lastSz 0 P) (lastFr false P) mid → ChainOK (total P) (lastSz 0 P) (lastFr false P) mid')
    (hf : lastFr (lastFr false P) mid' = true → lastFr (lastFr false P) mid = true ∨ ∀ y ∈ R.head?, y.free = false)
    (hR : (R' = R ∧ lastSz (lastSz 0 P) mid' = lastSz (lastSz 0 P) mid) ∨ R' = setPrevHd (lastSz (lastSz 0 P) mid') R) :
    Effect s s' (liveOffs (total P) mid) (liveOffs (total P) mid') := by
  have hR' : total R' = total R ∧ (∀ c, freeOffs c R' = freeOffs c R) ∧ ∀ c, liveOffs c R' = liveOffs c R := by
    rcases hR with ⟨rfl, _⟩ | rfl <;> simp
  refine ⟨hz, fun h => ?_, liveOffs 0 P, liveOffs (total P + total mid) R, ?_, ?_⟩
  · have hx := hx h
    rw [WF_iff] at h ⊢
    obtain ⟨h1, h2, h3⟩ := h
    rw [hb] at h1 h2 h3
    rw [hb', hz, hx]
    refine ⟨?_, ?_, ?_⟩
    · rw [← h1]; simp [ht, hR'.1]
    · rw [chainOK_append] at h2 ⊢
      exact ⟨h2.1, by simpa using chainOK_seg (by simpa using h2.2) ht hm hf hR⟩
    · rw [← List.append_assoc] at h3 ⊢
      exact seg_FL h3 ht hR'.2.1
  · rw [hb]; simp [liveOffs_append]
  · rw [hb']; simp [liveOffs_append, hR'.2.2, ht]

theorem takeWhole_eff {s : Xma} {o : Nat} {rp : List Blk} {b : Blk} {q : List Blk}
    (hf : findBlk o 0 [] s.blks = some (rp, b, q)) (hbf : b.free = true) :
    Effect s (takeWhole s o rp b q) [] [(o, b.size, [])] := by
  obtain ⟨hb, rfl⟩ := findBlk_split hf
  -- with the flags as literals the new state and `freeOffs`, `liveOffs` of both segments compute
  obtain ⟨bs, bf, bp, bd⟩ := b
  cases hbf
  exact Effect.seg (mid := [_]) hb (mid' := [⟨bs, false, bp, []⟩]) (R' := q) rfl rfl rfl
    (hx := fun _ => rfl) (hm := fun hc => ⟨hc.1, (nomatch ·.2), hc.2.2⟩) (hf := fun h => nomatch h) (hR := .inl ⟨rfl, rfl⟩)

theorem takeSplit_eff {s : Xma} {size o : Nat} {rp : List Blk} {b : Blk} {q : List Blk}
    (hf : findBlk o 0 [] s.blks = some (rp, b, q)) (hbf : b.free = true)
    (hs1 : size % ALIGN = 0) (hs2 : MINALLOC ≤ size) (hrem : b.size - size ≥ FBLKMIN) :
    Effect s (takeSplit s size o rp b q) [] [(o, size, [])] := by
  obtain ⟨hb, rfl⟩ := findBlk_split hf
  obtain ⟨bs, bf, bp, bd⟩ := b
  cases hbf
  have hrem : 32 ≤ bs - size := hrem
  exact Effect.seg (mid := [_]) hb (mid' := [⟨size, false, bp, []⟩, ⟨bs - size - HDR, true, size, []⟩])
    (R' := setPrevHd _ q) rfl rfl (by dsimp only [total, HDR]; omega) (hx := fun _ => rfl)
    (hm := fun hc => chainOK_pair hc.1 rfl hc.2.2.1 hs2 hs1 (Nat.le_sub_of_add_le' hrem)) (hf := fun _ => .inl rfl) (hR := .inr rfl)

theorem wf_entry {s : Xma} (h : WF s) {i o : Nat} (hm : o ∈ fl s.xfree i) {rp : List Blk} {b : Blk} {q : List Blk}
    (hf : findBlk o 0 [] s.blks = some (rp, b, q)) : b.free = true ∧ getxfi b.size = i := by
  obtain ⟨sz, h1, h2⟩ := (h.mem i o).1 hm
  obtain ⟨_, _, _, e, hbf, rfl⟩ := findBlk_of_free h1
  cases hf.symm.trans e
  exact ⟨hbf, h2⟩

theorem wf_entry_found {s : Xma} (h : WF s) {i o : Nat} (hm : o ∈ fl s.xfree i) : findBlk o 0 [] s.blks ≠ none := by
  obtain ⟨sz, h1, _⟩ := (h.mem i o).1 hm
  obtain ⟨_, _, _, e, _⟩ := findBlk_of_free h1
  rw [e]
  nofun

theorem roundReq_ok {n : Nat} (h : ¬ roundReq n < ALIGN) : roundReq n % ALIGN = 0 ∧ MINALLOC ≤ roundReq n := by
  simp only [roundReq, ALIGN, MINALLOC, WORD, BITS] at h ⊢
  omega

theorem roundReq_ge {n : Nat} (hn : n < WORD) (h : ¬ roundReq n < ALIGN) : n ≤ roundReq n := by
  by_cases c : n < 16
  · simp only [roundReq, ALIGN, MINALLOC, WORD, BITS, c, ↓reduceIte] at hn h ⊢; omega
  · simp only [roundReq, ALIGN, MINALLOC, WORD, BITS, c, ↓reduceIte] at hn h ⊢; omega

/-- how a successful allocation changed the state: the block `b` at `o`, an entry of free list `i`, was taken (split or whole)
    by alloc_from_freelist, whose scan has seen its size, or whole by the best-fit branch, which knows its class only -/
inductive Took (s : Xma) (size o : Nat) : Xma → Prop
  | scanned {rp : List Blk} {b : Blk} {q : List Blk} {i : Nat} : o ∈ fl s.xfree i →
      findBlk o 0 [] s.blks = some (rp, b, q) → size ≤ b.size → Took s size o (takeBlk s size o rp b q)
  | bestFit {rp : List Blk} {b : Blk} {q : List Blk} : o ∈ fl s.xfree (getxfi size) →
      findBlk o 0 [] s.blks = some (rp, b, q) → getxfi size < FIXED → Took s size o (takeWhole s o rp b q)

/-- what an outcome of the search through the free lists says: an error is a dangling free-list entry, a block handed
    out satisfies `Took` -/
def Found (s : Xma) (size : Nat) : Except Err (Option (Nat × Xma)) → Prop
  | .error _ => ∃ i, ∃ o ∈ fl s.xfree i, findBlk o 0 [] s.blks = none
  | .ok none => True
  | .ok (some (o, s')) => Took s size o s'

theorem scan_found {blks : List Blk} {size : Nat} (l : List Nat) :
    match scan blks size l with
    | .error _ => ∃ o ∈ l, findBlk o 0 [] blks = none
    | .ok none => True
    | .ok (some (o, rp, b, q)) => o ∈ l ∧ findBlk o 0 [] blks = some (rp, b, q) ∧ size ≤ b.size := by
  fun_induction scan blks size l with
  | case1 => trivial
  | case2 o _ hf => exact ⟨o, List.mem_cons_self, hf⟩
  | case3 _ _ _ _ _ hfb hle => exact ⟨List.mem_cons_self, hfb, hle⟩
  | case4 _ _ _ _ _ _ _ ih =>
    split at ih
    · exact ih.imp fun _ h => ⟨List.mem_cons_of_mem _ h.1, h.2⟩
    · trivial
    · exact ⟨List.mem_cons_of_mem _ ih.1, ih.2⟩

theorem allocFrom_found {s : Xma} {i size : Nat} {r : Except Err (Option (Nat × Xma))} (h : allocFrom s i size = r) :
    Found s size r := by
  subst h
  have := scan_found (blks := s.blks) (size := size) (fl s.xfree i)
  fun_cases allocFrom s i size with
  | case1 _ hx => rw [hx] at this; exact ⟨i, this⟩
  | case2 => trivial
  | case3 o rp b q hx => rw [hx] at this; exact Took.scanned this.1 this.2.1 this.2.2

theorem sweep_found {s : Xma} {size : Nat} (cls : List Nat) {r : Except Err (Option (Nat × Xma))}
    (h : sweep s size cls = r) : Found s size r := by
  subst h
  fun_induction sweep s size cls with
  | case1 => trivial
  | case2 _ _ _ hx | case3 _ _ _ hx => exact allocFrom_found hx
  | case4 _ _ _ ih => exact ih

theorem allocFirst_found {s : Xma} {xfi size : Nat} {r : Except Err (Option (Nat × Xma) × Nat)}
    (h : allocFirst s xfi size = r) : Found s size (r.map (·.1)) := by
  subst h
  fun_cases allocFirst s xfi size with
  | case1 _ _ hx | case2 _ _ hx | case3 _ _ _ hx | case4 _ _ _ hx | case5 _ _ hx | case6 _ _ hx => exact allocFrom_found hx
  | case7 => trivial

theorem Found.wf {s : Xma} {size : Nat} {e : Err} (h : WF s) (hf : Found s size (.error e)) : False :=
  let ⟨_, _, hm, hn⟩ := hf; wf_entry_found h hm hn

theorem alloc_cases {s s' : Xma} {n : Nat} {r : Option Nat} (ha : alloc s n = .ok (r, s')) :
    (r = none ∧ s' = s) ∨ (∃ o, r = some o ∧ ¬ roundReq n < ALIGN ∧ Took s (roundReq n) o s') := by
  revert ha
  fun_cases alloc s n with
  | case1 | case2 | case6 | case11 =>
    rintro ⟨⟩
    exact Or.inl ⟨rfl, rfl⟩
  | case3 | case5 | case8 | case10 => nofun
  | case4 _ hsz _ hfix o _ hl rp b q hf =>
    rintro ⟨⟩
    exact Or.inr ⟨o, rfl, hsz, .bestFit (by rw [hl]; simp) hf hfix.1⟩
  | case7 _ hsz _ _ _ o _ hx =>
    rintro ⟨⟩
    exact Or.inr ⟨o, rfl, hsz, allocFrom_found hx⟩
  | case9 _ hsz _ _ _ o _ _ hx =>
    rintro ⟨⟩
    exact Or.inr ⟨o, rfl, hsz, allocFirst_found hx⟩
  | case12 _ hsz _ _ _ _ _ o _ hx =>
    rintro ⟨⟩
    exact Or.inr ⟨o, rfl, hsz, sweep_found _ hx⟩

theorem alloc_none {s s' : Xma} {n : Nat} (ha : alloc s n = .ok (none, s')) : s' = s := by
  rcases alloc_cases ha with ⟨_, e⟩ | ⟨_, ho, _⟩
  · exact e
  · cases ho

/-- the second alternative is the best-fit branch: of the block it hands out only the class is known -/
theorem Took.eff {s s' : Xma} {size o : Nat} (h : WF s) (hs1 : size % ALIGN = 0) (hs2 : MINALLOC ≤ size)
    (ht : Took s size o s') :
    ∃ sz, Effect s s' [] [(o, sz, [])] ∧ (size ≤ sz ∨ (getxfi sz = getxfi size ∧ getxfi size < FIXED)) := by
  cases ht with
  | @scanned _ b _ _ hm hf hle =>
    have hbf := (wf_entry h hm hf).1
    unfold takeBlk
    split
    · exact ⟨size, takeSplit_eff hf hbf hs1 hs2 (by assumption), Or.inl (Nat.le_refl _)⟩
    · exact ⟨b.size, takeWhole_eff hf hbf, Or.inl hle⟩
  | @bestFit _ b _ hm hf hfix =>
    obtain ⟨hbf, hcls⟩ := wf_entry h hm hf
    exact ⟨b.size, takeWhole_eff hf hbf, Or.inr ⟨hcls, hfix⟩⟩

theorem sweep_wf {s s' : Xma} {size o : Nat} (h : WF s) (hs1 : size % ALIGN = 0) (hs2 : MINALLOC ≤ size) :
    ∀ (cls : List Nat), sweep s size cls = .ok (some (o, s')) → WF s' :=
  fun cls ha => let ⟨_, e, _⟩ := Took.eff h hs1 hs2 (sweep_found cls ha); e.wf h

theorem alloc_eff {s s' : Xma} {n : Nat} {r : Option Nat} (h : WF s) (ha : alloc s n = .ok (r, s')) :
    (r = none ∧ s' = s) ∨ ∃ o sz, r = some o ∧ ¬ roundReq n < ALIGN ∧ Effect s s' [] [(o, sz, [])] ∧
      (roundReq n ≤ sz ∨ (getxfi sz = getxfi (roundReq n) ∧ getxfi (roundReq n) < FIXED)) := by
  rcases alloc_cases ha with hn | ⟨o, rfl, hsz, ht⟩
  · exact Or.inl hn
  · obtain ⟨sz, he⟩ := ht.eff h (roundReq_ok hsz).1 (roundReq_ok hsz).2
    exact Or.inr ⟨o, sz, rfl, hsz, he⟩

theorem alloc_wf {s s' : Xma} {n : Nat} {r : Option Nat} (h : WF s) (ha : alloc s n = .ok (r, s')) : WF s' := by
  rcases alloc_eff h ha with ⟨_, rfl⟩ | ⟨_, _, _, _, e, _⟩
  · exact h
  · exact e.wf h

/-- merged with both neighbours `x` and `y` -/
def freeBoth (s : Xma) (o : Nat) (rp' : List Blk) (x b y : Blk) (q' : List Blk) : Xma :=
  let xoff := o - (HDR + b.prev)
  let x' : Blk := { x with size := x.size + ((HDR + b.size + HDR) + y.size), data := [] }
  { s with blks := plug rp' (x' :: setPrevHd x'.size q'),
           xfree := attach (detach (detach s.xfree xoff x.size) (o + HDR + b.size) y.size) xoff x'.size }

/-- merged with the next block `y` only -/
def freeNext (s : Xma) (o : Nat) (rp : List Blk) (b y : Blk) (q' : List Blk) : Xma :=
  let b' : Blk := { b with free := true, size := b.size + (HDR + y.size), data := [] }
  { s with blks := plug rp (b' :: setPrevHd b'.size q'),
           xfree := attach (detach s.xfree (o + HDR + b.size) y.size) o b'.size }

/-- merged with the previous block `x` only -/
def freePrev (s : Xma) (o : Nat) (rp' : List Blk) (x b : Blk) (q : List Blk) : Xma :=
  let xoff := o - (HDR + b.prev)
  let x' : Blk := { x with size := x.size + (HDR + b.size), data := [] }
  { s with blks := plug rp' (x' :: setPrevHd x'.size q), xfree := attach (detach s.xfree xoff x.size) xoff x'.size }

/-- no free neighbour -/
def freeAlone (s : Xma) (o : Nat) (rp : List Blk) (b : Blk) (q : List Blk) : Xma :=
  { s with blks := plug rp ({ b with free := true, data := [] } :: q), xfree := attach s.xfree o b.size }

/-- the four ways hawk_xma_free coalesces the block `b` at `o` (first index: the blocks before it, nearest first;
    second: the blocks after it), each with what it found out about the neighbours -/
inductive Freed (s : Xma) (o : Nat) (b : Blk) : List Blk → List Blk → Xma → Prop
  | both {x y : Blk} {rp' q' : List Blk} : x.free = true → y.free = true →
      Freed s o b (x :: rp') (y :: q') (freeBoth s o rp' x b y q')
  | next {y : Blk} {rp q' : List Blk} : (∀ x ∈ rp.head?, x.free = false) → y.free = true →
      Freed s o b rp (y :: q') (freeNext s o rp b y q')
  | prev {x : Blk} {rp' q : List Blk} : x.free = true → (∀ y ∈ q.head?, y.free = false) →
      Freed s o b (x :: rp') q (freePrev s o rp' x b q)
  | alone {rp q : List Blk} : (∀ x ∈ rp.head?, x.free = false) → (∀ y ∈ q.head?, y.free = false) →
      Freed s o b rp q (freeAlone s o rp b q)

theorem freeCore_cases (s : Xma) (o : Nat) (rp : List Blk) (b : Blk) (q : List Blk) :
    Freed s o b rp q (freeCore s o rp b q) := by
  fun_cases freeCore s o rp b q with
  | case1 _ _ x rp' y q' h => exact .both h.1 h.2
  | case2 _ x rp' y q' hxy hy => exact .next (by simpa [hy] using hxy) hy
  | case3 _ x rp' y q' _ hy hx => exact .prev hx (by simpa using hy)
  | case4 x rp' y q' _ hy hx => exact .alone (by simpa using hx) (by simpa using hy)
  | case5 _ y q' hy => exact .next nofun hy
  | case6 y q' hy => exact .alone nofun (by simpa using hy)
  | case7 _ x rp' hx => exact .prev hx nofun
  | case8 x rp' hx => exact .alone (by simpa using hx) nofun
  | case9 => exact .alone nofun nofun

theorem Freed.eff {s s' : Xma} {o : Nat} {rp : List Blk} {b : Blk} {q : List Blk}
    (hb : s.blks = rp.reverse ++ b :: q) (ho : total rp.reverse = o) (hbf : b.free = false)
    (hc : Freed s o b rp q s') : Effect s s' [(o, b.size, b.data)] [] := by
  obtain ⟨bs, bf, bp, bd⟩ := b
  cases hbf
  cases hc with
  | @both x y rp' q' hxf hyf =>
    obtain ⟨xs, xf, xp, xd⟩ := x
    obtain ⟨ys, yf, yp, yd⟩ := y
    cases hxf; cases hyf
    have hb' : s.blks = rp'.reverse ++ ([⟨xs, true, xp, xd⟩, ⟨bs, false, bp, bd⟩, ⟨ys, true, yp, yd⟩] ++ q') := by simp [hb]
    obtain rfl : total rp'.reverse + HDR + xs = o := by rw [← ho]; simp [Nat.add_assoc]
    exact Effect.seg hb' (mid' := [⟨xs + ((HDR + bs + HDR) + ys), true, xp, []⟩]) (R' := setPrevHd _ q') rfl rfl
      (by simp [Nat.add_assoc])
      (hx := fun h => by
        -- the code computes the offset of `x` from the stored `b.prev`: that is where `x` stands only if the tag is right
        have hbp : bp = xs := (chainOK_adjacent h.chain hb').1
        simp [freeBoth, hbp, freeOffs_cons, Nat.add_assoc])
      (hm := fun hc => ⟨hc.1, hc.2.1, hc.2.2.1, Nat.le_trans hc.2.2.2.1 (Nat.le_add_right _ _), trivial⟩)
      (hf := fun _ => .inl rfl) (hR := .inr rfl)
  | @next y _ q' hpf hyf =>
    obtain ⟨ys, yf, yp, yd⟩ := y
    cases hyf; cases ho
    exact Effect.seg (mid := [_, _]) hb (mid' := [⟨bs + (HDR + ys), true, bp, []⟩]) (R' := setPrevHd _ q') rfl rfl
      (by simp [Nat.add_assoc]) (hx := fun _ => rfl)
      (hm := fun hc => ⟨hc.1, by simp [lastFr_reverse_false hpf], hc.2.2.1, Nat.le_trans hc.2.2.2.1 (Nat.le_add_right _ _), trivial⟩)
      (hf := fun _ => .inl rfl) (hR := .inr rfl)
  | @prev x rp' _ hxf hq =>
    obtain ⟨xs, xf, xp, xd⟩ := x
    cases hxf
    have hb' : s.blks = rp'.reverse ++ ([⟨xs, true, xp, xd⟩, ⟨bs, false, bp, bd⟩] ++ q) := by simp [hb]
    obtain rfl : total rp'.reverse + HDR + xs = o := by rw [← ho]; simp [Nat.add_assoc]
    exact Effect.seg hb' (mid' := [⟨xs + (HDR + bs), true, xp, []⟩]) (R' := setPrevHd _ q) rfl rfl
      (by simp [Nat.add_assoc])
      (hx := fun h => by
        have hbp : bp = xs := (chainOK_adjacent h.chain hb').1
        simp [freePrev, hbp, freeOffs_cons, Nat.add_assoc])
      (hm := fun hc => ⟨hc.1, hc.2.1, hc.2.2.1, Nat.le_trans hc.2.2.2.1 (Nat.le_add_right _ _), trivial⟩)
      (hf := fun _ => .inr hq) (hR := .inr rfl)
  | alone hpf hq =>
    cases ho
    exact Effect.seg (mid := [_]) hb (mid' := [⟨bs, true, bp, []⟩]) (R' := q) rfl rfl rfl (hx := fun _ => rfl)
      (hm := fun hc => ⟨hc.1, by simp [lastFr_reverse_false hpf], hc.2.2⟩) (hf := fun _ => .inr hq) (hR := .inl ⟨rfl, rfl⟩)

theorem free_cases {s s' : Xma} {o : Nat} (hf : free s o = .ok s') :
    ∃ rp b q, findBlk o 0 [] s.blks = some (rp, b, q) ∧ b.free = false ∧ s' = freeCore s o rp b q := by
  revert hf
  fun_cases free s o with
  | case1 | case2 => nofun
  | case3 rp b q hfb hbf =>
    rintro ⟨⟩
    exact ⟨rp, b, q, hfb, by simpa using hbf, rfl⟩

theorem free_eff {s s' : Xma} {o : Nat} (hf : free s o = .ok s') : ∃ sz d, Effect s s' [(o, sz, d)] [] := by
  obtain ⟨rp, b, q, hfb, hbf, rfl⟩ := free_cases hf
  obtain ⟨hb, ho⟩ := findBlk_split hfb
  exact ⟨_, _, (freeCore_cases s o rp b q).eff hb ho hbf⟩

theorem free_wf {s s' : Xma} {o : Nat} (h : WF s) (hf : free s o = .ok s') : WF s' :=
  let ⟨_, _, e⟩ := free_eff hf; e.wf h

/-- grow, the rest of the next block `nb` stays a free block -/
def growSplit (s : Xma) (o size : Nat) (rp : List Blk) (b nb : Blk) (q' : List Blk) : Xma :=
  let b' : Blk := { b with size := b.size + (size - b.size) }
  let y : Blk := { size := (HDR + nb.size) - (size - b.size) - HDR, free := true, prev := b'.size }
  { s with blks := plug rp (b' :: y :: setPrevHd y.size q'),
           xfree := attach (detach s.xfree (o + HDR + b.size) nb.size) (o + HDR + b'.size) y.size }

/-- grow, the next block is absorbed whole -/
def growWhole (s : Xma) (o : Nat) (rp : List Blk) (b nb : Blk) (q' : List Blk) : Xma :=
  let b' : Blk := { b with size := b.size + (HDR + nb.size) }
  { s with blks := plug rp (b' :: setPrevHd b'.size q'), xfree := detach s.xfree (o + HDR + b.size) nb.size }

/-- shrink, the leftover joins the free next block -/
def shrinkMerge (s : Xma) (o size : Nat) (rp : List Blk) (b nb : Blk) (q' : List Blk) : Xma :=
  let y : Blk := { size := b.size - size + nb.size, free := true, prev := size }
  { s with blks := plug rp ({ b with size := size, data := b.data.take size } :: y :: setPrevHd y.size q'),
           xfree := attach (detach s.xfree (o + HDR + b.size) nb.size) (o + HDR + size) y.size }

/-- shrink, the leftover becomes a free block of its own -/
def shrinkSplit (s : Xma) (o size : Nat) (rp : List Blk) (b : Blk) (q : List Blk) : Xma :=
  let y : Blk := { size := b.size - size - HDR, free := true, prev := size }
  { s with blks := plug rp ({ b with size := size, data := b.data.take size } :: y :: setPrevHd y.size q),
           xfree := attach s.xfree (o + HDR + size) y.size }

/-- how a successful `_realloc_merge` to `size` bytes changed the state around the live block `b` at `o`
    (`rp` the blocks before it, nearest first; the first index the blocks after it) -/
inductive Resized (s : Xma) (o size : Nat) (rp : List Blk) (b : Blk) : List Blk → Xma → Prop
  | growSplit {nb : Blk} {q' : List Blk} : nb.free = true → size > b.size → ¬ size - b.size > nb.size →
      (HDR + nb.size) - (size - b.size) ≥ FBLKMIN → Resized s o size rp b (nb :: q') (growSplit s o size rp b nb q')
  | growWhole {nb : Blk} {q' : List Blk} : nb.free = true → size > b.size → ¬ size - b.size > nb.size →
      Resized s o size rp b (nb :: q') (growWhole s o rp b nb q')
  | shrinkMerge {nb : Blk} {q' : List Blk} : nb.free = true → b.size - size ≥ FBLKMIN →
      Resized s o size rp b (nb :: q') (shrinkMerge s o size rp b nb q')
  | shrinkSplit {q : List Blk} : (∀ y ∈ q.head?, y.free = false) → b.size - size ≥ FBLKMIN →
      Resized s o size rp b q (shrinkSplit s o size rp b q)
  | same {q : List Blk} : size ≤ b.size → Resized s o size rp b q s

theorem reallocMerge_cases {s s' : Xma} {o n : Nat} (hr : reallocMerge s o n = .ok (some s')) :
    ∃ rp b q, findBlk o 0 [] s.blks = some (rp, b, q) ∧ b.free = false ∧ ¬ roundReq n < ALIGN ∧
      Resized s o (roundReq n) rp b q s' := by
  revert hr
  fun_cases reallocMerge s o n with
  | case1 | case2 | case3 | case4 | case5 => nofun
  | case6 rp b hbf _ hsz hgt _ nb q' hc _ _ hrem _ _ hfb =>
    rintro ⟨⟩
    exact ⟨rp, b, _, hfb, by simpa using hbf, hsz, .growSplit (by simpa using (not_or.1 hc).1) hgt (not_or.1 hc).2 hrem⟩
  | case7 rp b hbf _ hsz hgt _ nb q' hc _ _ _ _ hfb =>
    rintro ⟨⟩
    exact ⟨rp, b, _, hfb, by simpa using hbf, hsz, .growWhole (by simpa using (not_or.1 hc).1) hgt (not_or.1 hc).2⟩
  | case8 rp b hbf _ hsz _ _ _ hrem _ nb q' hnf _ _ hfb =>
    rintro ⟨⟩
    exact ⟨rp, b, _, hfb, by simpa using hbf, hsz, .shrinkMerge hnf hrem⟩
  | case9 rp b hbf _ hsz _ _ _ hrem _ nb q' hnf _ hfb =>
    rintro ⟨⟩
    exact ⟨rp, b, _, hfb, by simpa using hbf, hsz, .shrinkSplit (by simpa using hnf) hrem⟩
  | case10 rp b hbf _ hsz _ _ _ hrem _ _ hfb =>
    rintro ⟨⟩
    exact ⟨rp, b, _, hfb, by simpa using hbf, hsz, .shrinkSplit nofun hrem⟩
  | case11 rp b q hfb hbf _ hsz hgt | case12 rp b q hfb hbf _ hsz hgt =>
    rintro ⟨⟩
    exact ⟨rp, b, q, hfb, by simpa using hbf, hsz, .same (Nat.le_of_not_gt hgt)⟩

theorem Resized.eff {s s' : Xma} {o size : Nat} {rp : List Blk} {b : Blk} {q : List Blk}
    (hb : s.blks = rp.reverse ++ b :: q) (ho : total rp.reverse = o) (hbf : b.free = false)
    (hs1 : size % ALIGN = 0) (hs2 : MINALLOC ≤ size) (hc : Resized s o size rp b q s') :
    ∃ (sz' : Nat) (d' : List Nat), Effect s s' [(o, b.size, b.data)] [(o, sz', d')] ∧
      size ≤ sz' ∧ (d' = b.data ∨ d' = b.data.take size) := by
  obtain ⟨bs, bf, bp, bd⟩ := b
  cases hbf; cases ho
  cases hc with
  | @growSplit nb q' hnf hgt hreq hrem =>
    obtain ⟨ns, nf, np, nd⟩ := nb
    cases hnf
    have hrem : 32 ≤ 16 + ns - (size - bs) := hrem
    have hgt : bs < size := hgt
    refine ⟨bs + (size - bs), bd, ?_, by omega, Or.inl rfl⟩
    exact Effect.seg (mid := [_, _]) hb
      (mid' := [⟨bs + (size - bs), false, bp, bd⟩, ⟨(HDR + ns) - (size - bs) - HDR, true, bs + (size - bs), []⟩])
      (R' := setPrevHd _ q') rfl rfl (by dsimp only [total, HDR]; omega) (hx := fun _ => rfl)
      (hm := fun hc => chainOK_pair hc.1 rfl hc.2.2.1 (Nat.le_trans hc.2.2.2.1 (Nat.le_add_right _ _))
        (by rw [Nat.add_sub_of_le (Nat.le_of_lt hgt)]; exact hs1) (Nat.le_sub_of_add_le' hrem))
      (hf := fun _ => .inl rfl) (hR := .inr rfl)
  | @growWhole nb q' hnf hgt hreq =>
    obtain ⟨ns, nf, np, nd⟩ := nb
    cases hnf
    have hreq : ¬ size - bs > ns := hreq
    refine ⟨bs + (HDR + ns), bd, ?_, by omega, Or.inl rfl⟩
    exact Effect.seg (mid := [_, _]) hb (mid' := [⟨bs + (HDR + ns), false, bp, bd⟩]) (R' := setPrevHd _ q') rfl rfl
      (by simp [Nat.add_assoc]) (hx := fun _ => rfl)
      (hm := fun hc => ⟨hc.1, (nomatch ·.2), hc.2.2.1, Nat.le_trans hc.2.2.2.1 (Nat.le_add_right _ _), trivial⟩)
      (hf := fun h => nomatch h) (hR := .inr rfl)
  | @shrinkMerge nb q' hnf hrem =>
    obtain ⟨ns, nf, np, nd⟩ := nb
    cases hnf
    have hrem : 32 ≤ bs - size := hrem
    refine ⟨size, bd.take size, ?_, Nat.le_refl _, Or.inr rfl⟩
    exact Effect.seg (mid := [_, _]) hb (mid' := [⟨size, false, bp, bd.take size⟩, ⟨bs - size + ns, true, size, []⟩])
      (R' := setPrevHd _ q') rfl rfl (by dsimp only [total, HDR]; omega) (hx := fun _ => rfl)
      (hm := fun hc => chainOK_pair hc.1 rfl hc.2.2.1 hs2 hs1 (Nat.le_add_right_of_le (Nat.le_trans (by decide) hrem)))
      (hf := fun _ => .inl rfl) (hR := .inr rfl)
  | shrinkSplit hq hrem =>
    have hrem : 32 ≤ bs - size := hrem
    refine ⟨size, bd.take size, ?_, Nat.le_refl _, Or.inr rfl⟩
    exact Effect.seg (mid := [_]) hb (mid' := [⟨size, false, bp, bd.take size⟩, ⟨bs - size - HDR, true, size, []⟩])
      (R' := setPrevHd _ q) rfl rfl (by dsimp only [total, HDR]; omega) (hx := fun _ => rfl)
      (hm := fun hc => chainOK_pair hc.1 rfl hc.2.2.1 hs2 hs1 (Nat.le_sub_of_add_le' hrem))
      (hf := fun _ => .inr hq) (hR := .inr rfl)
  | same hle =>
    exact ⟨bs, bd, ⟨rfl, id, liveStep_refl (liveOffs_mem_iff.2 ⟨_, _, q, hb, Nat.zero_add _, rfl, rfl, rfl⟩)⟩, hle, Or.inl rfl⟩

theorem reallocMerge_eff {s s' : Xma} {o n : Nat} (hr : reallocMerge s o n = .ok (some s')) :
    ∃ rp b q, findBlk o 0 [] s.blks = some (rp, b, q) ∧ ¬ roundReq n < ALIGN ∧
      ∃ sz' d', Effect s s' [(o, b.size, b.data)] [(o, sz', d')] ∧ roundReq n ≤ sz' ∧
        (d' = b.data ∨ d' = b.data.take (roundReq n)) := by
  obtain ⟨rp, b, q, hfb, hbf, hsz, hc⟩ := reallocMerge_cases hr
  obtain ⟨hb, ho⟩ := findBlk_split hfb
  exact ⟨rp, b, q, hfb, hsz, hc.eff hb ho hbf (roundReq_ok hsz).1 (roundReq_ok hsz).2⟩

theorem reallocMerge_wf {s s' : Xma} {o n : Nat} (h : WF s) (hr : reallocMerge s o n = .ok (some s')) : WF s' :=
  let ⟨_, _, _, _, _, _, _, e, _⟩ := reallocMerge_eff hr; e.wf h

theorem setData_wf {s : Xma} {o : Nat} {d : List Nat} (h : WF s) : WF (setData s o d) := by
  unfold setData
  split
  · exact h
  · rename_i rp b q hfb
    obtain ⟨hb, ho⟩ := findBlk_split hfb
    rw [WF_iff] at h ⊢
    rw [hb] at h
    -- neither the extent, nor the chain conditions, nor the free offsets look at `data`
    exact ⟨by simpa [plug] using h.1, by simpa [plug, chainOK_append, ChainOK] using h.2.1,
      by simpa [plug, freeOffs_append, freeOffs_cons] using h.2.2⟩

theorem realloc_cases {s s' : Xma} {o n : Nat} {r : Option Nat} (hr : realloc s o n = .ok (r, s')) :
    (r = some o ∧ reallocMerge s o n = .ok (some s')) ∨
    (r = none ∧ alloc s n = .ok (none, s')) ∨
    ∃ o' s1 ob, r = some o' ∧ alloc s n = .ok (some o', s1) ∧ blkAt s1 o = some ob ∧
      free (setData s1 o' (ob.data.take (copyLen n ob.size))) o = .ok s' := by
  revert hr
  fun_cases realloc s o n with
  | case1 | case3 | case5 | case6 => nofun
  | case2 _ hm =>
    rintro ⟨⟩
    exact Or.inl ⟨rfl, hm⟩
  | case4 _ _ ha =>
    rintro ⟨⟩
    exact Or.inr (Or.inl ⟨rfl, ha⟩)
  | case7 _ o' s1 ha ob hob _ _ hfr =>
    rintro ⟨⟩
    exact Or.inr (Or.inr ⟨o', s1, ob, rfl, ha, hob, hfr⟩)

theorem realloc_none {s s' : Xma} {o n : Nat} (hr : realloc s o n = .ok (none, s')) : s' = s := by
  rcases realloc_cases hr with ⟨ho, _⟩ | ⟨_, ha⟩ | ⟨_, _, _, ho, _⟩
  · cases ho
  · exact alloc_none ha
  · cases ho

theorem realloc_wf {s s' : Xma} {o n : Nat} {r : Option Nat} (h : WF s) (hr : realloc s o n = .ok (r, s')) : WF s' := by
  rcases realloc_cases hr with ⟨_, hm⟩ | ⟨_, ha⟩ | ⟨o', s1, ob, _, ha, _, hfr⟩
  · exact reallocMerge_wf h hm
  · exact alloc_wf h ha
  · exact free_wf (setData_wf (alloc_wf h ha)) hfr

theorem calloc_cases {s s' : Xma} {n : Nat} {r : Option Nat} (hc : calloc s n = .ok (r, s')) :
    (r = none ∧ alloc s n = .ok (none, s')) ∨
    ∃ o s1, r = some o ∧ alloc s n = .ok (some o, s1) ∧ s' = setData s1 o (List.replicate n 0) := by
  revert hc
  fun_cases calloc s n with
  | case1 => nofun
  | case2 _ ha =>
    rintro ⟨⟩
    exact Or.inl ⟨rfl, ha⟩
  | case3 o s1 ha =>
    rintro ⟨⟩
    exact Or.inr ⟨o, s1, rfl, ha, rfl⟩

theorem calloc_wf {s s' : Xma} {n : Nat} {r : Option Nat} (h : WF s) (hc : calloc s n = .ok (r, s')) : WF s' := by
  rcases calloc_cases hc with ⟨_, ha⟩ | ⟨o, s1, _, ha, rfl⟩
  · exact alloc_wf h ha
  · exact setData_wf (alloc_wf h ha)

/-- the case rule of `step`: the new state is what a call that returned `.ok`, or an accepted write, left; after an error or a
    refused write it is `s` itself (`h`) -/
theorem step_cases {P : Xma → Prop} {s : Xma} (h : P s)
    (halloc : ∀ {n r s'}, alloc s n = .ok (r, s') → P s') (hcalloc : ∀ {n r s'}, calloc s n = .ok (r, s') → P s')
    (hrealloc : ∀ {o n r s'}, realloc s o n = .ok (r, s') → P s') (hfree : ∀ {o s'}, free s o = .ok s' → P s')
    (hwrite : ∀ o d, P (setData s o d)) (op : Op) : P (step s op) := by
  fun_cases step s op with
  | case1 _ _ _ ha => exact halloc ha
  | case3 _ _ _ hc => exact hcalloc hc
  | case5 _ _ _ _ hr => exact hrealloc hr
  | case7 _ _ hf => exact hfree hf
  | case9 o d => exact hwrite o d
  | _ => exact h

theorem step_wf {s : Xma} (h : WF s) (op : Op) : WF (step s op) :=
  step_cases h (alloc_wf h) (calloc_wf h) (realloc_wf h) (free_wf h) (fun _ _ => setData_wf h) op

theorem run_wf {s : Xma} (h : WF s) (ops : List Op) : WF (run s ops) :=
  List.foldlRecOn ops step h fun _ h op _ => step_wf h op

theorem initx_wf {z : Nat} (hz2 : FBLKMIN ≤ z) :
    ∃ s, initx z = some s ∧ WF s ∧ s.zone = z ∧ s.blks = [{ size := z - HDR, free := true, prev := 0 }] := by
  unfold initx
  rw [if_neg (by omega)]
  refine ⟨_, rfl, ?_, rfl, rfl⟩
  have hrep : ∀ j, fl (List.replicate NCLS ([] : List Nat)) j = [] := by
    intro j; simp only [fl, List.getD_eq_getElem?_getD, List.getElem?_replicate]; split <;> rfl
  have h0 : FLInv (List.replicate NCLS []) (fun _ _ => False) := ⟨by simp, fun i => by simp [hrep], fun i o => by simp [hrep]⟩
  have h1 := h0.attach (o := 0) (sz := z - HDR) (fun _ => id)
  rw [WF_iff]
  refine ⟨?_, ?_, ?_⟩
  · dsimp only [total, FBLKMIN, HDR, MINALLOC] at hz2 ⊢; omega
  · simp only [ChainOK, FBLKMIN, HDR, MINALLOC, ALIGN] at hz2 ⊢
    refine ⟨trivial, by simp, trivial, by omega, trivial⟩
  · simp only [attach, hrep] at h1
    dsimp only
    exact h1.congr (fun o sz => by simp [freeOffs])

theorem initx_some {z : Nat} {s : Xma} (h : initx z = some s) : FBLKMIN ≤ z ∧ WF s ∧ s.zone = z := by
  have hz : FBLKMIN ≤ z := by
    unfold initx at h
    by_cases c : z < FBLKMIN
    · rw [if_pos c] at h; cases h
    · omega
  obtain ⟨s1, e1, hw, hzone, _⟩ := initx_wf hz
  cases h.symm.trans e1
  exact ⟨hz, hw, hzone⟩

theorem initSize_ok (z : Nat) : initSize z % ALIGN = 0 ∧ FBLKMIN ≤ initSize z := by
  unfold initSize
  simp only
  split
  · exact ⟨by decide, Nat.le_refl _⟩
  · rename_i h
    simp only [FBLKMIN, HDR, MINALLOC, ALIGN, WORD, BITS] at h ⊢; omega

end Hawk.Xma
