import HawkModel.RexParse
/-! the union-building loop of `tre_parse_bracket` for a NEGATED bracket expression computes the complement of the
union of its (sorted) items — for every item list; and `sortItems` sorts -/
namespace Hawk.Rex.Tre
open Hawk.Rex

/-- code ranges of the literal leaves of a union tree -/
def leafRanges : Ast → List (Nat × Option Nat)
  | .leaf (.lit l) _ _ => [(l.lo, l.hi)]
  | .leaf _ _ _ => []
  | .union a b _ _ => leafRanges a ++ leafRanges b
  | .cat _ _ _ _ => []
  | .iter _ _ _ _ _ _ => []

def optRanges : Option Ast → List (Nat × Option Nat)
  | none => []
  | some a => leafRanges a

/-- `d` lies in one of the ranges (`none` = up to TRE_CHAR_MAX) -/
def inRanges (l : List (Nat × Option Nat)) (d : Nat) : Prop := ∃ r ∈ l, r.1 ≤ d ∧ ∀ h, r.2 = some h → d ≤ h

def Item.has (it : Item) (d : Nat) : Prop := it.lo ≤ d ∧ ∀ h, it.hi = some h → d ≤ h

theorem optRanges_addNode (node : Option Ast) (l : Lit) :
    optRanges (addNode node (.leaf (.lit l) none 0)) = optRanges node ++ [(l.lo, l.hi)] := by
  cases node <;> simp [addNode, optRanges, leafRanges, mkUnion]

theorem inRanges_append (a b : List (Nat × Option Nat)) (d : Nat) :
    inRanges (a ++ b) d ↔ inRanges a d ∨ inRanges b d := by
  simp only [inRanges, List.mem_append, or_and_right, exists_or]

theorem inRanges_single (a : Nat) (b : Option Nat) (d : Nat) :
    inRanges [(a, b)] d ↔ a ≤ d ∧ ∀ h, b = some h → d ≤ h := by
  simp [inRanges]

theorem Item.has_some {it : Item} {h : Nat} (hhi : it.hi = some h) (d : Nat) : it.has d ↔ it.lo ≤ d ∧ d ≤ h := by
  simp [Item.has, hhi]

/-- one iteration of the loop, followed at `curr_min = curr_max = c` only: a negated bracket starts at 0, 0 and every
iteration leaves the two equal -/
theorem bracketBuild_neg_step (pos : Nat) (negs : List CClass) (it : Item) (rest : List Item) (node : Option Ast) (c : Int)
    (hc : 0 ≤ c) {h : Nat} (hhi : it.hi = some h) (hlo : it.lo ≤ h) :
    ∃ node', bracketBuild true pos negs (it :: rest) node c c =
        bracketBuild true pos negs rest node' (max ((h : Int) + 1) c) (max ((h : Int) + 1) c) ∧
      ∀ d : Nat, inRanges (optRanges node') d ↔ inRanges (optRanges node) d ∨ (c ≤ (d : Int) ∧ (d : Int) < it.lo) := by
  simp only [bracketBuild, hhi, Option.getD_some, if_true]
  by_cases hov : (it.lo : Int) < c
  · exact ⟨node, by rw [if_pos hov], fun d => (or_iff_left (by omega)).symm⟩
  · have hmax : max ((h : Int) + 1) c = (h : Int) + 1 := by omega
    rw [if_neg hov, hmax]
    refine ⟨_, rfl, fun d => ?_⟩
    by_cases hroom : (it.lo : Int) - 1 ≥ c
    · rw [if_pos hroom, optRanges_addNode, inRanges_append, inRanges_single]
      simp only [Option.some.injEq, forall_eq']
      exact or_congr_right (by omega)
    · rw [if_neg hroom]
      exact (or_iff_left (by omega)).symm

/-- `negated_bracket_is_complement` (the loop with its closing `curr_min .. TRE_CHAR_MAX` literal) from any `node` and `c` -/
theorem bracketBuild_neg (pos : Nat) (negs : List CClass) : ∀ (items : List Item) (node : Option Ast) (c : Int),
    0 ≤ c → items.Pairwise (fun x y => x.lo ≤ y.lo) → (∀ it ∈ items, ∃ h, it.hi = some h ∧ it.lo ≤ h) → ∀ d : Nat,
    inRanges (optRanges (addNode (bracketBuild true pos negs items node c c).1
        (.leaf (.lit ⟨(bracketBuild true pos negs items node c c).2.toNat, none, pos, none, negs⟩) none 0))) d ↔
      inRanges (optRanges node) d ∨ (c ≤ (d : Int) ∧ ¬ ∃ it ∈ items, it.has d)
  | [], node, c, hc, _, _, d => by
    rw [optRanges_addNode, inRanges_append, inRanges_single]
    simp only [bracketBuild, reduceCtorEq, false_imp_iff, implies_true, and_true, List.not_mem_nil, false_and, exists_false,
      not_false_eq_true]
    exact or_congr_right (by omega)
  | it :: rest, node, c, hc, hs, hh, d => by
    obtain ⟨h, hhi, hlo⟩ := hh it (List.mem_cons_self ..)
    obtain ⟨hsit, hsrest⟩ := List.pairwise_cons.1 hs
    obtain ⟨node', hstep, hnode'⟩ := bracketBuild_neg_step pos negs it rest node c hc hhi hlo
    -- an item of `rest` that has `d` starts at or after `it`, so `d` is not below `it`
    have hq : (∃ x ∈ rest, x.has d) → it.lo ≤ d := fun ⟨x, hx, hd⟩ => Nat.le_trans (hsit x hx) hd.1
    rw [hstep, bracketBuild_neg pos negs rest node' _ (by omega) hsrest (fun x hx => hh x (List.mem_cons_of_mem _ hx)) d,
      hnode' d, or_assoc]
    simp only [List.mem_cons, or_and_right, exists_or, exists_eq_left, Item.has_some hhi]
    refine or_congr_right ?_
    by_cases hQ : ∃ x ∈ rest, x.has d
    · have := hq hQ
      simp only [hQ, not_true_eq_false, or_true, and_false, or_false, iff_false]
      omega
    · simp only [hQ, not_false_eq_true, and_true, or_false]
      omega

theorem negated_bracket_is_complement (pos : Nat) (negs : List CClass) (items : List Item)
    (hs : items.Pairwise (fun x y => x.lo ≤ y.lo)) (hh : ∀ it ∈ items, ∃ h, it.hi = some h ∧ it.lo ≤ h) (d : Nat) :
    let r := bracketBuild true pos negs items none 0 0
    inRanges (optRanges (addNode r.1 (.leaf (.lit ⟨r.2.toNat, none, pos, none, negs⟩) none 0))) d ↔
      ¬ ∃ it ∈ items, it.has d := by
  intro r
  rw [bracketBuild_neg pos negs items none 0 (Int.le_refl 0) hs hh d]
  simp only [optRanges, inRanges, List.not_mem_nil, false_and, exists_false, false_or, Int.natCast_nonneg, true_and]

theorem insertItem_perm (x : Item) (l : List Item) : (insertItem x l).Perm (x :: l) := by
  fun_induction insertItem x l with
  | case1 | case2 => exact .refl _
  | case3 y l _ ih => exact (ih.cons y).trans (.swap x y l)

theorem insertItem_sorted (x : Item) (l : List Item) (h : l.Pairwise (fun a b => a.lo ≤ b.lo)) :
    (insertItem x l).Pairwise (fun a b => a.lo ≤ b.lo) := by
  fun_induction insertItem x l with
  | case1 => exact List.pairwise_singleton ..
  | case2 y l hlt =>
    have h' := List.pairwise_cons.1 h
    simp only [List.pairwise_cons, List.mem_cons, forall_eq_or_imp]
    exact ⟨⟨Nat.le_of_lt hlt, fun z hz => Nat.le_trans (Nat.le_of_lt hlt) (h'.1 z hz)⟩, h'⟩
  | case3 y l hge ih =>
    simp only [List.pairwise_cons, (insertItem_perm x l).mem_iff, List.mem_cons, forall_eq_or_imp] at h ⊢
    exact ⟨⟨Nat.le_of_not_lt hge, h.1⟩, ih h.2⟩

theorem foldl_insert_sorted : ∀ (l acc : List Item), acc.Pairwise (fun a b => a.lo ≤ b.lo) →
    (l.foldl (fun acc x => insertItem x acc) acc).Pairwise (fun a b => a.lo ≤ b.lo) ∧
    (l.foldl (fun acc x => insertItem x acc) acc).Perm (l ++ acc)
  | [], acc, h => ⟨h, .refl _⟩
  | x :: l, acc, h => by
    obtain ⟨i1, i2⟩ := foldl_insert_sorted l (insertItem x acc) (insertItem_sorted x acc h)
    exact ⟨i1, i2.trans (((insertItem_perm x acc).append_left l).trans List.perm_middle)⟩

theorem sortItems_spec (l : List Item) :
    (sortItems l).Pairwise (fun a b => a.lo ≤ b.lo) ∧ (sortItems l).Perm l := by
  simpa only [sortItems, List.append_nil] using foldl_insert_sorted l [] .nil

end Hawk.Rex.Tre
