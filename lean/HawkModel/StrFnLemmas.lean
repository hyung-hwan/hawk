import HawkModel.StrFn
/-!
  The vocabulary in which Props/C13.lean states the string builtins, each notion with the lemmas that join it to the
  model: the searches find the first/last `Occurs`, the substr clamps are the range `substrLo` .. `substrHi`, the loop of
  sub/gsub renders `matchSeq`, the split loop is read over the one-character and over the blank tokeniser; `charMatcher`,
  the ASCII case maps and `toyEnv` are the instances of the Props file.
-/
set_option linter.unusedSectionVars false
set_option linter.unusedVariables false
namespace Hawk.StrFn
variable {α : Type} [DecidableEq α]

/-- `p` occurs in `s` at offset `i` (0-based).  The length bound matters for the empty pattern only: beyond the end
    `s.drop i` is `[]`, of which `[]` is a prefix. -/
def Occurs (p s : List α) (i : Nat) : Prop := i + p.length ≤ s.length ∧ p <+: s.drop i

theorem occurs_zero {p s : List α} : Occurs p s 0 ↔ p.isPrefixOf s = true := by
  rw [List.isPrefixOf_iff_prefix]
  exact ⟨fun h => h.2, fun h => ⟨by simpa using h.length_le, h⟩⟩

theorem occurs_succ {p t : List α} {c : α} {j : Nat} : Occurs p (c :: t) (j + 1) ↔ Occurs p t j := by
  simp only [Occurs, List.length_cons, List.drop_succ_cons, Nat.add_right_comm j 1, Nat.add_le_add_iff_right]

theorem occurs_nil {p : List α} {j : Nat} (h : Occurs p [] j) : Occurs p [] 0 :=
  ⟨by have := h.1; omega, by simpa using h.2⟩

theorem occurs_drop {p s : List α} {k i : Nat} (hk : k ≤ s.length) :
    Occurs p (s.drop k) i ↔ Occurs p s (k + i) := by
  simp only [Occurs, List.length_drop, List.drop_drop]
  constructor <;> exact fun ⟨h1, h2⟩ => ⟨by omega, h2⟩

theorem find_some {p s : List α} {i : Nat} (h : find s p = some i) :
    Occurs p s i ∧ ∀ j, j < i → ¬ Occurs p s j := by
  fun_induction find s p generalizing i with
  | case1 p hp | case3 c t p hp =>
    cases h
    exact ⟨occurs_zero.2 hp, fun j hj => absurd hj (Nat.not_lt_zero j)⟩
  | case2 => cases h
  | case4 c t p hp ih =>
    obtain ⟨i', hf, rfl⟩ := Option.map_eq_some_iff.1 h
    obtain ⟨h1, h2⟩ := ih hf
    refine ⟨occurs_succ.2 h1, fun j hj => ?_⟩
    cases j with
    | zero => exact fun ho => hp (occurs_zero.1 ho)
    | succ j' => exact fun ho => h2 j' (Nat.lt_of_succ_lt_succ hj) (occurs_succ.1 ho)

theorem find_none {p s : List α} (h : find s p = none) (j : Nat) : ¬ Occurs p s j := by
  fun_induction find s p generalizing j with
  | case1 | case3 => cases h
  | case2 p hp => exact fun ho => hp (occurs_zero.1 (occurs_nil ho))
  | case4 c t p hp ih =>
    cases j with
    | zero => exact fun ho => hp (occurs_zero.1 ho)
    | succ j' => exact fun ho => ih (Option.map_eq_none_iff.1 h) j' (occurs_succ.1 ho)

theorem find_nil (s : List α) : find s [] = some 0 := by
  cases s <;> rfl

theorem occursAt_iff {p s : List α} {i : Nat} (hi : i + p.length ≤ s.length) :
    occursAt p s i = true ↔ Occurs p s i := by
  simp only [occursAt, List.isPrefixOf_iff_prefix, Occurs, hi, true_and]

theorem rfindFrom_some {s p : List α} {k i : Nat} (hk : k + p.length ≤ s.length) (h : rfindFrom s p k = some i) :
    Occurs p s i ∧ ∀ j, i < j → j ≤ k → ¬ Occurs p s j := by
  fun_induction rfindFrom s p k with
  | case1 ho | case3 k ho =>
    cases h
    exact ⟨(occursAt_iff hk).1 ho, fun j h1 h2 => by omega⟩
  | case2 => cases h
  | case4 k ho ih =>
    obtain ⟨h1, h2⟩ := ih (by omega) h
    refine ⟨h1, fun j hj1 hj2 hoc => ?_⟩
    by_cases hjk : j = k + 1
    · subst hjk; exact ho ((occursAt_iff hk).2 hoc)
    · exact h2 j hj1 (by omega) hoc

theorem rfindFrom_none {s p : List α} {k : Nat} (hk : k + p.length ≤ s.length) (h : rfindFrom s p k = none)
    (j : Nat) (hj : j ≤ k) : ¬ Occurs p s j := by
  fun_induction rfindFrom s p k with
  | case1 | case3 => cases h
  | case2 ho =>
    obtain rfl : j = 0 := by omega
    exact fun hoc => ho ((occursAt_iff hk).2 hoc)
  | case4 k ho ih =>
    by_cases hjk : j = k + 1
    · subst hjk; exact fun hoc => ho ((occursAt_iff hk).2 hoc)
    · exact ih (by omega) h (by omega)

theorem rfind_some {s p : List α} {i : Nat} (h : rfind s p = some i) :
    Occurs p s i ∧ ∀ j, i < j → ¬ Occurs p s j := by
  unfold rfind at h
  split at h
  · -- the empty pattern is found at the end, its last occurrence
    rename_i hp
    cases h
    obtain rfl := List.length_eq_zero_iff.1 hp
    exact ⟨⟨Nat.le_refl _, List.nil_prefix⟩, fun j hj hoc => Nat.not_le_of_gt hj hoc.1⟩
  · split at h
    · cases h
    · obtain ⟨h1, h2⟩ := rfindFrom_some (by omega) h
      exact ⟨h1, fun j hj hoc => h2 j hj (by have := hoc.1; omega) hoc⟩

theorem rfind_none {s p : List α} (h : rfind s p = none) : ∀ j, ¬ Occurs p s j := by
  unfold rfind at h
  intro j hoc
  have := hoc.1
  split at h
  · cases h
  · split at h
    · omega
    · exact rfindFrom_none (by omega) h j (by omega) hoc

theorem indexCore_forward {s : List α} {start : Option Int} {b : Int} (hb : indexBoundary false s.length start = b)
    (p : List α) :
    indexCore false s p start =
      if b ≤ 0 ∨ b > (s.length : Int) + 1 then 0
      else match find (s.drop (b.toNat - 1)) p with
        | some i => ((b.toNat - 1 + i : Nat) : Int) + 1
        | none => 0 := by
  subst hb
  rfl

/-- first position taken (1-based) -/
def substrLo (n : Nat) (start : Int) : Int := min (max start 1) ((n : Int) + 1)
/-- one past the last position taken -/
def substrHi (n : Nat) (start : Int) : Option Int → Int
  | none => (n : Int) + 1
  | some l => min (substrLo n start + max l 0) ((n : Int) + 1)

theorem substrIndex_eq_min (n : Nat) (start : Int) : substrIndex n start = min (start - 1).toNat n := by
  simp only [substrIndex]
  omega

theorem substrCount_some (n lindex : Nat) (l : Int) :
    substrCount n lindex (some l) = min l.toNat (n - lindex) := by
  simp only [substrCount]
  omega

theorem substr_some (s : List α) (start l : Int) :
    substr s start (some l) = (s.drop (start - 1).toNat).take l.toNat := by
  simp only [substr]
  rw [substrIndex_eq_min, substrCount_some, ← List.length_drop, ← List.take_eq_take_min, ← List.drop_eq_drop_min]

theorem substr_none (s : List α) (start : Int) : substr s start none = s.drop (start - 1).toNat := by
  simp only [substr, substrCount]
  rw [substrIndex_eq_min, ← List.length_drop, List.take_length, ← List.drop_eq_drop_min]

theorem substrIndex_le (n : Nat) (start : Int) : substrIndex n start ≤ n := by
  rw [substrIndex_eq_min]
  exact Nat.min_le_right _ _

theorem substrLo_eq (n : Nat) (start : Int) : substrLo n start = (substrIndex n start : Int) + 1 := by
  rw [substrIndex_eq_min]
  simp only [substrLo]
  omega

theorem substr_bounds (n : Nat) (start : Int) (len : Option Int) :
    1 ≤ substrLo n start ∧ substrLo n start ≤ substrHi n start len ∧ substrHi n start len ≤ (n : Int) + 1 := by
  have hk := substrIndex_le n start
  cases len <;> simp only [substrHi, substrLo_eq] <;> omega

theorem substrHi_eq (n : Nat) (start : Int) (len : Option Int) :
    substrHi n start len = substrLo n start + (substrCount n (substrIndex n start) len : Nat) := by
  have hk := substrIndex_le n start
  cases len with
  | none =>
    simp only [substrCount, substrHi, substrLo_eq]
    omega
  | some l =>
    rw [substrCount_some]
    simp only [substrHi, substrLo_eq]
    omega

theorem piecesLoop_unfold {σ : Type} (step : σ → TokRes σ α) (μ : σ → Nat)
    (hdec : ∀ a t b, step a = (t, some b) → μ b < μ a) (a : σ) (k : Nat) :
    piecesLoop step μ hdec a k =
      match step a with
      | (tk, none) => if k = 0 ∧ tk = [] then [] else [tk]
      | (tk, some b) => tk :: piecesLoop step μ hdec b (k + 1) := by
  rw [piecesLoop]
  split <;> simp_all

theorem not_mem_takeWhile_ne (c : α) (l : List α) : c ∉ l.takeWhile (fun x => !([c].contains x)) := by
  intro h
  have := List.mem_takeWhile_imp h
  simp at this

theorem tokChars_nil (isSp : α → Bool) (blank : α) (delim : List α) :
    tokChars isSp blank delim [] = ([], none) := by
  simp only [tokChars]
  cases delimMode isSp blank delim <;> simp [tokEmpty, tokSpaces, tokNoSpaces, tokComposite, nextOrNull, trimRight]

theorem tokChars_single (isSp : α → Bool) (blank c : α) (hc : c ≠ blank) (s : List α) :
    tokChars isSp blank [c] s = tokNoSpaces [c] s := by
  have hm : delimMode isSp blank [c] = .nospaces := by
    simp only [delimMode, delimScan]
    by_cases h : isSp c = true
    · simp [h, hc]
    · simp [h]
  simp only [tokChars, hm]

theorem tokChars_blank (isSp : α → Bool) (blank : α) (hb : isSp blank = true) (s : List α) :
    tokChars isSp blank [blank] s = tokSpaces isSp s := by
  have hm : delimMode isSp blank [blank] = .spaces := by simp [delimMode, delimScan, hb]
  simp only [tokChars, hm]

theorem tokCharsIc_id (isSp : α → Bool) (blank : α) (delim : List α) :
    tokCharsIc isSp blank id delim = tokChars isSp blank delim := by
  funext s
  simp only [tokCharsIc, tokChars, tokNoSpacesIc, tokNoSpaces, tokCompositeIc, tokComposite, List.map_id, id]

theorem splitCharsIc_id (isSp : α → Bool) (blank : α) (delim s : List α) :
    splitCharsIc isSp blank id delim s = splitChars isSp blank delim s := by
  unfold splitCharsIc splitChars
  congr 1
  exact tokCharsIc_id isSp blank delim

theorem tokNoSpaces_single {c : α} {s tk : List α} {r : Option (List α)} (h : tokNoSpaces [c] s = (tk, r)) :
    c ∉ tk ∧ match r with
      | none => s = tk
      | some b => s = tk ++ c :: b := by
  have happ := List.takeWhile_append_dropWhile (p := fun x => !([c].contains x)) (l := s)
  simp only [tokNoSpaces] at h
  split at h
  · rename_i hd
    cases h
    exact ⟨not_mem_takeWhile_ne c s, by rw [hd, List.append_nil] at happ; exact happ.symm⟩
  · rename_i x t hd
    cases h
    obtain rfl : x = c := by simpa using List.head?_dropWhile_eq_some (congrArg List.head? hd)
    exact ⟨not_mem_takeWhile_ne x s, by rw [hd] at happ; exact happ.symm⟩

/-- Stated for a variable `step` with `hstep`, not for the tokeniser itself: `splitChars` hands `piecesLoop` the step
    `tokChars ..` together with its termination proof `tokChars_dec ..`, and `tokChars .. [c]` is `tokNoSpaces [c]` only
    up to `funext`, so the step is generalised with its `hdec` (likewise in `piecesLoop_blank`).  `hk` is the invariant
    on `nflds`: only the first call on an empty subject yields no piece. -/
theorem piecesLoop_single {step : List α → TokRes (List α) α}
    (hdec : ∀ a t b, step a = (t, some b) → b.length < a.length) (c : α)
    (hstep : step = tokNoSpaces [c]) (s : List α) (k : Nat) (hk : 0 < k ∨ s ≠ []) :
      List.intercalate [c] (piecesLoop step List.length hdec s k) = s ∧
      (piecesLoop step List.length hdec s k).length = s.count c + 1 ∧
      ∀ t ∈ piecesLoop step List.length hdec s k, c ∉ t := by
  subst hstep
  fun_induction piecesLoop (tokNoSpaces [c]) List.length hdec s k with
  | case1 s k tk hs hz =>
    obtain ⟨_, (rfl : s = tk)⟩ := tokNoSpaces_single hs
    rcases hk with hk | hk
    · omega
    · exact absurd hz.2 hk
  | case2 s k tk hs hz =>
    obtain ⟨hfree, (rfl : s = tk)⟩ := tokNoSpaces_single hs
    exact ⟨List.intercalate_singleton, by simp [List.count_eq_zero.2 hfree],
      fun t ht => by rw [List.mem_singleton.1 ht]; exact hfree⟩
  | case3 s k tk b hs ih =>
    obtain ⟨hfree, (rfl : s = tk ++ c :: b)⟩ := tokNoSpaces_single hs
    obtain ⟨h1, h2, h3⟩ := ih (Or.inl (Nat.succ_pos k))
    have hne : piecesLoop (tokNoSpaces [c]) List.length hdec b (k + 1) ≠ [] := fun h => by rw [h] at h2; cases h2
    refine ⟨?_, ?_, ?_⟩
    · rw [List.intercalate_cons_of_ne_nil hne, h1, List.append_assoc]; rfl
    · rw [List.length_cons, h2, List.count_append, List.count_cons_self, List.count_eq_zero.2 hfree]
      omega
    · intro u hu
      rcases List.mem_cons.1 hu with rfl | hu
      · exact hfree
      · exact h3 u hu

theorem filter_dropWhile_sp (isSp : α → Bool) (l : List α) :
    (l.dropWhile isSp).filter (fun x => !isSp x) = l.filter (fun x => !isSp x) := by
  induction l with
  | nil => rfl
  | cons a r ih => cases h : isSp a <;> simp [h, ih]

theorem filter_nonsp_split (isSp : α → Bool) (l : List α) :
    l.filter (fun x => !isSp x) =
      l.takeWhile (fun x => !isSp x) ++ (l.dropWhile (fun x => !isSp x)).filter (fun x => !isSp x) := by
  induction l with
  | nil => rfl
  | cons a r ih => cases h : isSp a <;> simp [h, ih]

/-- The last two parts feed the invariant `hk` of `piecesLoop_blank`: an empty token ends the loop and comes only from
    a subject that does not start with a non-space; a continuation starts with a non-space, so the next token is not
    empty. -/
theorem tokSpaces_spec {isSp : α → Bool} {s tk : List α} {r : Option (List α)} (h : tokSpaces isSp s = (tk, r)) :
    (∀ x ∈ tk, isSp x = false) ∧
    s.filter (fun x => !isSp x) = tk ++ (r.getD []).filter (fun x => !isSp x) ∧
    (tk = [] → r = none ∧ ∀ a t, s = a :: t → isSp a = true) ∧
    (∀ b, r = some b → ∃ a t, b = a :: t ∧ isSp a = false) := by
  simp only [tokSpaces, Prod.mk.injEq] at h
  obtain ⟨rfl, rfl⟩ := h
  have hget : ∀ p : List α, (nextOrNull p).getD [] = p := fun p => by cases p <;> rfl
  refine ⟨fun x hx => by simpa using List.mem_takeWhile_imp hx, ?_, fun htke => ?_, fun b hb => ?_⟩
  · rw [hget, filter_dropWhile_sp, ← filter_nonsp_split, filter_dropWhile_sp]
  · -- an empty token: what is left after the leading spaces cannot start with a non-space, so it is empty
    generalize hp : s.dropWhile isSp = p1 at *
    cases p1 with
    | cons a r => simp [List.head?_dropWhile_eq_some (congrArg List.head? hp)] at htke
    | nil =>
      refine ⟨rfl, fun a t hs => ?_⟩
      subst hs
      cases ha : isSp a with
      | true => rfl
      | false => simp [ha] at hp
  · obtain rfl := nextOrNull_some hb
    generalize hp : ((s.dropWhile isSp).dropWhile fun c => !isSp c).dropWhile isSp = p2 at hb ⊢
    cases p2 with
    | nil => simp [nextOrNull] at hb
    | cons a t => exact ⟨a, t, rfl, List.head?_dropWhile_eq_some (congrArg List.head? hp)⟩

theorem piecesLoop_blank {step : List α → TokRes (List α) α} (isSp : α → Bool)
    (hdec : ∀ a t b, step a = (t, some b) → b.length < a.length)
    (hstep : step = tokSpaces isSp) (s : List α) (k : Nat)
    (hk : k = 0 ∨ ∃ a t, s = a :: t ∧ isSp a = false) :
      (∀ t ∈ piecesLoop step List.length hdec s k, t ≠ [] ∧ ∀ x ∈ t, isSp x = false) ∧
      (piecesLoop step List.length hdec s k).flatten = s.filter (fun x => !isSp x) := by
  subst hstep
  fun_induction piecesLoop (tokSpaces isSp) List.length hdec s k with
  | case1 s k tk hs hz =>
    obtain ⟨_, h2, _, _⟩ := tokSpaces_spec hs
    exact ⟨fun t ht => (by cases ht), by rw [h2, hz.2]; rfl⟩
  | case2 s k tk hs hz =>
    obtain ⟨h1, h2, h3, _⟩ := tokSpaces_spec hs
    have hne : tk ≠ [] := fun e => by
      rcases hk with hk | ⟨a, t, hs', ha⟩
      · exact hz ⟨hk, e⟩
      · rw [(h3 e).2 a t hs'] at ha; cases ha
    exact ⟨fun t ht => by rw [List.mem_singleton.1 ht]; exact ⟨hne, h1⟩, by rw [h2]; simp⟩
  | case3 s k tk b hs ih =>
    obtain ⟨h1, h2, h3, h4⟩ := tokSpaces_spec hs
    obtain ⟨g1, g2⟩ := ih (Or.inr (h4 b rfl))
    refine ⟨fun t ht => ?_, by rw [List.flatten_cons, g2, h2]; rfl⟩
    rcases List.mem_cons.1 ht with rfl | ht
    · exact ⟨fun e => (by cases (h3 e).1), h1⟩
    · exact g1 t ht

/-- The matches that sub/gsub replace, by the rule of the property: take the leftmost match at or after
    the cursor (what the engine reports from there); an empty match immediately after the previous taken
    match is not taken (the cursor moves one character on); after a taken match the cursor is its end, one
    character further after an empty one; stop after `limit` matches.  `pend` = end of the previous taken
    match, `cnt` = matches taken so far. -/
def matchSeq (m : Matcher α) (s : List α) (limit : Option Nat) (cur : Nat) (pend : Option Nat) (cnt : Nat) :
    List (Nat × Nat) :=
  if hc : cur ≤ s.length then
    match hm : (if belowLimit cnt limit then m.run s cur else none) with
    | none => []
    | some (p, l) =>
      if l = 0 ∧ pend = some p then matchSeq m s limit (cur + 1) pend cnt
      else if l = 0 then (p, l) :: matchSeq m s limit (p + 1) (some p) (cnt + 1)
      else (p, l) :: matchSeq m s limit (p + l) (some (p + l)) (cnt + 1)
  else []
termination_by s.length + 1 - cur
decreasing_by
  · omega
  · have hr : m.run s cur = some (p, l) := by
      split at hm
      · exact hm
      · simp at hm
    have := m.inside s cur p l hr
    omega
  · have hr : m.run s cur = some (p, l) := by
      split at hm
      · exact hm
      · simp at hm
    have := m.inside s cur p l hr
    omega

/-- the substituted text for a list of matches: text between matches copied, each match replaced by the
    expanded template; `from_` = where copying resumes -/
def render (bs amp : α) (s repl : List α) : List (Nat × Nat) → Nat → List α
  | [], from_ => s.drop from_
  | (p, l) :: r, from_ =>
    (s.drop from_).take (p - from_) ++ expand bs amp ((s.drop p).take l) repl ++ render bs amp s repl r (p + l)

theorem matchSeq_unfold (m : Matcher α) (s : List α) (limit : Option Nat) (cur : Nat) (pend : Option Nat) (cnt : Nat) :
    matchSeq m s limit cur pend cnt =
      if cur ≤ s.length then
        match (if belowLimit cnt limit then m.run s cur else none) with
        | none => []
        | some (p, l) =>
          if l = 0 ∧ pend = some p then matchSeq m s limit (cur + 1) pend cnt
          else if l = 0 then (p, l) :: matchSeq m s limit (p + 1) (some p) (cnt + 1)
          else (p, l) :: matchSeq m s limit (p + l) (some (p + l)) (cnt + 1)
      else [] := by
  rw [matchSeq]
  split
  · split <;> simp_all
  · rfl

theorem matchSeq_at_limit (m : Matcher α) (s : List α) (cur : Nat) (pend : Option Nat) (cnt : Nat) :
    matchSeq m s (some cnt) cur pend cnt = [] := by
  rw [matchSeq_unfold]
  simp [belowLimit]

/-- What the `hm` of a reported match says, in the form in which `fun_induction` on `matchSeq` / `substLoop` hands it
    over (their `match hm : if .. then m.run s cur else none` arrives as a dependent `if`): the limit is not reached,
    the engine reported `(p, l)`, and `Matcher.inside` holds of it. -/
theorem guard_some {m : Matcher α} {s : List α} {b : Bool} {cur p l : Nat}
    (h : (if _h : b = true then m.run s cur else none) = some (p, l)) :
    b = true ∧ m.run s cur = some (p, l) ∧ cur ≤ p ∧ p + l ≤ s.length := by
  split at h
  · exact ⟨‹_›, h, m.inside s cur p l h⟩
  · cases h

/-- matches lie inside the subject, run left to right and do not overlap: each starts at or after `lo`,
    the next one at or after its end (strictly after its start when it is empty) -/
def NonOverlapping (n : Nat) : Nat → List (Nat × Nat) → Prop
  | _, [] => True
  | lo, (p, l) :: r => lo ≤ p ∧ p + l ≤ n ∧ NonOverlapping n (if l = 0 then p + 1 else p + l) r

/-- no taken match is an empty match sitting at the end of the previous taken match -/
def NoAdjacentEmpty : Option Nat → List (Nat × Nat) → Prop
  | _, [] => True
  | pend, (p, l) :: r => ¬ (l = 0 ∧ pend = some p) ∧ NoAdjacentEmpty (some (p + l)) r

/-- every taken match is what the engine reports from some cursor between `lo` and the match -/
def FromEngine (m : Matcher α) (s : List α) : Nat → List (Nat × Nat) → Prop
  | _, [] => True
  | lo, (p, l) :: r => (∃ c, lo ≤ c ∧ c ≤ p ∧ m.run s c = some (p, l)) ∧ FromEngine m s (p + l) r

theorem nonOverlapping_mono {n a b : Nat} (hab : a ≤ b) : ∀ {ms : List (Nat × Nat)},
    NonOverlapping n b ms → NonOverlapping n a ms
  | [], _ => trivial
  | (p, l) :: r, h => ⟨Nat.le_trans hab h.1, h.2⟩

theorem fromEngine_mono {m : Matcher α} {s : List α} {a b : Nat} (hab : a ≤ b) : ∀ {ms : List (Nat × Nat)},
    FromEngine m s b ms → FromEngine m s a ms
  | [], _ => trivial
  | (p, l) :: r, ⟨⟨c, h1, h2, h3⟩, h4⟩ => ⟨⟨c, Nat.le_trans hab h1, h2, h3⟩, h4⟩

/-- the limit clause of `matchSeq_wellformed_from` across a taken match: `k` further matches counted from `cnt + 1`
    are `k + 1` counted from `cnt` -/
theorem count_step {limit : Option Nat} {cnt k : Nat} (hb : belowLimit cnt limit = true)
    (h : ∀ lim, limit = some lim → k ≤ lim - (cnt + 1)) :
    ∀ lim, limit = some lim → k + 1 ≤ lim - cnt := by
  intro lim hlm
  subst hlm
  have hlt : cnt < lim := by simpa [belowLimit] using hb
  have := h lim rfl
  omega

theorem matchSeq_wellformed_from (m : Matcher α) (s : List α) (limit : Option Nat) (cur : Nat) (pend : Option Nat) (cnt : Nat) :
      NonOverlapping s.length cur (matchSeq m s limit cur pend cnt) ∧
      NoAdjacentEmpty pend (matchSeq m s limit cur pend cnt) ∧
      FromEngine m s cur (matchSeq m s limit cur pend cnt) ∧
      (∀ lim, limit = some lim → (matchSeq m s limit cur pend cnt).length ≤ lim - cnt) := by
  fun_induction matchSeq m s limit cur pend cnt with
  | case1 | case5 => exact ⟨trivial, trivial, trivial, fun _ _ => Nat.zero_le _⟩
  | case2 cur pend cnt hc p l hm hskip ih =>
    obtain ⟨h1, h2, h3, h4⟩ := ih
    exact ⟨nonOverlapping_mono (Nat.le_succ cur) h1, h2, fromEngine_mono (Nat.le_succ cur) h3, h4⟩
  | case3 cur pend cnt hc p hm hskip ih =>
    obtain ⟨h1, h2, h3, h4⟩ := ih
    obtain ⟨hb, hr, hcp, hpl⟩ := guard_some hm
    exact ⟨⟨hcp, hpl, h1⟩, ⟨hskip, h2⟩, ⟨⟨cur, Nat.le_refl _, hcp, hr⟩, fromEngine_mono (Nat.le_succ p) h3⟩,
      count_step hb h4⟩
  | case4 cur pend cnt hc p l hm hskip hl ih =>
    obtain ⟨h1, h2, h3, h4⟩ := ih
    obtain ⟨hb, hr, hcp, hpl⟩ := guard_some hm
    exact ⟨⟨hcp, hpl, by rwa [if_neg hl]⟩, ⟨hskip, h2⟩, ⟨⟨cur, Nat.le_refl _, hcp, hr⟩, h3⟩, count_step hb h4⟩

theorem copy_more (s : List α) {f c p : Nat} (hfc : f ≤ c) (hcp : c ≤ p) (out0 : List α) :
    out0 ++ (s.drop f).take (c - f) ++ (s.drop c).take (p - c) = out0 ++ (s.drop f).take (p - f) := by
  obtain ⟨a, rfl⟩ := Nat.exists_eq_add_of_le hfc
  obtain ⟨b, rfl⟩ := Nat.exists_eq_add_of_le hcp
  rw [Nat.add_sub_cancel_left, Nat.add_sub_cancel_left, Nat.add_assoc, Nat.add_sub_cancel_left, List.take_add,
    List.drop_drop, List.append_assoc]

/-- The invariant `ho`: what the loop has copied since the last replacement is the stretch of the subject from `f`,
    the place where `render` resumes copying, to the cursor; so stepping over one character changes nothing on the
    declarative side, and no bound on where the later matches start is needed. -/
theorem substLoop_render (m : Matcher α) (bs amp : α) (s repl : List α) (limit : Option Nat)
    (cur : Nat) (pend : Option Nat) (cnt : Nat) (out : List α) (f : Nat) (hf : f ≤ cur) (out0 : List α)
    (ho : out = out0 ++ (s.drop f).take (cur - f)) :
      substLoop m bs amp s repl limit cur pend cnt out =
        (out0 ++ render bs amp s repl (matchSeq m s limit cur pend cnt) f,
         cnt + (matchSeq m s limit cur pend cnt).length) := by
  fun_induction substLoop m bs amp s repl limit cur pend cnt out generalizing f out0 with
  | case1 cur pend cnt out hc hm =>
    obtain ⟨a, rfl⟩ := Nat.exists_eq_add_of_le hf
    rw [matchSeq_unfold, if_pos hc, ← dite_eq_ite, hm, ho, Nat.add_sub_cancel_left, ← List.drop_drop, List.append_assoc,
      List.take_append_drop]
    rfl
  | case2 cur pend cnt out hc p l hm hskip ih =>
    rw [ih f (Nat.le_succ_of_le hf) out0 (by rw [ho, ← copy_more s hf (Nat.le_add_right cur 1), Nat.add_sub_cancel_left]),
      matchSeq_unfold m s limit cur, if_pos hc, ← dite_eq_ite, hm]
    simp only [if_pos hskip]
  | case3 cur pend cnt out hc p hm hskip out1 ih =>
    obtain ⟨_, _, hcp, _⟩ := guard_some hm
    rw [ih p (Nat.le_succ p) _ (by rw [Nat.add_sub_cancel_left]), matchSeq_unfold m s limit cur, if_pos hc, ← dite_eq_ite, hm]
    have hskip' : ¬ pend = some p := fun h => hskip ⟨rfl, h⟩
    simp only [out1, ho, copy_more s hf hcp]
    simp only [true_and, if_neg hskip', if_true, render, List.length_cons, Nat.add_zero, List.append_assoc, Nat.add_assoc,
      Nat.add_comm 1]
  | case4 cur pend cnt out hc p l hm hskip out1 hl ih =>
    obtain ⟨_, _, hcp, _⟩ := guard_some hm
    rw [ih (p + l) (Nat.le_refl _) _ (by rw [Nat.sub_self, List.take_zero, List.append_nil]),
      matchSeq_unfold m s limit cur, if_pos hc, ← dite_eq_ite, hm]
    simp only [out1, ho, copy_more s hf hcp]
    simp only [if_neg hskip, if_neg hl, render, List.length_cons, List.append_assoc, Nat.add_assoc, Nat.add_comm 1]
  | case5 cur pend cnt out hc =>
    rw [matchSeq_unfold, if_neg hc, render, ho, List.take_of_length_le (by rw [List.length_drop]; omega)]
    rfl

theorem find_single (c : α) (L : List α) : find L [c] = L.findIdx? (c == ·) := by
  induction L with
  | nil => rfl
  | cons a t ih => simp [find, List.findIdx?_cons, ih]

theorem find_single_some {c : α} {L : List α} {i : Nat} (h : find L [c] = some i) :
    L.drop i = c :: L.drop (i + 1) ∧ c ∉ L.take i := by
  rw [find_single, List.findIdx?_eq_some_iff_getElem] at h
  obtain ⟨hi, hc, hlt⟩ := h
  refine ⟨by rw [List.drop_eq_getElem_cons hi, ← beq_iff_eq.1 hc], fun hm => ?_⟩
  obtain ⟨j, hj, hjc⟩ := List.mem_take_iff_getElem.1 hm
  exact hlt j (by omega) (beq_iff_eq.2 hjc.symm)

/-- the engine for the one-character pattern `c`: first occurrence of `c` at or after the start offset -/
def charMatcher (c : α) : Matcher α where
  run s k := (find (s.drop k) [c]).map fun i => (k + i, 1)
  inside := by
    intro s k p l h
    cases hf : find (s.drop k) [c] with
    | none => simp [hf] at h
    | some i =>
      simp only [hf, Option.map_some, Option.some.injEq, Prod.mk.injEq] at h
      have := (find_some hf).1.1
      simp only [List.length_drop, List.length_singleton] at this
      omega

theorem charMatcher_none {c : α} {s : List α} {k : Nat} (h : (charMatcher c).run s k = none) : c ∉ s.drop k := by
  have hf : find (s.drop k) [c] = none := by simpa [charMatcher] using h
  rw [find_single, List.findIdx?_eq_none_iff] at hf
  exact fun hm => by simpa using hf c hm

theorem charMatcher_some {c : α} {s : List α} {k p l : Nat} (h : (charMatcher c).run s k = some (p, l)) :
    l = 1 ∧ s.drop p = c :: s.drop (p + 1) ∧ c ∉ (s.drop k).take (p - k) := by
  cases hf : find (s.drop k) [c] with
  | none => simp [charMatcher, hf] at h
  | some i =>
    simp only [charMatcher, hf, Option.map_some, Option.some.injEq, Prod.mk.injEq] at h
    obtain ⟨rfl, rfl⟩ := h
    obtain ⟨h1, h2⟩ := find_single_some hf
    rw [List.drop_drop, List.drop_drop] at h1
    exact ⟨rfl, h1, by rwa [Nat.add_sub_cancel_left]⟩

theorem flatMap_ite_of_not_mem (c : α) (g : α → List α) (L : List α) (h : c ∉ L) :
    L.flatMap (fun x => if x = c then g x else [x]) = L := by
  induction L with
  | nil => rfl
  | cons a t ih =>
    have ha : a ≠ c := fun e => h (by simp [e])
    have ht : c ∉ t := fun e => h (by simp [e])
    simp only [List.flatMap_cons, ha, if_false, List.singleton_append, ih ht]

theorem substLoop_char (c bs amp : α) (s repl : List α) (cur : Nat) (pend : Option Nat) (cnt : Nat) (out : List α) :
      substLoop (charMatcher c) bs amp s repl none cur pend cnt out =
        (out ++ (s.drop cur).flatMap (fun x => if x = c then expand bs amp [c] repl else [x]),
         cnt + (s.drop cur).count c) := by
  fun_induction substLoop (charMatcher c) bs amp s repl none cur pend cnt out with
  | case1 cur pend cnt out hc hm =>
    have hfree := charMatcher_none hm
    rw [flatMap_ite_of_not_mem c _ _ hfree, List.count_eq_zero.2 hfree]
    rfl
  | case2 cur pend cnt out hc p l hm hskip ih | case3 cur pend cnt out hc p hm hskip out1 ih =>
    -- the one-character engine never reports an empty match
    have := (charMatcher_some (guard_some hm).2.1).1
    omega
  | case4 cur pend cnt out hc p l hm hskip out1 hl ih =>
    obtain ⟨_, _, hcp, _⟩ := guard_some hm
    obtain ⟨rfl, hd, hfree⟩ := charMatcher_some (guard_some hm).2.1
    have g1 := flatMap_ite_of_not_mem c (fun _ => expand bs amp [c] repl) _ hfree
    have g2 := List.count_eq_zero.2 hfree
    have hsplit : s.drop cur = (s.drop cur).take (p - cur) ++ c :: s.drop (p + 1) := by
      rw [← hd, ← Nat.add_sub_cancel' hcp, ← List.drop_drop, Nat.add_sub_cancel_left, List.take_append_drop]
    rw [ih]
    conv => rhs; rw [hsplit]
    simp only [out1, hd, List.take_succ_cons, List.take_zero, List.flatMap_append, List.flatMap_cons, g1, if_true,
      List.count_append, g2, List.count_cons_self, List.append_assoc]
    congr 1
    omega
  | case5 cur pend cnt out hc =>
    rw [List.drop_of_length_le (by omega)]; simp

/-- ASCII-only case maps on bytes (what hawk_to_bch_lower/upper do in a UTF-8 locale) -/
def asciiLower (b : UInt8) : UInt8 := if 65 ≤ b.toNat ∧ b.toNat ≤ 90 then UInt8.ofNat (b.toNat + 32) else b
def asciiUpper (b : UInt8) : UInt8 := if 97 ≤ b.toNat ∧ b.toNat ≤ 122 then UInt8.ofNat (b.toNat - 32) else b

theorem asciiLower_idem (b : UInt8) : asciiLower (asciiLower b) = asciiLower b := by
  unfold asciiLower
  by_cases h : 65 ≤ b.toNat ∧ b.toNat ≤ 90
  · rw [if_pos h, if_neg]
    rw [UInt8.toNat_ofNat']
    omega
  · rw [if_neg h, if_neg h]

theorem asciiUpper_idem (b : UInt8) : asciiUpper (asciiUpper b) = asciiUpper b := by
  unfold asciiUpper
  by_cases h : 97 ≤ b.toNat ∧ b.toNat ≤ 122
  · rw [if_pos h, if_neg]
    rw [UInt8.toNat_ofNat']
    omega
  · rw [if_neg h, if_neg h]

theorem compactAux_filter (isSp : α → Bool) (l : List α) (st fbs : Bool) :
    (compactAux isSp st fbs l).1.filter (fun x => !isSp x) = l.filter (fun x => !isSp x) := by
  fun_induction compactAux isSp st fbs l <;> simp_all

/-- when the machine ends with followed_by_space set, the last character written is that space (or nothing
    was written and the flag was already set on entry); state 0 is only ever entered with the flag clear -/
theorem compactAux_flag (isSp : α → Bool) (l : List α) (st fbs : Bool) (hinv : st = false → fbs = false)
    (h : (compactAux isSp st fbs l).2 = true) :
      ((compactAux isSp st fbs l).1 = [] ∧ fbs = true) ∨
      ∃ o c, (compactAux isSp st fbs l).1 = o ++ [c] ∧ isSp c = true := by
  fun_induction compactAux isSp st fbs l with
  | case1 st fbs => exact Or.inl ⟨rfl, h⟩
  | case2 fbs c r hc ih => exact ih hinv h
  | case3 fbs c r hc o f hr ih =>
    rw [hr] at ih
    rcases ih (fun e => by cases e) h with ⟨_, h2⟩ | ⟨o', c', h1, h2⟩
    · cases hinv rfl; cases h2
    · exact Or.inr ⟨c :: o', c', by rw [show o = o' ++ [c'] from h1]; rfl, h2⟩
  | case4 c r hc ih =>
    rcases ih (fun e => by cases e) h with ⟨h1, _⟩ | h1
    · exact Or.inl ⟨h1, rfl⟩
    · exact Or.inr h1
  | case5 fbs c r hc hf o f hr ih =>
    rw [hr] at ih
    rcases ih (fun e => by cases e) h with ⟨h1, _⟩ | ⟨o', c', h1, h2⟩
    · exact Or.inr ⟨[], c, by rw [show o = [] from h1]; rfl, hc⟩
    · exact Or.inr ⟨c :: o', c', by rw [show o = o' ++ [c'] from h1]; rfl, h2⟩
  | case6 fbs c r hc o f hr ih =>
    rw [hr] at ih
    rcases ih (fun e => by cases e) h with ⟨_, h2⟩ | ⟨o', c', h1, h2⟩
    · cases h2
    · exact Or.inr ⟨c :: o', c', by rw [show o = o' ++ [c'] from h1]; rfl, h2⟩

theorem trimRight_spec (isSp : α → Bool) (l : List α) :
    ∃ b, l = trimRight isSp l ++ b ∧ (∀ x ∈ b, isSp x = true) ∧
      ∀ x, (trimRight isSp l).getLast? = some x → isSp x = false := by
  unfold trimRight
  refine ⟨(l.reverse.takeWhile isSp).reverse, ?_, ?_, ?_⟩
  · rw [← List.reverse_append, List.takeWhile_append_dropWhile, List.reverse_reverse]
  · intro x hx
    exact List.mem_takeWhile_imp (p := isSp) (l := l.reverse) (by simpa using hx)
  · intro x hx
    rw [List.getLast?_reverse] at hx
    exact List.head?_dropWhile_eq_some hx

theorem matchCore_eq {s : List α} {start st : Int} (hst : matchStart s.length start = st) (m : Matcher α) :
    matchCore m s start =
      if st > (s.length : Int) + 1 ∨ st ≤ 0 then (0, -1)
      else match m.run (s.drop (st.toNat - 1)) 0 with
        | none => (0, -1)
        | some (p, l) => (((st.toNat - 1 + p : Nat) : Int) + 1, (l : Int)) := by
  subst hst
  rfl

theorem fnMatch_some {σ : Type} {E : Env} {a0 : Val} {pat : Pat} {start : Option Val} {wantArr : Bool}
    {st st' : State σ} {r : Val} (h : fnMatch E a0 pat start wantArr st = some (r, st')) :
    ∃ stv, startArg start = some stv ∧
      r = .int (matchTriple E (pat.regex E) a0 stv).1 ∧
      st' = { st with
        rstart := .int (matchTriple E (pat.regex E) a0 stv).1
        rlength := .int (matchTriple E (pat.regex E) a0 stv).2.1
        coll :=
          if wantArr then
            (if (matchTriple E (pat.regex E) a0 stv).1 = 0 then .map []
             else .map [(['0'], (matchTriple E (pat.regex E) a0 stv).2.2),
                        (['0'] ++ subsep ++ "start".toList, .int (matchTriple E (pat.regex E) a0 stv).1),
                        (['0'] ++ subsep ++ "length".toList, .int (matchTriple E (pat.regex E) a0 stv).2.1)])
          else st.coll } := by
  revert h
  fun_cases fnMatch E a0 pat start wantArr st with
  | case1 => exact nofun
  | case2 stv hs t c =>
    intro h
    cases h
    exact ⟨stv, hs, rfl, rfl⟩

theorem charAt_succ (s : List α) (i : Nat) : charAt s ((i : Int) + 1) = s[i]? := by
  simp only [charAt, Int.add_sub_cancel, Int.toNat_natCast]
  split
  · rfl
  · rw [List.getElem?_eq_none (by omega)]

theorem allInts_map_int (codes : List Int) : allInts (codes.map Val.int) = some codes := by
  induction codes with
  | nil => rfl
  | cons c r ih => simp only [List.map_cons, allInts, Val.toInt, ih]

theorem fnFromcharcode_valid {codes : List Int} (hv : ∀ c ∈ codes, validCharCode c = true) :
    ∃ v, fnFromcharcode (codes.map Val.int) = some v ∧ v.isBytes = false ∧
      ∀ E, v.toStr E = codes.map fun c => Char.ofNat c.toNat := by
  unfold fnFromcharcode
  rw [allInts_map_int]
  simp only [List.all_eq_true.2 hv, if_true]
  -- one code gives a character, any other number a string: the text is the same
  split
  · exact ⟨_, rfl, rfl, fun _ => rfl⟩
  · exact ⟨_, rfl, rfl, fun _ => rfl⟩

theorem validCharCode_toNat {c : Int} (h : validCharCode c = true) : ((Char.ofNat c.toNat).toNat : Int) = c := by
  simp only [validCharCode, decide_eq_true_eq] at h
  have hvs : c.toNat.isValidChar := by unfold Nat.isValidChar; omega
  have : (Char.ofNat c.toNat).toNat = c.toNat := by simp [Char.ofNat, hvs, Char.ofNatAux, Char.toNat]
  omega

/-- a small concrete environment for non-vacuity examples: Latin-1 as the "codec", no regex ever matches -/
def toyEnv : Env where
  enc := fun s => s.map fun c => UInt8.ofNat c.toNat
  dec := fun b => b.map fun x => Char.ofNat x.toNat
  fmtFlt := fun _ _ => []
  compile := fun _ => ⟨⟨fun _ _ => none, by intro s k p l h; simp at h⟩, ⟨fun _ _ => none, by intro s k p l h; simp at h⟩⟩
  lowerC := id
  upperC := id
  lowerB := asciiLower
  upperB := asciiUpper
  spaceC := fun c => c == ' '
  spaceB := fun b => b == 32

end Hawk.StrFn
