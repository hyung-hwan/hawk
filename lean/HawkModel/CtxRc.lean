import HawkModel.CtxLemmas
/-! For C09, ownership: `Inv c vs`, every reference count is the number of references from the context's roots
(`Ctx.refs`) plus those the evaluator has in flight (`vs`), with one rule per primitive saying which references it
moves between the roots, the heap and what is in flight (a body and the entry points: `CtxRun`). -/
namespace Hawk.Ctx

def occ (id : Nat) : Val → Nat
  | .ref j => if j = id then 1 else 0
  | _ => 0

def occL (id : Nat) : List Val → Nat
  | [] => 0
  | v :: vs => occ id v + occL id vs

def occS (id : Nat) : List Slot → Nat
  | [] => 0
  | s :: ss => occ id s.toVal + occS id ss

theorem occL_append (id : Nat) (a b : List Val) : occL id (a ++ b) = occL id a + occL id b := by
  induction a with
  | nil => simp [occL]
  | cons v vs ih => simp [occL, ih]; omega

theorem occL_getD_le (id : Nat) (l : List Val) (k : Nat) : occ id (l.getD k .nil) ≤ occL id l := by
  induction l generalizing k with
  | nil => simp [occ]
  | cons v vs ih =>
    cases k with
    | zero => simp [occL]
    | succ k => have := ih k; simp [occL] at this ⊢; omega

theorem occL_set {id : Nat} {l : List Val} {k : Nat} (h : k < l.length) (v : Val) :
    occL id (l.set k v) + occ id (l.getD k .nil) = occL id l + occ id v := by
  induction l generalizing k with
  | nil => simp at h
  | cons w ws ih =>
    cases k with
    | zero => simp [occL]; omega
    | succ k =>
      have := ih (k := k) (by simpa using h)
      simp [occL] at this ⊢; omega

theorem occS_eq_occL (id : Nat) (st : List Slot) : occS id st = occL id (st.map Slot.toVal) := by
  induction st with
  | nil => rfl
  | cons s ss ih => simp only [occS, List.map_cons, occL, ih]

theorem occS_append (id : Nat) (a b : List Slot) : occS id (a ++ b) = occS id a + occS id b := by
  rw [occS_eq_occL, occS_eq_occL, occS_eq_occL, List.map_append, occL_append]

theorem occS_take_drop (id : Nat) (st : List Slot) (n : Nat) : occS id (st.take n) + occS id (st.drop n) = occS id st := by
  rw [← occS_append, List.take_append_drop]

theorem occS_set {id : Nat} {st : List Slot} {i : Nat} {old : Val} (h : st[i]? = some (.val old)) (v : Val) :
    occS id (st.set i (.val v)) + occ id old = occS id st + occ id v := by
  have hlt : i < (st.map Slot.toVal).length := by
    rw [List.length_map]; exact (List.getElem?_eq_some_iff.mp h).1
  have := occL_set (id := id) hlt v
  rw [List.getD_eq_getElem?_getD, List.getElem?_map, h] at this
  rw [occS_eq_occL, occS_eq_occL, List.map_set]
  exact this

theorem occS_getD_le {id : Nat} {st : List Slot} {i : Nat} : occ id (st.getD i (.val .nil)).toVal ≤ occS id st := by
  have e : (st.map Slot.toVal).getD i .nil = (st.getD i (.val .nil)).toVal := by
    rw [List.getD_eq_getElem?_getD, List.getD_eq_getElem?_getD, List.getElem?_map]
    cases st[i]? <;> rfl
  rw [occS_eq_occL, ← e]
  exact occL_getD_le id _ i

theorem occS_replicate_nil (id : Nat) (n : Nat) : occS id (List.replicate n (.val .nil)) = 0 := by
  induction n with
  | zero => rfl
  | succ n ih => simp [List.replicate_succ, occS, ih, occ, Slot.toVal]

def Heap.rc (h : Heap) (id : Nat) : Nat :=
  match h.cells id with
  | some c => c.rc
  | none => 0

structure HeapOK (h : Heap) : Prop where
  nofault : h.fault = false
  pos : ∀ id c, h.cells id = some c → 1 ≤ c.rc
  fresh : ∀ id, h.next ≤ id → h.cells id = none

theorem rc_upd (h : Heap) (id j : Nat) (c : Option Cell) :
    (h.upd j c).rc id = if id = j then (match c with | some c => c.rc | none => 0) else h.rc id := by
  unfold Heap.rc Heap.upd
  by_cases hj : id = j <;> simp [hj]

theorem live_of_rc {h : Heap} {j : Nat} (hl : 1 ≤ h.rc j) : ∃ c, h.cells j = some c ∧ c.rc = h.rc j := by
  unfold Heap.rc at hl ⊢
  cases hc : h.cells j with
  | none => simp [hc] at hl
  | some c => exact ⟨c, rfl, rfl⟩

theorem live_lt_next {h : Heap} (ok : HeapOK h) {j : Nat} {c : Cell} (hc : h.cells j = some c) : j < h.next := by
  rcases Nat.lt_or_ge j h.next with hlt | hge
  · exact hlt
  · rw [ok.fresh j hge] at hc; cases hc

theorem upd_ok {h : Heap} (ok : HeapOK h) {j : Nat} (hj : j < h.next) (c : Option Cell)
    (hc : ∀ c', c = some c' → 1 ≤ c'.rc) : HeapOK (h.upd j c) := by
  refine ⟨ok.nofault, fun id c' h' => ?_, fun id hid => ?_⟩
  · simp only [Heap.upd] at h'
    split at h'
    · exact hc c' h'
    · exact ok.pos id c' h'
  · have hne : id ≠ j := by have : h.next ≤ id := hid; omega
    simp only [Heap.upd, if_neg hne]
    exact ok.fresh id hid

theorem refup_ok {h : Heap} (ok : HeapOK h) (v : Val) (hl : ∀ j, v = .ref j → 1 ≤ h.rc j) :
    HeapOK (h.refup v) ∧ ∀ id, (h.refup v).rc id = h.rc id + occ id v := by
  cases v with
  | nil | zls | int n => exact ⟨ok, fun id => by simp [Heap.refup, occ]⟩
  | ref j =>
    obtain ⟨c, hc, hrc⟩ := live_of_rc (hl j rfl)
    simp only [Heap.refup, hc]
    refine ⟨upd_ok ok (live_lt_next ok hc) _ (fun c' h' => by cases h'; simp), fun id => ?_⟩
    rw [rc_upd]
    by_cases hid : id = j
    · subst hid; simp [occ, ← hrc]
    · simp [hid, occ, Ne.symm hid]

theorem refdown_ok {h : Heap} (ok : HeapOK h) (v : Val) (hl : ∀ j, v = .ref j → 1 ≤ h.rc j) :
    HeapOK (h.refdown v) ∧ ∀ id, (h.refdown v).rc id + occ id v = h.rc id := by
  cases v with
  | nil | zls | int n => exact ⟨ok, fun id => by simp [Heap.refdown, occ]⟩
  | ref j =>
    obtain ⟨c, hc, hrc⟩ := live_of_rc (hl j rfl)
    have hpos := ok.pos j c hc
    have hlt := live_lt_next ok hc
    simp only [Heap.refdown, hc]
    have h0 : ¬ c.rc = 0 := by omega
    simp only [h0, ↓reduceIte]
    by_cases h1 : c.rc = 1
    · simp only [h1, ↓reduceIte]
      refine ⟨upd_ok ok hlt none (fun c' h' => by cases h'), fun id => ?_⟩
      rw [rc_upd]
      by_cases hid : id = j
      · subst hid; simp [occ]; omega
      · simp [hid, occ, Ne.symm hid]
    · simp only [h1, ↓reduceIte]
      refine ⟨upd_ok ok hlt _ (fun c' h' => by cases h'; simp; omega), fun id => ?_⟩
      rw [rc_upd]
      by_cases hid : id = j
      · subst hid; simp [occ]; omega
      · simp [hid, occ, Ne.symm hid]

theorem alloc_ok {h : Heap} (ok : HeapOK h) (d : Data) :
    HeapOK (h.alloc d).1 ∧ (h.alloc d).2 = .ref h.next ∧ h.rc h.next = 0 ∧
    ∀ id, (h.alloc d).1.rc id = h.rc id + occ id (h.alloc d).2 := by
  have hn : h.cells h.next = none := ok.fresh h.next (Nat.le_refl _)
  refine ⟨⟨ok.nofault, ?_, ?_⟩, rfl, by simp [Heap.rc, hn], ?_⟩
  · intro id c' h'
    simp only [Heap.alloc, Heap.upd] at h'
    split at h'
    · cases h'; simp
    · exact ok.pos id c' h'
  · intro id hid
    have hid' : h.next + 1 ≤ id := hid
    show (if id = h.next then _ else h.cells id) = none
    split
    · omega
    · exact ok.fresh id (by omega)
  · intro id
    simp only [Heap.alloc]
    unfold Heap.rc Heap.upd
    by_cases hid : id = h.next
    · subst hid; simp [hn, occ]
    · simp [hid, occ, Ne.symm hid]

/-- references held by the context and by the application -/
def Ctx.refs (c : Ctx) (id : Nat) : Nat :=
  occS id c.stack + occ id c.rec0 + occL id c.handles + occL id c.tmps

/-- `Inv c vs`: the heap is well formed and every count is the number of references from the
    context's roots plus those in flight (`vs`: values the evaluator currently owns) -/
def Inv (c : Ctx) (vs : List Val) : Prop :=
  HeapOK c.heap ∧ ∀ id, c.heap.rc id = c.refs id + occL id vs

theorem Inv.of_occL {c : Ctx} {vs vs' : List Val} (h : Inv c vs) (hp : ∀ id, occL id vs = occL id vs') : Inv c vs' :=
  ⟨h.1, fun id => by rw [← hp]; exact h.2 id⟩

theorem Inv.of_refs {c c' : Ctx} {vs vs' : List Val} (h : Inv c vs) (hh : c'.heap = c.heap)
    (hr : ∀ id, c'.refs id + occL id vs' = c.refs id + occL id vs) : Inv c' vs' :=
  ⟨by rw [hh]; exact h.1, fun id => by rw [hh, hr]; exact h.2 id⟩

theorem Inv.live {c : Ctx} {vs : List Val} (h : Inv c vs) {j : Nat} (hr : 1 ≤ c.refs j + occL j vs) : 1 ≤ c.heap.rc j := by
  rw [h.2 j]; exact hr

/-- no dangling reference -/
theorem Inv.cell {c : Ctx} {vs : List Val} (h : Inv c vs) {j : Nat} (hr : 1 ≤ c.refs j + occL j vs) :
    ∃ cell, c.heap.cells j = some cell ∧ cell.rc = c.refs j + occL j vs := by
  obtain ⟨cell, h1, h2⟩ := live_of_rc (h.live hr)
  exact ⟨cell, h1, h2.trans (h.2 j)⟩

theorem slot_counted {c : Ctx} {vs : List Val} {i j : Nat} (h : c.slot i = .ref j) : 1 ≤ c.refs j + occL j vs := by
  have : occ j (c.slot i) ≤ occS j c.stack := occS_getD_le
  rw [h] at this
  simp only [occ, ↓reduceIte] at this
  simp only [Ctx.refs]; omega

theorem rec0_counted {c : Ctx} {vs : List Val} {j : Nat} (h : c.rec0 = .ref j) : 1 ≤ c.refs j + occL j vs := by
  simp only [Ctx.refs, h, occ, ↓reduceIte]; omega

theorem inv_refup {c : Ctx} {vs : List Val} (h : Inv c vs) (v : Val) (hr : ∀ j, v = .ref j → 1 ≤ c.refs j + occL j vs) :
    Inv (c.refup v) (v :: vs) := by
  have := refup_ok h.1 v (fun j hj => h.live (hr j hj))
  refine ⟨this.1, fun id => ?_⟩
  have e := this.2 id
  have e2 := h.2 id
  simp only [Ctx.refup, Ctx.refs, occL] at e e2 ⊢
  omega

theorem inv_refdown {c : Ctx} {vs : List Val} {v : Val} (h : Inv c (v :: vs)) : Inv (c.refdown v) vs := by
  have := refdown_ok h.1 v (fun j hj => h.live (by subst hj; simp [occL, occ]; omega))
  refine ⟨this.1, fun id => ?_⟩
  have e := this.2 id
  have e2 := h.2 id
  simp only [Ctx.refdown, Ctx.refs, occL] at e e2 ⊢
  omega

theorem inv_alloc {c : Ctx} {vs : List Val} (h : Inv c vs) (d : Data) : Inv (c.alloc d).1 ((c.alloc d).2 :: vs) := by
  have := alloc_ok h.1 d
  refine ⟨this.1, fun id => ?_⟩
  have e := this.2.2.2 id
  have e2 := h.2 id
  simp only [Ctx.alloc, Ctx.refs, occL] at e e2 ⊢
  omega

theorem inv_newRec0 {c : Ctx} {vs : List Val} (h : Inv c vs) (r : String) :
    Inv { ((c.refdown c.rec0).alloc (.str r)).1 with rec0 := ((c.refdown c.rec0).alloc (.str r)).2 } vs := by
  have h1 : Inv ({ c with rec0 := .nil }.refdown c.rec0) vs :=
    inv_refdown (h.of_refs rfl (fun id => by simp only [Ctx.refs, occL, occ]; omega))
  exact (inv_alloc h1 (.str r)).of_refs rfl (fun id => by simp only [Ctx.refs, Ctx.alloc, Ctx.refdown, occL, occ]; omega)

theorem slot_of_getElem? {c : Ctx} {i : Nat} {s : Slot} (h : c.stack[i]? = some s) : c.slot i = s.toVal := by
  unfold Ctx.slot
  rw [List.getD_eq_getElem?_getD, h]; rfl

theorem slot_setSlot_same {c : Ctx} {i : Nat} (h : c.isVal i = true) (v : Val) : (c.setSlot i v).slot i = v := by
  obtain ⟨w, hw⟩ := isVal_iff.mp h
  have hlt : i < c.stack.length := by
    rcases Nat.lt_or_ge i c.stack.length with h | h
    · exact h
    · simp [List.getElem?_eq_none h] at hw
  unfold Ctx.setSlot
  simp only [h, ↓reduceIte]
  apply slot_of_getElem? (s := .val v)
  simp [hlt]

theorem refs_setSlot {c : Ctx} {i : Nat} (h : c.isVal i = true) (v : Val) (id : Nat) :
    (c.setSlot i v).refs id + occ id (c.slot i) = c.refs id + occ id v := by
  obtain ⟨w, hw⟩ := isVal_iff.mp h
  have hs : c.slot i = w := slot_of_getElem? hw
  have := occS_set (id := id) hw v
  unfold Ctx.setSlot
  simp only [h, ↓reduceIte, Ctx.refs, hs]
  omega

theorem inv_setSlot {c : Ctx} {vs : List Val} {v : Val} {i : Nat} (hv : c.isVal i = true) (h : Inv c (v :: vs)) :
    Inv (c.setSlot i v) (c.slot i :: vs) := by
  refine h.of_refs (by unfold Ctx.setSlot; simp only [hv, ↓reduceIte]) (fun id => ?_)
  have e := refs_setSlot hv v id
  simp only [occL]
  omega

theorem setSlot_refdown_comm (c : Ctx) (i : Nat) (v w : Val) : (c.refdown w).setSlot i v = (c.setSlot i v).refdown w := by
  unfold Ctx.setSlot Ctx.refdown Ctx.isVal
  simp only
  split <;> rfl

theorem inv_assign {c : Ctx} {vs : List Val} {v : Val} (i : Nat) (h : Inv c (v :: vs)) : Inv (c.assign i v) (v :: vs) := by
  unfold Ctx.assign
  split
  · next hv =>
    rw [setSlot_refdown_comm]
    have h1 := inv_setSlot hv h
    have h2 := inv_refdown h1
    -- the slot now holds the value, so it is counted
    exact inv_refup h2 _ (fun j hj => slot_counted (i := i) ((slot_setSlot_same hv v).trans hj))
  · exact h

theorem inv_assignGbl {c : Ctx} {vs : List Val} {v : Val} (i : Nat) (h : Inv c (v :: vs)) : Inv (c.assignGbl i v) (v :: vs) := by
  unfold Ctx.assignGbl
  split
  · exact h
  · exact inv_assign i h

theorem inv_replaceOwned {c : Ctx} {vs : List Val} {v : Val} (i : Nat) (h : Inv c (v :: vs)) : Inv (c.replaceOwned i v) vs := by
  unfold Ctx.replaceOwned
  split
  · next hv =>
    rw [setSlot_refdown_comm]
    exact inv_refdown (inv_setSlot hv h)
  · exact inv_refdown h

theorem inv_evalOwned {c : Ctx} {vs : List Val} (h : Inv c vs) (e : Expr) :
    Inv (evalOwned c e).1 ((evalOwned c e).2 :: vs) := by
  have hslot : ∀ i, Inv (c.refup (c.slot i)) (c.slot i :: vs) := fun i => inv_refup h _ (fun _ hj => slot_counted hj)
  cases e with
  | glob n | arg n | loc n => exact hslot _
  | rec0 => exact inv_refup h _ (fun _ hj => rec0_counted hj)
  | nr | mlen n => exact ⟨h.1, fun id => by simpa [evalOwned, occL, occ] using h.2 id⟩
  | lit s | app e s | cat a b => exact inv_alloc h _

theorem inv_doAssign {c : Ctx} {vs : List Val} (h : Inv c vs) (i : Nat) (e : Expr) (g : Bool) : Inv (doAssign c i e g) vs := by
  unfold doAssign
  have h1 := inv_evalOwned h e
  generalize evalOwned c e = r at h1
  obtain ⟨c1, v⟩ := r
  simp only at h1 ⊢
  cases g
  · exact inv_refdown (inv_assign i h1)
  · exact inv_refdown (inv_assignGbl i h1)

theorem inv_congr {c c' : Ctx} {vs : List Val} (hh : c'.heap = c.heap) (hs : c'.stack = c.stack)
    (hr : c'.rec0 = c.rec0) (hhd : c'.handles = c.handles) (ht : c'.tmps = c.tmps) (h : Inv c vs) : Inv c' vs := by
  exact h.of_refs hh (fun id => by simp only [Ctx.refs, hs, hr, hhd, ht])

theorem mapCellOf_spec {c : Ctx} {v : Val} {id rc : Nat} {kv : List (String × String)}
    (h : mapCellOf c v = some (id, rc, kv)) : c.heap.cells id = some ⟨rc, .map kv⟩ := by
  unfold mapCellOf at h
  split at h
  · next j =>
    split at h
    · next rc' kv' hc => simp at h; obtain ⟨rfl, rfl, rfl⟩ := h; exact hc
    · simp at h
  · simp at h

theorem inv_nil_intro {c : Ctx} {vs : List Val} (h : Inv c vs) : Inv c (.nil :: vs) :=
  h.of_occL (fun id => by simp [occL, occ])

theorem inv_nil_elim {c : Ctx} {vs : List Val} (h : Inv c (.nil :: vs)) : Inv c vs :=
  h.of_occL (fun id => by simp [occL, occ])

theorem inv_push_val {c : Ctx} {vs : List Val} {v : Val} (h : Inv c (v :: vs)) : Inv (c.push (.val v)) vs := by
  refine h.of_refs rfl (fun id => ?_)
  simp only [Ctx.push, Ctx.refs, occS_append, occS, occL, Slot.toVal]
  omega

theorem inv_push_raw {c : Ctx} {vs : List Val} (n : Nat) (h : Inv c vs) : Inv (c.push (.raw n)) vs := by
  refine h.of_refs rfl (fun id => ?_)
  simp only [Ctx.push, Ctx.refs, occS_append, occS, Slot.toVal, occ]
  omega

theorem inv_pushPrologue {c : Ctx} {vs : List Val} (h : Inv c vs) : Inv (pushPrologue c) vs := by
  unfold pushPrologue
  exact inv_push_raw _ (inv_push_val (inv_nil_intro (inv_push_raw _ (inv_push_raw _ h))))

theorem inv_pushArgsFromExprs {c : Ctx} {vs : List Val} (h : Inv c vs) (es : List Expr) : Inv (pushArgsFromExprs c es) vs := by
  induction es generalizing c with
  | nil => exact h
  | cons e es ih =>
    simp only [pushArgsFromExprs]
    exact ih (inv_push_val (inv_evalOwned h e))

theorem inv_pushNils {c : Ctx} {vs : List Val} (h : Inv c vs) (n : Nat) : Inv (pushNils c n) vs := by
  induction n generalizing c with
  | zero => exact h
  | succ n ih => simp only [pushNils]; exact ih (inv_push_val (inv_nil_intro h))

theorem occS_set_raw {id : Nat} {st : List Slot} {i m : Nat} (h : st[i]? = some (.raw m)) (n : Nat) :
    occS id (st.set i (.raw n)) = occS id st := by
  induction st generalizing i with
  | nil => simp at h
  | cons s ss ih =>
    cases i with
    | zero => simp at h; subst h; simp [occS, Slot.toVal]
    | succ i => simp at h; simp [occS, ih h]

theorem inv_enterFrame {c : Ctx} {vs : List Val} (h : Inv c vs) (t n : Nat) : Inv (enterFrame c t n) vs := by
  unfold enterFrame Ctx.setRaw
  simp only
  split
  · next m hm => exact h.of_refs rfl (fun id => by simp only [Ctx.refs, occS_set_raw hm])
  · exact h

theorem inv_enterCall {c : Ctx} {vs : List Val} (h : Inv c vs) (f : Fun) (args : List Expr) : Inv (enterCall c f args) vs := by
  unfold enterCall
  exact inv_enterFrame (inv_pushNils (inv_pushArgsFromExprs (inv_pushPrologue h) args) _) _ _

theorem occS_take_pred (id : Nat) (st : List Slot) :
    occS id (st.take (st.length - 1)) + occ id (st.getD (st.length - 1) (.val .nil)).toVal = occS id st := by
  rcases List.eq_nil_or_concat st with rfl | ⟨init, last, rfl⟩
  · simp [occS, occ, Slot.toVal]
  · rw [List.concat_eq_append]
    have h1 : (init ++ [last]).length - 1 = init.length := by simp
    rw [h1, List.take_left' rfl, occS_append, List.getD_eq_getElem?_getD]
    simp [occS]

theorem inv_popVals {c : Ctx} {vs : List Val} (h : Inv c vs) (n : Nat) : Inv (popVals c n) vs := by
  induction n generalizing c with
  | zero => exact h
  | succ n ih =>
    simp only [popVals]
    apply ih
    -- the top slot's reference is taken off the stack, then dropped
    refine inv_refdown (c := { c with stack := c.stack.take (c.stack.length - 1) }) (h.of_refs rfl (fun id => ?_))
    have := occS_take_pred id c.stack
    simp only [Ctx.refs, Ctx.slot, occL] at this ⊢
    omega

theorem slot_of_not_isVal {c : Ctx} {i : Nat} (h : ¬ c.isVal i = true) : c.slot i = .nil := by
  unfold Ctx.slot
  rw [List.getD_eq_getElem?_getD]
  cases hs : c.stack[i]? with
  | none => rfl
  | some s =>
    cases s with
    | raw n => rfl
    | val v => exact absurd (isVal_iff.mpr ⟨v, hs⟩) h

theorem inv_takeSlot {c : Ctx} {vs : List Val} (h : Inv c vs) (i : Nat) : Inv (c.setSlot i .nil) (c.slot i :: vs) := by
  by_cases hv : c.isVal i = true
  · exact inv_setSlot hv (inv_nil_intro h)
  · rw [slot_of_not_isVal hv]
    have : c.setSlot i .nil = c := by unfold Ctx.setSlot; simp [hv]
    rw [this]; exact inv_nil_intro h

theorem inv_clearSlot {c : Ctx} {vs : List Val} (h : Inv c vs) (i : Nat) :
    Inv ((c.refdown (c.slot i)).setSlot i .nil) vs := by
  rw [setSlot_refdown_comm]
  exact inv_refdown (inv_takeSlot h i)

theorem inv_refdownArgs {c : Ctx} {vs : List Val} (h : Inv c vs) (nargs k : Nat) : Inv (refdownArgs c nargs k) vs := by
  induction k generalizing c with
  | zero => exact h
  | succ k ih => simp only [refdownArgs]; exact ih (inv_clearSlot h _)

/-! ### leaving a frame: what is above the restored top holds no reference -/

theorem slot_setSlot_nil (c : Ctx) (i j : Nat) : (c.setSlot i .nil).slot j = if j = i then .nil else c.slot j := by
  by_cases hv : c.isVal i = true
  · by_cases hj : j = i
    · subst hj; simp [slot_setSlot_same hv]
    · simp only [hj, ↓reduceIte]
      unfold Ctx.setSlot Ctx.slot
      simp only [hv, ↓reduceIte, List.getD_eq_getElem?_getD]
      rw [List.getElem?_set_ne (Ne.symm hj)]
  · have : c.setSlot i .nil = c := by unfold Ctx.setSlot; simp [hv]
    rw [this]
    by_cases hj : j = i
    · subst hj; simp [slot_of_not_isVal hv]
    · simp [hj]

theorem slot_refdownArgs (c : Ctx) (n k : Nat) (hk : k ≤ n) (i : Nat) :
    (refdownArgs c n k).slot i = if c.base + 4 + (n - k) ≤ i ∧ i < c.base + 4 + n then .nil else c.slot i := by
  induction k generalizing c with
  | zero => exact (if_neg (by omega)).symm
  | succ k ih =>
    have hb : ((c.refdown (c.slot (c.argIdx (n - (k + 1))))).setSlot (c.argIdx (n - (k + 1))) Val.nil).base = c.base :=
      base_of_skel (by simp)
    rw [refdownArgs, ih _ (by omega), hb, slot_setSlot_nil]
    show (if _ then _ else if i = c.base + 4 + (n - (k + 1)) then Val.nil else c.slot i) = _
    -- the slot cleared in this step is the one just below the range cleared by the remaining steps
    by_cases h2 : i = c.base + 4 + (n - (k + 1))
    · rw [if_pos h2, ite_self, if_pos (by omega)]
    · rw [if_neg h2]
      exact ite_congr (propext (by omega)) (fun _ => rfl) (fun _ => rfl)

theorem occS_zero_of_dead (id : Nat) (l : List Slot) (h : ∀ k, occ id (l.getD k (.val .nil)).toVal = 0) : occS id l = 0 := by
  induction l with
  | nil => rfl
  | cons s ss ih =>
    have h0 := h 0
    have := ih (fun k => by have := h (k + 1); simpa using this)
    simp at h0
    simp [occS, h0, this]

theorem occS_take_of_dead (id : Nat) (st : List Slot) (t : Nat)
    (h : ∀ i, t ≤ i → occ id (st.getD i (.val .nil)).toVal = 0) : occS id (st.take t) = occS id st := by
  have h1 := occS_take_drop id st t
  have h2 : occS id (st.drop t) = 0 := by
    apply occS_zero_of_dead
    intro k
    have := h (t + k) (by omega)
    simpa [List.getD_eq_getElem?_getD, List.getElem?_drop] using this
  omega

theorem inv_popFrame {c : Ctx} {vs : List Val} (h : Inv c vs)
    (hd : ∀ i, c.rawAt (c.base + 1) ≤ i → c.slot i = .nil) : Inv (popFrame c) vs := by
  refine h.of_refs rfl (fun id => ?_)
  have ht := occS_take_of_dead id c.stack (c.rawAt (c.base + 1)) (by
    intro i hi
    have := hd i hi
    unfold Ctx.slot at this
    rw [this]; rfl)
  simp only [popFrame, Ctx.refs, ht]

theorem slot_nil_of_skel_some {c : Ctx} {i m : Nat} (h : c.skel.stack[i]? = some (some m)) : c.slot i = .nil := by
  simp only [Ctx.skel, List.getElem?_map] at h
  cases hs : c.stack[i]? with
  | none => simp [hs] at h
  | some s =>
    cases s with
    | raw n => exact slot_of_getElem? hs
    | val v => simp [hs, Slot.skel] at h

theorem slot_nil_of_ge {c : Ctx} {i : Nat} (h : c.stack.length ≤ i) : c.slot i = .nil := by
  unfold Ctx.slot
  rw [List.getD_eq_getElem?_getD, List.getElem?_eq_none h]; rfl

/-- `h2`: the return-value slot, `h3`: the argument slots; the other three slots of the prologue are bookkeeping and
    the locals are gone (`frameSkel c0 n n`), so nothing from the frame's start upwards holds a value -/
theorem dead_above {d c0 : Ctx} {n : Nat} (hs : d.skel = frameSkel c0 n n)
    (h2 : d.slot (c0.stack.length + 2) = .nil)
    (h3 : ∀ i, c0.stack.length + 4 ≤ i → i < c0.stack.length + 4 + n → d.slot i = .nil) :
    ∀ i, c0.stack.length ≤ i → d.slot i = .nil := by
  intro i hi
  have hlen := frame_len hs
  by_cases h4 : c0.stack.length + 4 ≤ i
  · by_cases h5 : i < c0.stack.length + 4 + n
    · exact h3 i h4 h5
    · exact slot_nil_of_ge (by omega)
  · -- the prologue: three bookkeeping slots and the return-value slot
    obtain ⟨j, rfl⟩ : ∃ j, i = c0.stack.length + j := ⟨i - c0.stack.length, by omega⟩
    have hp := frameSkel_slot c0 n n j
    rw [← hs] at hp
    have : j = 0 ∨ j = 1 ∨ j = 2 ∨ j = 3 := by omega
    rcases this with rfl | rfl | rfl | rfl
    · exact slot_nil_of_skel_some hp
    · exact slot_nil_of_skel_some hp
    · exact h2
    · exact slot_nil_of_skel_some hp

/-- the state right before `popFrame` in every branch of `leaveFrame`: arguments and return-value
    slot cleared -/
theorem cleared_dead {c c0 d : Ctx} {n : Nat} (hs : c.skel = frameSkel c0 n n)
    (hd : d.stack = ((refdownArgs c n n).setSlot (refdownArgs c n n).retIdx .nil).stack)
    (hds : d.skel = frameSkel c0 n n) :
    ∀ i, d.rawAt (d.base + 1) ≤ i → d.slot i = .nil := by
  have hr : (refdownArgs c n n).retIdx = c0.stack.length + 2 := by
    unfold Ctx.retIdx; rw [base_of_skel (skel_refdownArgs c n n), (frame_facts hs).1]
  rw [hr] at hd
  rw [(frame_facts hds).2.2.1]
  have hslot : ∀ i, d.slot i = ((refdownArgs c n n).setSlot (c0.stack.length + 2) .nil).slot i := by
    intro i; unfold Ctx.slot; rw [hd]
  have hcb := (frame_facts hs).1
  apply dead_above hds
  · rw [hslot, slot_setSlot_nil]; simp
  · intro i h1 h2
    rw [hslot, slot_setSlot_nil]
    have : i ≠ c0.stack.length + 2 := by omega
    simp only [this, ↓reduceIte]
    rw [slot_refdownArgs c n n (Nat.le_refl _), hcb]
    have : c0.stack.length + 4 + (n - n) ≤ i ∧ i < c0.stack.length + 4 + n := by omega
    rw [if_pos this]

theorem stack_setSlot_congr {c c' : Ctx} (h : c'.stack = c.stack) (i : Nat) (v : Val) :
    (c'.setSlot i v).stack = (c.setSlot i v).stack := by
  unfold Ctx.setSlot Ctx.isVal
  rw [h]
  split <;> simp [h]

/-- `l` = (context, result, captured value) is what `leaveFrame c ok api` may hand back from a frame on `c0`; the result
    and the captured value come out owned, which is why `inv` has them in flight -/
structure LeftFrame (c c0 : Ctx) (ok api : Bool) (l : Ctx × Option Val × Option Val) : Prop where
  skel : l.1.skel = c0.skel
  inv : ∀ vs, Inv c vs → Inv l.1 (l.2.1.toList ++ l.2.2.toList ++ vs)
  err : l.1.err = c.err
  xl : l.1.exitLevel = if c.exitLevel = xlFunction then xlNone else c.exitLevel
  res : l.2.1.isSome = ok
  cap : l.2.2.isSome = (!ok && api && (c.err == .enoerr))

theorem leaveFrame_spec {c c0 : Ctx} {n : Nat} (hs : c.skel = frameSkel c0 n n) (ok api : Bool) :
    LeftFrame c c0 ok api (leaveFrame c ok api) := by
  have hn : c.nargs = n := (frame_facts hs).2.1
  have hs1 : (refdownArgs c n n).skel = frameSkel c0 n n := (skel_refdownArgs c n n).trans hs
  have he : (refdownArgs c n n).err = c.err := err_of_ee (by simp)
  -- every branch ends in `popFrame` of a context with arguments and return-value slot cleared, error number and exit level of `c`
  have hp : ∀ d : Ctx, d.stack = ((refdownArgs c n n).setSlot (refdownArgs c n n).retIdx .nil).stack →
      d.skel = frameSkel c0 n n → d.ee = c.ee →
      (popFrame d).skel = c0.skel ∧ (∀ vs, Inv d vs → Inv (popFrame d) vs) ∧ (popFrame d).err = c.err ∧
      (popFrame d).exitLevel = if c.exitLevel = xlFunction then xlNone else c.exitLevel := by
    intro d hd hds hde
    refine ⟨skel_popFrame_frameSkel hds, fun vs h => inv_popFrame h (cleared_dead hs hd hds), ?_, ?_⟩
    · exact err_of_ee (c' := d) hde
    · show (if d.exitLevel = _ then _ else _) = _
      rw [xl_of_ee hde]
  unfold leaveFrame
  simp only [hn]
  split
  · next hok =>
    obtain ⟨a, b, e1, e2⟩ := hp ((refdownArgs c n n).setSlot (refdownArgs c n n).retIdx .nil) rfl (by simp [hs1]) (by simp)
    exact ⟨a, fun vs h => b _ (inv_takeSlot (inv_refdownArgs h n n) _), e1, e2, by simp [hok], by simp [hok]⟩
  · next hok =>
    split
    · next hc =>
      obtain ⟨a, b, e1, e2⟩ := hp ((((refdownArgs c n n).refup ((refdownArgs c n n).slot (refdownArgs c n n).retIdx)).refdown
        ((refdownArgs c n n).slot (refdownArgs c n n).retIdx)).setSlot (refdownArgs c n n).retIdx .nil)
        (by apply stack_setSlot_congr; rfl) (by simp [hs1]) (by simp)
      refine ⟨a, fun vs h => b _ (inv_clearSlot (inv_refup (inv_refdownArgs h n n) _ (fun _ hj => slot_counted hj)) _), e1, e2,
        by simp [hok], by simp [hok, hc.1, ← he, hc.2]⟩
    · next hc =>
      obtain ⟨a, b, e1, e2⟩ := hp (((refdownArgs c n n).refdown ((refdownArgs c n n).slot (refdownArgs c n n).retIdx)).setSlot
        (refdownArgs c n n).retIdx .nil) (by apply stack_setSlot_congr; rfl) (by simp [hs1]) (by simp)
      refine ⟨a, fun vs h => b _ (inv_clearSlot (inv_refdownArgs h n n) _), e1, e2, by simp [hok], ?_⟩
      rw [he] at hc
      cases api <;> simp_all

theorem occ_of_ne {j : Nat} {w : Val} (h : w ≠ .ref j) : occ j w = 0 := by
  cases w with
  | ref k => exact if_neg (fun hk => h (congrArg Val.ref hk))
  | _ => rfl

/-- assignment of a value that is referenced somewhere besides the slot it goes to: dropping the slot's old
    value cannot free it -/
theorem inv_assign_live {c : Ctx} {vs : List Val} {v : Val} (i : Nat) (h : Inv c vs)
    (hv : ∀ j, v = .ref j → occ j (c.slot i) + 1 ≤ c.refs j + occL j vs) : Inv (c.assign i v) vs := by
  unfold Ctx.assign
  split
  · next hval =>
    rw [setSlot_refdown_comm]
    have e1 := refdown_ok h.1 (c.slot i) (fun _ hj => h.live (slot_counted hj))
    have e2 := refup_ok e1.1 v (fun j hj => by
      have a1 := e1.2 j
      have a2 := h.2 j
      have a3 := hv j hj
      omega)
    have hh : (((c.setSlot i v).refdown (c.slot i)).refup v).heap = (c.heap.refdown (c.slot i)).refup v := by
      unfold Ctx.setSlot; simp [hval, Ctx.refdown, Ctx.refup]
    refine ⟨by rw [hh]; exact e2.1, fun id => ?_⟩
    rw [hh]
    have a1 := e1.2 id
    have a2 := e2.2 id
    have a3 := h.2 id
    have a4 := refs_setSlot hval v id
    have hr : (((c.setSlot i v).refdown (c.slot i)).refup v).refs id = (c.setSlot i v).refs id := rfl
    rw [hr]
    omega
  · exact h

theorem inv_assignGbl_live {c : Ctx} {vs : List Val} {v : Val} (i : Nat) (h : Inv c vs)
    (hv : ∀ j, v = .ref j → 1 ≤ c.refs j + occL j vs) : Inv (c.assignGbl i v) vs := by
  unfold Ctx.assignGbl
  split
  · exact h
  · next hne =>
    apply inv_assign_live i h
    intro j hj
    have a1 := hv j hj
    have a2 : occ j (c.slot i) = 0 := occ_of_ne (hj ▸ hne)
    omega

theorem inv_setRec0 {c : Ctx} {vs : List Val} (h : Inv c vs) (t : String) : Inv (setRec0 c t) vs := by
  unfold setRec0
  simp only
  split
  · exact inv_refdown (c := { c with rec0 := .zls }) (h.of_refs rfl (fun id => by simp only [Ctx.refs, occL, occ]; omega))
  · exact inv_newRec0 h t

/-- the application holds every argument it passes -/
def Held (c : Ctx) (args : List Val) : Prop :=
  ∀ v, v ∈ args → ∀ j, v = .ref j → 1 ≤ occL j c.handles + occL j c.tmps

theorem inv_pushArgsFromVals {c : Ctx} {vs : List Val} (h : Inv c vs) (args : List Val) (ha : Held c args) :
    Inv (pushArgsFromVals c args) vs := by
  induction args generalizing c with
  | nil => exact h
  | cons v as ih =>
    simp only [pushArgsFromVals]
    apply ih
    · have h1 : Inv (c.refup v) (v :: vs) := by
        apply inv_refup h
        intro j hj
        have := ha v (List.mem_cons_self) j hj
        simp only [Ctx.refs]; omega
      exact inv_push_val h1
    · intro w hw j hj
      exact ha w (List.mem_cons_of_mem _ hw) j hj

theorem inv_consumeInput {c : Ctx} {vs : List Val} (h : Inv c vs) : Inv (consumeInput c) vs := by
  unfold consumeInput
  split
  · exact h
  · next r hr => exact inv_congr rfl rfl rfl rfl rfl (inv_newRec0 h r)

theorem finishLoop_eq {c : Ctx} (hn : c.nargs = 0) (ok : Bool) :
    finishLoop c ok = ({ (leaveFrame c ok false).1 with exitLevel := xlNone }, (leaveFrame c ok false).2.1) := by
  cases ok <;> simp [finishLoop, leaveFrame, hn, refdownArgs, popFrame]


theorem held_cons {c : Ctx} {v : Val} {vs : List Val} (hv : ∀ j, v = .ref j → 1 ≤ occL j c.handles + occL j c.tmps)
    (h : Held c vs) : Held c (v :: vs) := by
  intro w hw j hj
  rcases List.mem_cons.mp hw with rfl | hw
  · exact hv j hj
  · exact h w hw j hj

theorem mkArgs_spec (c : Ctx) (as : List Arg) {vs : List Val} (h : Inv c vs) :
    Inv (mkArgs c as).1 vs ∧ (∀ j, occL j c.tmps ≤ occL j (mkArgs c as).1.tmps) ∧ Held (mkArgs c as).1 (mkArgs c as).2 := by
  induction as generalizing c with
  | nil => exact ⟨h, fun _ => Nat.le_refl _, fun v hv => by simp [mkArgs] at hv⟩
  | cons a as ih =>
    cases a with
    | nil =>
      obtain ⟨h1, h3, h4⟩ := ih c h
      exact ⟨h1, h3, held_cons (fun j hj => by cases hj) h4⟩
    | hnd k =>
      simp only [mkArgs]
      obtain ⟨h1, h3, h4⟩ := ih c h
      refine ⟨h1, h3, held_cons (fun j hj => ?_) h4⟩
      -- the handle table is not touched while the arguments are made
      have := occL_getD_le j c.handles k
      rw [hj] at this
      simp only [occ, ↓reduceIte] at this
      rw [(mkArgs_fields c as).2.1]; omega
    | tmp s =>
      simp only [mkArgs]
      have ha := inv_alloc h (.str s)
      have et : (c.alloc (.str s)).1.tmps = c.tmps := rfl
      generalize c.alloc (.str s) = r at ha et
      obtain ⟨c0, v⟩ := r
      simp only at ha et ⊢
      have h0 : Inv { c0 with tmps := v :: c0.tmps } vs :=
        ha.of_refs rfl (fun id => by simp only [Ctx.refs, occL]; omega)
      obtain ⟨h1, h3, h4⟩ := ih _ h0
      generalize mkArgs { c0 with tmps := v :: c0.tmps } as = r2 at h1 h3 h4
      obtain ⟨c1, ws⟩ := r2
      simp only at h1 h3 h4 ⊢
      refine ⟨h1, fun j => ?_, held_cons (fun j hj => ?_) h4⟩
      · have := h3 j
        simp only [occL, et] at this
        omega
      · have := h3 j
        simp only [occL, hj, occ, ↓reduceIte] at this
        omega

theorem inv_dropTmps_aux (c : Ctx) (l : List Val) {vs : List Val} (h : Inv { c with tmps := [] } (l ++ vs)) :
    Inv (dropTmps c l) vs := by
  induction l generalizing c with
  | nil => exact h
  | cons v l ih =>
    simp only [dropTmps]
    apply ih
    exact inv_refdown (c := { c with tmps := [] }) h

theorem inv_dropTmps {c : Ctx} {vs : List Val} (h : Inv c vs) : Inv (dropTmps c c.tmps) vs := by
  apply inv_dropTmps_aux
  exact h.of_refs rfl (fun id => by simp only [Ctx.refs, occL_append, occL]; omega)

theorem inv_setHandle {c : Ctx} {vs : List Val} {v : Val} {k : Nat} (hk : k < c.handles.length) (h : Inv c (v :: vs)) :
    Inv (setHandle c k v) vs := by
  -- the new value goes from flight into the table, the old one from the table into flight, where it is dropped
  refine inv_refdown (c := { c with handles := c.handles.set k v }) (h.of_refs rfl (fun id => ?_))
  have := occL_set (id := id) hk v
  simp only [Ctx.refs, occL] at this ⊢
  omega

/-- the invariant of a context at rest, as the application sees it: counts are exact with nothing in
    flight, and the handle table has its fixed size -/
structure Sound (c : Ctx) : Prop where
  inv : Inv c []
  hlen : c.handles.length = maxHandles

theorem sound_setHandle {c : Ctx} {v : Val} {k : Nat} (hi : Inv c [v]) (hlen : c.handles.length = maxHandles)
    (hk : ¬ maxHandles ≤ k) : Sound (setHandle c k v) :=
  ⟨inv_setHandle (by omega) hi, by simp only [setHandle, List.length_set]; exact hlen⟩

theorem inv_dropRes {c : Ctx} {r : Option Val} {vs : List Val} (h : Inv c (r.toList ++ vs)) : Inv (c.dropRes r) vs := by
  cases r with
  | none => exact h
  | some v => exact inv_refdown h

theorem fresh_sound (p : Prog) (cid : Nat) : Sound (Ctx.fresh p cid) := by
  refine ⟨⟨⟨rfl, ?_, ?_⟩, fun id => ?_⟩, by simp [Ctx.fresh, maxHandles]⟩
  · intro id c h; simp [Ctx.fresh] at h
  · intro id _; rfl
  · have h1 : occS id (List.replicate p.ng (Slot.val Val.nil)) = 0 := occS_replicate_nil id p.ng
    have h2 : occL id (List.replicate maxHandles Val.nil) = 0 := by
      simp [maxHandles, List.replicate, occL, occ]
    simp only [Ctx.fresh, Ctx.refs, Heap.rc, occL, occ, h1, h2]


theorem inv_dropVals (c : Ctx) (l : List Val) {vs : List Val} (h : Inv c (l ++ vs)) : Inv (dropVals c l) vs := by
  induction l generalizing c with
  | nil => exact h
  | cons v l ih => simp only [dropVals]; exact ih _ (inv_refdown h)

theorem dropVals_fields (c : Ctx) (l : List Val) :
    (dropVals c l).stack = c.stack ∧ (dropVals c l).rec0 = c.rec0 ∧ (dropVals c l).handles = c.handles ∧
    (dropVals c l).tmps = c.tmps := by
  induction l generalizing c with
  | nil => exact ⟨rfl, rfl, rfl, rfl⟩
  | cons v l ih => simp only [dropVals]; exact ih _

/-- nothing leaks, and no count went wrong on the way (`fault` stays false) -/
theorem releaseAll_empty {c : Ctx} (h : Inv c []) (ht : c.tmps = []) :
    (releaseAll c).heap.fault = false ∧ ∀ id, (releaseAll c).heap.cells id = none := by
  unfold releaseAll
  simp only
  have h0 : Inv { c with handles := [] } (c.handles ++ []) :=
    h.of_refs rfl (fun id => by simp only [Ctx.refs, occL, occL_append]; omega)
  have h1 := inv_dropVals _ _ h0
  have f1 := dropVals_fields { c with handles := [] } c.handles
  generalize dropVals { c with handles := [] } c.handles = c1 at h1 f1
  have h2 := inv_popVals h1 c1.stack.length
  have f2s := popVals_stack c1 c1.stack.length
  obtain ⟨_, _, _, _, f2h, f2t⟩ := popVals_fields c1 c1.stack.length
  generalize popVals c1 c1.stack.length = c2 at h2 f2s f2h f2t
  have e1 := refdown_ok h2.1 c2.rec0 (fun _ hj => h2.live (rec0_counted hj))
  refine ⟨e1.1.nofault, fun id => ?_⟩
  have a1 := e1.2 id
  have a2 := h2.2 id
  have hs : c2.stack = [] := by rw [f2s]; simp
  have hh : c2.handles = [] := by rw [f2h, f1.2.2.1]
  have htm : c2.tmps = [] := by rw [f2t, f1.2.2.2]; exact ht
  simp only [Ctx.refs, hs, hh, htm, occS, occL] at a2
  have hz : (c2.heap.refdown c2.rec0).rc id = 0 := by omega
  cases hc : (c2.heap.refdown c2.rec0).cells id with
  | none => exact hc
  | some cell =>
    have := e1.1.pos id cell hc
    simp only [Heap.rc, hc] at hz
    omega

end Hawk.Ctx
