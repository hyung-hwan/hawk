import HawkModel.CoreLemmas
/-
  Model of the string builtins of lib/fnc.c (and their str:: twins of lib/mod-str.c, which are the
  same C functions except `str::match`, = `__fnc_match` with the start-index argument enabled):

    hawk_fnc_length, hawk_fnc_substr, index_or_rindex, fnc_split (+ the tokenisers of
    lib/misc-imp.h), hawk_fnc_tolower/toupper, __substitute (+ __substitute_oocs/_bcs), __fnc_match,
    hawk_find_*chars_in_*chars / hawk_rfind_* of lib/utl-str.c.

  Part 1 is generic in the element type `α` (hawk_ooch_t = 16-bit character, or hawk_bch_t = byte; the C
  instantiates every routine twice) and in the regular-expression matcher, which enters only through
  `Matcher α` : subject, start offset ↦ (absolute start, length) of the match the engine reports when asked
  to search `subject[start..]` (with HAWK_TRE_NOTBOL when start > 0), bundled with the interface law that
  the reported match lies inside the subject at or after the start offset.
  Part 2 is the value-type dispatch of each builtin (`switch (HAWK_RTX_GETVALTYPE(...))`) over a small
  value type, the conversions hawk_rtx_getvaloocstr / getvalbcstr, and the effect on the interpreter
  state (RSTART, RLENGTH, the by-reference target of sub/gsub, the by-reference array of split/match).
  Part 3 is what IGNORECASE changes in index/rindex and split, and the str:: functions that lib/mod-str.c
  implements itself.  The lemmas in this file are the termination facts the tokeniser loops need.

  Default configuration only: IGNORECASE = 0 (outside Part 3), STRIPRECSPC off, no '?'-quoted field mode (reported
  as `none` = not modelled).  Machine integers are modelled by `Int` (no overflow of hawk_int_t).

  The model follows the code REPAIRED by patches/ (see the notes marked REPAIR).
-/
set_option linter.unusedSectionVars false
set_option linter.unusedVariables false

namespace Hawk.StrFn

variable {α : Type} [DecidableEq α]

/-! ## Part 1 — generic routines -/

/-! ### substr (hawk_fnc_substr) -/

/-- `lindex = start - 1; if (lindex < 0) lindex = 0; if (lindex >= len) lindex = len;` -/
def substrIndex (n : Nat) (start : Int) : Nat :=
  let lindex := start - 1
  let lindex := if lindex < 0 then 0 else lindex
  let lindex := if lindex ≥ (n : Int) then (n : Int) else lindex
  lindex.toNat

/-- `if (lcount < 0) lcount = 0; … if (lcount > len - lindex) lcount = len - lindex;`
    (`none` = two-argument form, lcount = HAWK_TYPE_MAX(hawk_int_t), always clamped to the rest) -/
def substrCount (n lindex : Nat) : Option Int → Nat
  | none => n - lindex
  | some l =>
    let lcount := if l < 0 then 0 else l
    let lcount := if lcount > (n : Int) - (lindex : Int) then (n : Int) - (lindex : Int) else lcount
    lcount.toNat

def substr (s : List α) (start : Int) (len : Option Int) : List α :=
  let lindex := substrIndex s.length start
  (s.drop lindex).take (substrCount s.length lindex len)

/-! ### index / rindex (index_or_rindex, hawk_find_xchars_in_xchars, hawk_rfind_xchars_in_xchars) -/

/-- the inner `while (1)` comparison loop: does `p` occur in `s` at offset `i` -/
def occursAt (p s : List α) (i : Nat) : Bool := p.isPrefixOf (s.drop i)

/-- hawk_find_xchars_in_xchars (ignorecase = 0): offset of the first occurrence scanning upwards;
    `subsz == 0` returns the start -/
def find : List α → List α → Option Nat
  | [], p => if p.isPrefixOf [] then some 0 else none
  | c :: t, p => if p.isPrefixOf (c :: t) then some 0 else (find t p).map (· + 1)

/-- the downward loop `while (p >= str) { …; p--; }` of hawk_rfind_xchars_in_xchars from offset `k` -/
def rfindFrom (s p : List α) : Nat → Option Nat
  | 0 => if occursAt p s 0 then some 0 else none
  | k + 1 => if occursAt p s (k + 1) then some (k + 1) else rfindFrom s p k

/-- hawk_rfind_xchars_in_xchars: `subsz == 0` returns the end; `strsz < subsz` nothing; else scan down
    from `strsz - subsz` -/
def rfind (s p : List α) : Option Nat :=
  if p.length = 0 then some s.length
  else if s.length < p.length then none
  else rfindFrom s p (s.length - p.length)

/-- the boundary computation shared by index and rindex -/
def indexBoundary (rindex : Bool) (n : Nat) : Option Int → Int
  | none => if rindex then (n : Int) else 1
  | some b => if b = 0 then 1 else if b < 0 then (n : Int) + b + 1 else b

/-- index_or_rindex on one element type.
    REPAIR: the C rejected every boundary beyond the subject length (`boundary > len0`), so a forward search
    could not start at the empty suffix and index("", "") was 0 although index("abc", "") is 1; repaired to
    accept the start position len0 + 1 for the forward search (only the empty string can be found there). -/
def indexCore (rindex : Bool) (s p : List α) (start : Option Int) : Int :=
  let boundary := indexBoundary rindex s.length start
  if boundary ≤ 0 ∨ boundary > (s.length : Int) + (if rindex then 0 else 1) then 0
  else if rindex then
    match rfind (s.take boundary.toNat) p with
    | some i => (i : Int) + 1
    | none => 0
  else
    match find (s.drop (boundary.toNat - 1)) p with
    | some i => ((boundary.toNat - 1 + i : Nat) : Int) + 1
    | none => 0

/-! ### tokenisers (misc-imp.h tokenize_xchars, tokenize_xchars_by_rex) and the split loop -/

inductive DelimMode where
  | empty | spaces | nospaces | composite
deriving DecidableEq, Repr

/-- the classification loop over the delimiter characters (with its `break`s on reaching COMPOSITE) -/
def delimScan (isSp : α → Bool) : DelimMode → List α → DelimMode
  | m, [] => m
  | .composite, _ :: _ => .composite
  | .empty, d :: r => if isSp d then delimScan isSp .spaces r else delimScan isSp .nospaces r
  | .spaces, d :: r => if isSp d then delimScan isSp .spaces r else .composite
  | .nospaces, d :: r => if isSp d then .composite else delimScan isSp .nospaces r

/-- `if (delim_mode == __DELIM_SPACES && delim_len == 1 && delim[0] != ' ') delim_mode = __DELIM_NOSPACES;` -/
def delimMode (isSp : α → Bool) (blank : α) (delim : List α) : DelimMode :=
  let m := delimScan isSp .empty delim
  if m = .spaces ∧ delim.length = 1 ∧ delim ≠ [blank] then .nospaces else m

/-- result of one tokeniser call: the token and the pointer to continue from (`none` = HAWK_NULL) -/
abbrev TokRes (σ : Type) (α : Type) := List α × Option σ

/-- `if (p >= end) return HAWK_NULL;` -/
def nextOrNull (p : List α) : Option (List α) := if p = [] then none else some p

/-- __DELIM_EMPTY: every character is a token -/
def tokEmpty : List α → TokRes (List α) α
  | [] => ([], none)
  | c :: t => ([c], nextOrNull t)

/-- __DELIM_SPACES: skip spaces, take the run of non-spaces, skip spaces -/
def tokSpaces (isSp : α → Bool) (s : List α) : TokRes (List α) α :=
  let p1 := s.dropWhile isSp
  let tk := p1.takeWhile (fun c => !isSp c)
  let p2 := (p1.dropWhile (fun c => !isSp c)).dropWhile isSp
  (tk, nextOrNull p2)

/-- __DELIM_NOSPACES: scan to the first character of the delimiter set; `return ++p` steps over it
    (possibly to the very end, which yields one more, empty, token on the next call) -/
def tokNoSpaces (delim : List α) (s : List α) : TokRes (List α) α :=
  let tk := s.takeWhile (fun c => !delim.contains c)
  match s.dropWhile (fun c => !delim.contains c) with
  | [] => (tk, none)
  | _ :: t => (tk, some t)

/-- trailing spaces removed (the token ends at `ep`, the last non-space seen) -/
def trimRight (isSp : α → Bool) (l : List α) : List α := (l.reverse.dropWhile isSp).reverse

/-- __DELIM_COMPOSITE: delimited by a non-space delimiter character, surrounding spaces removed
    (not reachable from split(), where a separator longer than one character is a regular expression) -/
def tokComposite (isSp : α → Bool) (delim : List α) (s : List α) : TokRes (List α) α :=
  let p1 := s.dropWhile isSp
  let keep := fun c => isSp c || !delim.contains c
  let tk := trimRight isSp (p1.takeWhile keep)
  match p1.dropWhile keep with
  | [] => (tk, none)
  | _ :: t => (tk, some t)

/-- tokenize_xchars with a non-NULL delimiter -/
def tokChars (isSp : α → Bool) (blank : α) (delim : List α) (s : List α) : TokRes (List α) α :=
  match delimMode isSp blank delim with
  | .empty => tokEmpty s
  | .spaces => tokSpaces isSp s
  | .nospaces => tokNoSpaces delim s
  | .composite => tokComposite isSp delim s

/-- regular-expression matcher as seen by the builtins, with its interface law -/
structure Matcher (α : Type) where
  run : List α → Nat → Option (Nat × Nat)
  inside : ∀ s k p l, run s k = some (p, l) → k ≤ p ∧ p + l ≤ s.length

/-- the `while (cursub.len > 0)` loop of tokenize_xchars_by_rex (STRIPRECSPC off): first non-empty
    match at or after `cur`; an empty match moves the cursor one character on and retries -/
def rexScan (m : Matcher α) (s : List α) (cur : Nat) : Option (Nat × Nat) :=
  if cur < s.length then
    match m.run s cur with
    | none => none
    | some (p, l) => if l = 0 then rexScan m s (cur + 1) else some (p, l)
  else none
termination_by s.length - cur

/-- tokenize_xchars_by_rex: token = text up to the separator match, continue after the match;
    no (non-empty) match: the rest is the last token -/
def tokRex (m : Matcher α) (s : List α) (pos : Nat) : TokRes Nat α :=
  match rexScan m s pos with
  | none => (s.drop pos, none)
  | some (p, l) => ((s.drop pos).take (p - pos), some (p + l))

/-- the field loop of fnc_split: `while (p) { p = tokenize(...); if (nflds == 0 && !p && tok.len == 0) break; store; }` -/
def piecesLoop {σ : Type} (step : σ → TokRes σ α) (μ : σ → Nat)
    (hdec : ∀ a t b, step a = (t, some b) → μ b < μ a) (a : σ) (nflds : Nat) : List (List α) :=
  match h : step a with
  | (tk, none) => if nflds = 0 ∧ tk = [] then [] else [tk]
  | (tk, some b) => tk :: piecesLoop step μ hdec b (nflds + 1)
termination_by μ a
decreasing_by exact hdec a tk b h

theorem nextOrNull_some {p r : List α} (h : nextOrNull p = some r) : r = p := by
  unfold nextOrNull at h; split at h <;> simp_all

theorem tokEmpty_dec (a t b : List α) (h : tokEmpty a = (t, some b)) : b.length < a.length := by
  cases a with
  | nil => simp [tokEmpty] at h
  | cons c r =>
    simp only [tokEmpty, Prod.mk.injEq] at h
    have := nextOrNull_some h.2
    subst this; simp

theorem dropWhile_tail_lt {f : α → Bool} {l t : List α} {x : α} (h : l.dropWhile f = x :: t) :
    t.length < l.length := by
  have := List.length_dropWhile_le f l
  rwa [h] at this

theorem tokSpaces_dec (isSp : α → Bool) (a t b : List α) (h : tokSpaces isSp a = (t, some b)) :
    b.length < a.length := by
  simp only [tokSpaces, Prod.mk.injEq] at h
  obtain rfl := nextOrNull_some h.2
  cases hp : a.dropWhile isSp with
  | nil => simp [hp, nextOrNull] at h
  | cons x r =>
    -- the non-space scan starts at a non-space, so it moves on by that character at least
    have hx : (!isSp x) = true := by simpa [hp] using List.head?_dropWhile_not isSp a
    rw [List.dropWhile_cons_of_pos (p := fun c => !isSp c) hx]
    have h1 := List.length_dropWhile_le isSp (r.dropWhile fun c => !isSp c)
    have h2 := List.length_dropWhile_le (fun c => !isSp c) r
    have h3 := dropWhile_tail_lt hp
    omega

/-- the scan to the next delimiter shared by the NOSPACES and COMPOSITE tokenisers (plain and IGNORECASE) -/
theorem scanTo_dec {keep : α → Bool} {p tk t b : List α}
    (h : (match p.dropWhile keep with | [] => (tk, none) | _ :: r => (tk, some r)) = (t, some b)) :
    b.length < p.length := by
  split at h
  · cases h
  · cases h; exact dropWhile_tail_lt ‹_›

theorem tokChars_dec (isSp : α → Bool) (blank : α) (delim a t b : List α)
    (h : tokChars isSp blank delim a = (t, some b)) : b.length < a.length := by
  unfold tokChars at h
  split at h
  · exact tokEmpty_dec a t b h
  · exact tokSpaces_dec isSp a t b h
  · exact scanTo_dec h
  · exact Nat.lt_of_lt_of_le (scanTo_dec h) (List.length_dropWhile_le isSp a)

/-- split() with a character separator (`fs.len <= 1`, or the NIL separator = " ") -/
def splitChars (isSp : α → Bool) (blank : α) (delim : List α) (s : List α) : List (List α) :=
  piecesLoop (tokChars isSp blank delim) List.length (tokChars_dec isSp blank delim) s 0

theorem rexScan_bounds (m : Matcher α) (s : List α) (cur p l : Nat) (h : rexScan m s cur = some (p, l)) :
    cur ≤ p ∧ p + l ≤ s.length ∧ 0 < l := by
  fun_induction rexScan m s cur with
  | case1 | case4 => cases h
  | case2 cur hlt p' hrun ih => have := ih h; omega
  | case3 cur hlt p' l' hrun hl =>
    cases h
    have := m.inside s cur p l hrun
    omega

theorem tokRex_dec (m : Matcher α) (s : List α) (a : Nat) (t : List α) (b : Nat)
    (h : tokRex m s a = (t, some b)) : s.length - b < s.length - a := by
  revert h
  fun_cases tokRex m s a with
  | case1 => exact nofun
  | case2 p l heq =>
    intro h
    cases h
    have := rexScan_bounds m s a p l heq
    omega

/-- split() with a regular-expression separator -/
def splitRex (m : Matcher α) (s : List α) : List (List α) :=
  piecesLoop (tokRex m s) (fun pos => s.length - pos) (tokRex_dec m s) 0 0

/-! ### tolower / toupper -/

def mapCase (f : α → α) (s : List α) : List α := s.map f

/-! ### sub / gsub (__substitute_oocs / __substitute_bcs) -/

/-- the replacement-template loop `for (i = 0; i < s1->len; i++)` with its four special cases;
    `bs` = '\\', `amp` = '&', `mat` = the matched text -/
def expand (bs amp : α) (mat : List α) : List α → List α
  | [] => []
  | [a] => if a = amp then mat else [a]
  | [a, b] =>
    if a = bs ∧ b = amp then [amp]
    else if a = amp then mat ++ expand bs amp mat [b]
    else a :: expand bs amp mat [b]
  | [a, b, c] =>
    if a = bs ∧ b = bs ∧ c = amp then bs :: mat
    else if a = bs ∧ b = amp then amp :: expand bs amp mat [c]
    else if a = amp then mat ++ expand bs amp mat [b, c]
    else a :: expand bs amp mat [b, c]
  | a :: b :: c :: d :: r =>
    if a = bs ∧ b = bs ∧ c = bs ∧ d = amp then bs :: amp :: expand bs amp mat r
    else if a = bs ∧ b = bs ∧ c = amp then bs :: (mat ++ expand bs amp mat (d :: r))
    else if a = bs ∧ b = amp then amp :: expand bs amp mat (c :: d :: r)
    else if a = amp then mat ++ expand bs amp mat (b :: c :: d :: r)
    else a :: expand bs amp mat (b :: c :: d :: r)
termination_by t => t.length

/-- `sub_count < match_limit`; `none` = HAWK_TYPE_MAX(hawk_oow_t) (gsub), never reached -/
def belowLimit (cnt : Nat) : Option Nat → Bool
  | none => true
  | some k => cnt < k

/-- the `while (cur.ptr <= s2_end)` loop.  `cur` = cur.ptr - s2->ptr, `pend` = pmat.ptr + pmat.len
    (`none` while pmat.ptr == NULL), `cnt` = sub_count, `out` = the output buffer.
    Returns (buffer, sub_count). -/
def substLoop (m : Matcher α) (bs amp : α) (s repl : List α) (limit : Option Nat)
    (cur : Nat) (pend : Option Nat) (cnt : Nat) (out : List α) : List α × Nat :=
  if hc : cur ≤ s.length then
    match hm : (if belowLimit cnt limit then m.run s cur else none) with
    | none => (out ++ s.drop cur, cnt)                        -- no more match: copy the rest, stop
    | some (p, l) =>
      if l = 0 ∧ pend = some p then
        -- empty match at the end of the previous match: skip_one_char
        substLoop m bs amp s repl limit (cur + 1) pend cnt (out ++ (s.drop cur).take 1)
      else
        let out1 := out ++ (s.drop cur).take (p - cur) ++ expand bs amp ((s.drop p).take l) repl
        if l = 0 then
          -- replaced an empty match: copy one character and step over it
          substLoop m bs amp s repl limit (p + 1) (some p) (cnt + 1) (out1 ++ (s.drop p).take 1)
        else
          substLoop m bs amp s repl limit (p + l) (some (p + l)) (cnt + 1) out1
  else (out, cnt)
termination_by s.length + 1 - cur
decreasing_by
  · omega
  · have hr : m.run s cur = some (p, l) := by
      split at hm
      · exact hm
      · simp at hm
    have := m.inside s cur p l hr
    omega
  · have hr : m.run s cur = some (p, l) := by
      split at hm
      · exact hm
      · simp at hm
    have := m.inside s cur p l hr
    omega

/-- __substitute_xxx: new text and number of substitutions; `limit` = `some 1` for sub, `none` for gsub -/
def substitute (m : Matcher α) (bs amp : α) (s repl : List α) (limit : Option Nat) : List α × Nat :=
  substLoop m bs amp s repl limit 0 none 0 []

/-! ### match (__fnc_match) -/

/-- `if (start == 0) start = 1; else if (start < 0) start = len0 + start + 1;` -/
def matchStart (n : Nat) (start : Int) : Int :=
  if start = 0 then 1 else if start < 0 then (n : Int) + start + 1 else start

/-- (RSTART, RLENGTH).  The suffix is matched as a string of its own (`str == substr`: no NOTBOL).
    REPAIR: the C computes `if (start > len0 || start <= 0) n = 0;` and then overwrites `n` by matching
    at `str0 + start - 1` regardless (out-of-bounds read); the repaired code reports "no match" when the
    start lies outside [1, len0 + 1] and matches otherwise, as the original does for in-range starts. -/
def matchCore (m : Matcher α) (s : List α) (start : Int) : Int × Int :=
  let st := matchStart s.length start
  if st > (s.length : Int) + 1 ∨ st ≤ 0 then (0, -1)
  else
    match m.run (s.drop (st.toNat - 1)) 0 with
    | none => (0, -1)
    | some (p, l) => (((st.toNat - 1 + p : Nat) : Int) + 1, (l : Int))

/-! ## Part 2 — value-type dispatch and interpreter state -/

/-- the value kinds the builtins distinguish (maps/arrays as *arguments* are not modelled) -/
inductive Val where
  | nil
  | int (i : Int)
  | flt (m : Int) (e : Nat)          -- the number m / 10^e
  | str (s : List Char)
  | mbs (b : List UInt8)
  | chr (c : Char)
  | bchr (b : UInt8)
deriving DecidableEq, Repr

/-- a compiled regular expression: hawk_tre_t run over characters or over bytes -/
structure Regex where
  c : Matcher Char
  b : Matcher UInt8

/-- everything the builtins use but this property does not define (other properties do):
    the UTF-8 codec (C15), number formatting (C12), the regex engine (C06), character classes -/
structure Env where
  enc : List Char → List UInt8        -- hawk_rtx_duputobchars, UTF-8 cmgr
  dec : List UInt8 → List Char        -- hawk_rtx_dupbtouchars(.., all = 1): never fails, '?' for junk
  fmtFlt : Int → Nat → List Char      -- CONVFMT rendering of m / 10^e
  compile : List Char → Regex         -- hawk_rtx_buildrex on a pattern that compiles
  lowerC : Char → Char
  upperC : Char → Char
  lowerB : UInt8 → UInt8
  upperB : UInt8 → UInt8
  spaceC : Char → Bool
  spaceB : UInt8 → Bool

/-- hawk_rtx_valtoint on the numeric kinds (`(hawk_int_t)r` truncates toward zero); strings as
    numeric arguments are not modelled -/
def Val.toInt : Val → Option Int
  | .nil => some 0
  | .int i => some i
  | .flt m e => some (Int.tdiv m ((10 : Int) ^ e))
  | _ => none

def intRepr (i : Int) : List Char := (toString i).toList

/-- hawk_rtx_getvaloocstr -/
def Val.toStr (E : Env) : Val → List Char
  | .nil => []
  | .int i => intRepr i
  | .flt m e => E.fmtFlt m e
  | .str s => s
  | .mbs b => E.dec b
  | .chr c => [c]
  | .bchr b => E.dec [b]

/-- hawk_rtx_getvalbcstr -/
def Val.toBcs (E : Env) : Val → List UInt8
  | .nil => []
  | .int i => E.enc (intRepr i)
  | .flt m e => E.enc (E.fmtFlt m e)
  | .str s => E.enc s
  | .mbs b => b
  | .chr c => E.enc [c]
  | .bchr b => [b]

/-- `case HAWK_VAL_BCHR: case HAWK_VAL_MBS:` versus `default:` -/
def Val.isBytes : Val → Bool
  | .mbs _ => true
  | .bchr _ => true
  | _ => false

/-- a by-reference collection variable -/
inductive Coll where
  | unset
  | map (kvs : List (List Char × Val))      -- keys in insertion order
  | array (items : List (Nat × Val))
deriving DecidableEq, Repr

/-- interpreter state as far as these builtins can touch it; `rest` stands for everything else
    (all other globals, $0, NF, every other variable) -/
structure State (σ : Type) where
  rstart : Val
  rlength : Val
  target : Val            -- the variable passed by reference as 3rd argument of sub/gsub
  coll : Coll             -- the variable passed by reference to split/splita/match
  rest : σ

variable {σ : Type}

/-- a pattern argument: regex literal /src/ (HAWK_VAL_REX) or any value, converted to a string and compiled -/
inductive Pat where
  | rex (src : List Char)
  | val (v : Val)

def Pat.regex (E : Env) : Pat → Regex
  | .rex src => E.compile src
  | .val v => E.compile (v.toStr E)

/-- hawk_fnc_length with one argument -/
def fnLength (E : Env) (v : Val) : Val :=
  match v with
  | .bchr _ => .int 1
  | .mbs b => .int b.length
  | .chr _ => .int 1
  | .str s => .int s.length
  | v => .int (v.toStr E).length

/-- an optional numeric argument: absent, or present and converted by hawk_rtx_valtoint -/
def optInt : Option Val → Option (Option Int)
  | none => some none
  | some v => v.toInt.map some

/-- hawk_fnc_substr -/
def fnSubstr (E : Env) (a0 a1 : Val) (a2 : Option Val) : Option Val :=
  match a1.toInt, optInt a2 with
  | some start, some len =>
    if a0.isBytes then some (.mbs (substr (a0.toBcs E) start len))
    else some (.str (substr (a0.toStr E) start len))
  | _, _ => none

/-- index_or_rindex.  REPAIR: the C reads a BCHR first argument through `((hawk_val_mbs_t*)a0)->val`
    (wild pointer) and tests `!str0` where `!str1` is meant; repaired to hawk_rtx_getvalbcstr(a0). -/
def fnIndex (E : Env) (rindex : Bool) (a0 a1 : Val) (a2 : Option Val) : Option Val :=
  match optInt a2 with
  | some start =>
    if a0.isBytes then some (.int (indexCore rindex (a0.toBcs E) (a1.toBcs E) start))
    else some (.int (indexCore rindex (a0.toStr E) (a1.toStr E) start))
  | none => none

/-- hawk_fnc_tolower / hawk_fnc_toupper.  REPAIR: toupper read a BCHR with HAWK_RTX_GETCHARFROMVAL
    (wrong shift: `toupper(@b'a')` gave @b'\x84'); repaired to HAWK_RTX_GETBCHRFROMVAL. -/
def fnCase (E : Env) (upper : Bool) (a0 : Val) : Val :=
  let fc := if upper then E.upperC else E.lowerC
  let fb := if upper then E.upperB else E.lowerB
  match a0 with
  | .bchr b => .bchr (fb b)
  | .mbs b => .mbs (mapCase fb b)
  | .chr c => .chr (fc c)
  | v => .str (mapCase fc (v.toStr E))

/-- the separator argument of split: absent (FS, here the default " "), regex literal, or a value -/
inductive Sep where
  | fs
  | rex (src : List Char)
  | val (v : Val)

/-- pieces of fnc_split before they are stored; `none` = the '?'-quoted field mode (not modelled) -/
def splitPieces (E : Env) (a0 : Val) (sep : Sep) : Option (List Val) :=
  -- the separator: NIL → " "; REX → regex; else its string: 5 chars starting with '?' → field mode,
  -- longer than 1 → regex, else a character set
  let sepv : Val := match sep with
    | .fs => .str [' ']
    | .rex _ => .nil
    | .val v => v
  let fsStr : List Char := match sepv with
    | .nil => [' ']
    | v => v.toStr E
  let rex : Option Regex := match sep with
    | .rex src => some (E.compile src)
    | _ => if fsStr.length > 1 then some (E.compile fsStr) else none
  let isRexLit := match sep with | .rex _ => true | _ => false
  if !isRexLit ∧ fsStr.length = 5 ∧ fsStr.head? = some '?' then none
  else if a0.isBytes then
    let s := a0.toBcs E
    match rex with
    | some r => some ((splitRex r.b s).map Val.mbs)
    | none =>
      -- `byte_str && switch_fs_to_bchr`: the separator is fetched again as a byte string
      -- (a NIL separator keeps the literal " ")
      let fsB : List UInt8 := match sepv with
        | .nil => [32]
        | v => v.toBcs E
      some ((splitChars E.spaceB 32 fsB s).map Val.mbs)
  else
    let s := a0.toStr E
    match rex with
    | some r => some ((splitRex r.c s).map Val.str)
    | none => some ((splitChars E.spaceC ' ' fsStr s).map Val.str)

def numberFrom (k : Nat) : List Val → List (Nat × Val)
  | [] => []
  | v :: r => (k, v) :: numberFrom (k + 1) r

/-- fnc_split: the collection variable receives a fresh map ("1".."n") or array (1..n); returns n -/
def fnSplit (E : Env) (useArray : Bool) (a0 : Val) (sep : Sep) (st : State σ) : Option (Val × State σ) :=
  match splitPieces E a0 sep with
  | none => none
  | some ps =>
    let items := numberFrom 1 ps
    let c : Coll := if useArray then .array items else .map (items.map fun (k, v) => (intRepr k, v))
    some (.int ps.length, { st with coll := c })

/-- __substitute with the third argument: pattern, replacement, by-reference target (`st.target`) -/
def fnSubst (E : Env) (limit : Option Nat) (pat : Pat) (a1 : Val) (st : State σ) : Val × State σ :=
  let rx := pat.regex E
  let r2 := st.target
  if r2.isBytes then
    let (out, cnt) := substitute rx.b 92 38 (r2.toBcs E) (a1.toBcs E) limit
    (.int cnt, if cnt > 0 then { st with target := .mbs out } else st)
  else
    let (out, cnt) := substitute rx.c '\\' '&' (r2.toStr E) (a1.toStr E) limit
    (.int cnt, if cnt > 0 then { st with target := .str out } else st)

/-- __substitute with two arguments: the target is the record $0 (`nargs < 3`: s2 = rtx->inrec.line, a character
    string whatever it was assigned from); on a substitution hawk_rtx_setrec(0, …) stores the new text and splits it
    again, so NF is the number of fields of the new record (default FS = " ": the blank-mode tokeniser).
    Returns (count, new $0, new NF). -/
def fnSubst0 (E : Env) (limit : Option Nat) (pat : Pat) (a1 : Val) (rec0 : List Char) : Val × List Char × Nat :=
  let rx := pat.regex E
  let (out, cnt) := substitute rx.c '\\' '&' rec0 (a1.toStr E) limit
  let new := if cnt > 0 then out else rec0
  (.int cnt, new, (splitChars E.spaceC ' ' [' '] new).length)

/-- SUBSEP (default "\x1c") -/
def subsep : List Char := [Char.ofNat 0x1c]

/-- the start argument of match as an integer: absent = 1 -/
def startArg : Option Val → Option Int
  | none => some 1
  | some v => v.toInt

/-- (RSTART, RLENGTH, matched text) of __fnc_match: bytes only for a byte STRING (`a0_type == HAWK_VAL_MBS`;
    a byte character goes through the character branch) -/
def matchTriple (E : Env) (rx : Regex) (a0 : Val) (stv : Int) : Int × Int × Val :=
  match a0 with
  | .mbs b =>
    let r := matchCore rx.b b stv
    (r.1, r.2, .mbs ((b.drop (r.1.toNat - 1)).take r.2.toNat))
  | v =>
    let s := v.toStr E
    let r := matchCore rx.c s stv
    (r.1, r.2, .str ((s.drop (r.1.toNat - 1)).take r.2.toNat))

/-- __fnc_match.  `start` only for str::match; `wantArr` = the by-reference array argument is present.
    REPAIR (array form): the C filled the array from an uninitialised `mat` when nothing matched and read
    the subject after freeing its converted copy; repaired to an empty map on no match and to freeing
    after use. Sub-match entries are not modelled (patterns without groups). -/
def fnMatch (E : Env) (a0 : Val) (pat : Pat) (start : Option Val) (wantArr : Bool) (st : State σ) :
    Option (Val × State σ) :=
  match startArg start with
  | none => none
  | some stv =>
    let t := matchTriple E (pat.regex E) a0 stv
    let c : Coll :=
      if wantArr then
        (if t.1 = 0 then .map []
         else .map [(['0'], t.2.2), (['0'] ++ subsep ++ "start".toList, .int t.1),
                    (['0'] ++ subsep ++ "length".toList, .int t.2.1)])
      else st.coll
    some (.int t.1, { st with rstart := .int t.1, rlength := .int t.2.1, coll := c })

/-! ## Part 3 — IGNORECASE variants and the str:: functions implemented in lib/mod-str.c itself

    (`str::length/substr/index/rindex/split/splita/sub/gsub/match/tolower/toupper` are the fnc.c functions above;
    here: trim, ltrim, rtrim, normspace, subchar, tocharcode, fromcharcode, frombcharcode, the is* class tests,
    tombs, frommbs and the value dispatch of tonum) -/

/-- hawk_find/rfind_xchars_in_xchars with ignorecase != 0: the inner loop compares `lower(*x)` with
    `lower(*y)`, i.e. it is the same search on the case-folded subject and pattern -/
def indexCoreIc (fold : α → α) (rindex : Bool) (s p : List α) (start : Option Int) : Int :=
  indexCore rindex (s.map fold) (p.map fold) start

/-- __DELIM_NOSPACES under IGNORECASE: `c = to_xch_upper(*p)` is compared with `to_xch_upper(*d)` -/
def tokNoSpacesIc (fold : α → α) (delim : List α) (s : List α) : TokRes (List α) α :=
  let keep := fun c => !(delim.map fold).contains (fold c)
  let tk := s.takeWhile keep
  match s.dropWhile keep with
  | [] => (tk, none)
  | _ :: t => (tk, some t)

/-- __DELIM_COMPOSITE under IGNORECASE (the space test is made on the upper-cased character) -/
def tokCompositeIc (isSp : α → Bool) (fold : α → α) (delim : List α) (s : List α) : TokRes (List α) α :=
  let p1 := s.dropWhile isSp
  let keep := fun c => isSp (fold c) || !(delim.map fold).contains (fold c)
  let tk := trimRight isSp (p1.takeWhile keep)
  match p1.dropWhile keep with
  | [] => (tk, none)
  | _ :: t => (tk, some t)

/-- tokenize_xchars with rtx->gbl.ignorecase set -/
def tokCharsIc (isSp : α → Bool) (blank : α) (fold : α → α) (delim : List α) (s : List α) : TokRes (List α) α :=
  match delimMode isSp blank delim with
  | .empty => tokEmpty s
  | .spaces => tokSpaces isSp s
  | .nospaces => tokNoSpacesIc fold delim s
  | .composite => tokCompositeIc isSp fold delim s

theorem tokCharsIc_dec (isSp : α → Bool) (blank : α) (fold : α → α) (delim a t b : List α)
    (h : tokCharsIc isSp blank fold delim a = (t, some b)) : b.length < a.length := by
  unfold tokCharsIc at h
  split at h
  · exact tokEmpty_dec a t b h
  · exact tokSpaces_dec isSp a t b h
  · exact scanTo_dec h
  · exact Nat.lt_of_lt_of_le (scanTo_dec h) (List.length_dropWhile_le isSp a)

/-- split() with a character separator under IGNORECASE -/
def splitCharsIc (isSp : α → Bool) (blank : α) (fold : α → α) (delim : List α) (s : List α) : List (List α) :=
  piecesLoop (tokCharsIc isSp blank fold delim) List.length (tokCharsIc_dec isSp blank fold delim) s 0

/-- fnc_split under IGNORECASE = 1: the regular expressions are the case-insensitive compilations (`E` is then the
    environment whose `compile` is hawk_rtx_buildrex(.., NULL, &icode)) and the character tokeniser folds case -/
def splitPiecesIc (E : Env) (a0 : Val) (sep : Sep) : Option (List Val) :=
  -- the separator: NIL → " "; REX → regex; else its string: 5 chars starting with '?' → field mode,
  -- longer than 1 → regex, else a character set
  let sepv : Val := match sep with
    | .fs => .str [' ']
    | .rex _ => .nil
    | .val v => v
  let fsStr : List Char := match sepv with
    | .nil => [' ']
    | v => v.toStr E
  let rex : Option Regex := match sep with
    | .rex src => some (E.compile src)
    | _ => if fsStr.length > 1 then some (E.compile fsStr) else none
  let isRexLit := match sep with | .rex _ => true | _ => false
  if !isRexLit ∧ fsStr.length = 5 ∧ fsStr.head? = some '?' then none
  else if a0.isBytes then
    let s := a0.toBcs E
    match rex with
    | some r => some ((splitRex r.b s).map Val.mbs)
    | none =>
      -- `byte_str && switch_fs_to_bchr`: the separator is fetched again as a byte string
      -- (a NIL separator keeps the literal " ")
      let fsB : List UInt8 := match sepv with
        | .nil => [32]
        | v => v.toBcs E
      some ((splitCharsIc E.spaceB 32 E.upperB fsB s).map Val.mbs)
  else
    let s := a0.toStr E
    match rex with
    | some r => some ((splitRex r.c s).map Val.str)
    | none => some ((splitCharsIc E.spaceC ' ' E.upperC fsStr s).map Val.str)

def fnSplitIc (E : Env) (useArray : Bool) (a0 : Val) (sep : Sep) (st : State σ) : Option (Val × State σ) :=
  match splitPiecesIc E a0 sep with
  | none => none
  | some ps =>
    let items := numberFrom 1 ps
    let c : Coll := if useArray then .array items else .map (items.map fun (k, v) => (intRepr k, v))
    some (.int ps.length, { st with coll := c })

/-- index_or_rindex under IGNORECASE = 1 -/
def fnIndexIc (E : Env) (rindex : Bool) (a0 a1 : Val) (a2 : Option Val) : Option Val :=
  match optInt a2 with
  | some start =>
    if a0.isBytes then some (.int (indexCoreIc E.lowerB rindex (a0.toBcs E) (a1.toBcs E) start))
    else some (.int (indexCoreIc E.lowerC rindex (a0.toStr E) (a1.toStr E) start))
  | none => none

/-- hawk_trim_xchars: the span from the first to the last non-space character, cut on the sides the flags
    name (a string of spaces only becomes empty as soon as one flag is given, which is what dropping
    leading or trailing spaces yields as well) -/
def trimChars (isSp : α → Bool) (left right : Bool) (s : List α) : List α :=
  let s1 := if left then s.dropWhile isSp else s
  if right then trimRight isSp s1 else s1

/-- the state machine of hawk_compact_xchars: `st` = state 1 (a non-space has been seen), `fbs` =
    followed_by_space; returns the characters written and the final followed_by_space -/
def compactAux (isSp : α → Bool) : Bool → Bool → List α → List α × Bool
  | _, fbs, [] => ([], fbs)
  | false, fbs, c :: r =>
    if isSp c then compactAux isSp false fbs r
    else let (o, f) := compactAux isSp true fbs r; (c :: o, f)
  | true, fbs, c :: r =>
    if isSp c then
      (if fbs then compactAux isSp true true r
       else let (o, f) := compactAux isSp true true r; (c :: o, f))
    else let (o, f) := compactAux isSp true false r; (c :: o, f)

/-- hawk_compact_xchars: leading spaces dropped, each inner run of spaces reduced to its first character,
    `return followed_by_space ? q - str - 1 : q - str` drops the one space kept for a trailing run -/
def compact (isSp : α → Bool) (s : List α) : List α :=
  let (o, f) := compactAux isSp false false s
  if f then o.dropLast else o

/-- the character at 1-based position `pos` (str::subchar, str::tocharcode) -/
def charAt (s : List α) (pos : Int) : Option α :=
  let lindex := pos - 1
  if 0 ≤ lindex ∧ lindex < (s.length : Int) then s[lindex.toNat]? else none

/-- is_class: `if (len0 <= 0) tmp = 0; else` every character must be of the class -/
def isClass (p : α → Bool) (s : List α) : Bool := !s.isEmpty && s.all p

/-- trim / ltrim / rtrim -/
def fnTrim (E : Env) (left right : Bool) (a0 : Val) : Val :=
  if a0.isBytes then .mbs (trimChars E.spaceB left right (a0.toBcs E))
  else .str (trimChars E.spaceC left right (a0.toStr E))

/-- fnc_normspace -/
def fnNormspace (E : Env) (a0 : Val) : Val :=
  if a0.isBytes then .mbs (compact E.spaceB (a0.toBcs E))
  else .str (compact E.spaceC (a0.toStr E))

/-- fnc_trim with its optional flag argument: `if (iv & TRIM_FLAG_PAC_SPACES) return fnc_normspace(...)` -/
def fnTrimFlags (E : Env) (a0 : Val) (flags : Option Val) : Option Val :=
  match optInt flags with
  | none => none
  | some none => some (fnTrim E true true a0)
  | some (some iv) => if iv % 2 = 1 then some (fnNormspace E a0) else some (fnTrim E true true a0)

/-- fnc_subchar: the character (byte character for byte values) at the position, nil outside the value -/
def fnSubchar (E : Env) (a0 a1 : Val) : Option Val :=
  match a1.toInt with
  | none => none
  | some pos =>
    if a0.isBytes then
      some (match charAt (a0.toBcs E) pos with | some b => .bchr b | none => .nil)
    else
      some (match charAt (a0.toStr E) pos with | some c => .chr c | none => .nil)

/-- fnc_tocharcode: the code of the character at the position (default 1); no return value (nil) outside -/
def fnTocharcode (E : Env) (a0 : Val) (a1 : Option Val) : Option Val :=
  match optInt a1 with
  | none => none
  | some posArg =>
    let pos := posArg.getD 1
    if a0.isBytes then
      some (match charAt (a0.toBcs E) pos with | some b => .int b.toNat | none => .nil)
    else
      some (match charAt (a0.toStr E) pos with | some c => .int c.toNat | none => .nil)

/-- a code that a 16-bit hawk_ooch_t holds as a character of its own (no surrogates; the cast of anything
    else truncates and is not modelled) -/
def validCharCode (i : Int) : Bool := (0 ≤ i ∧ i < 0xD800) ∨ (0xE000 ≤ i ∧ i < 0x10000)

def allInts : List Val → Option (List Int)
  | [] => some []
  | v :: r => match v.toInt, allInts r with
    | some i, some l => some (i :: l)
    | _, _ => none

/-- fnc_fromcharcode: one code gives a character, any other number of codes a string -/
def fnFromcharcode (codes : List Val) : Option Val :=
  match allInts codes with
  | none => none
  | some l =>
    if l.all validCharCode then
      (match l with
       | [c] => some (.chr (Char.ofNat c.toNat))
       | l => some (.str (l.map fun c => Char.ofNat c.toNat)))
    else none

/-- fnc_frombcharcode: one code gives a byte character, any other number of codes a byte string.
    REPAIR: the one-code case called hawk_rtx_makecharval (a CHARACTER value) although the function
    "creates a byte-character from a single character code"; repaired to hawk_rtx_makebchrval. -/
def fnFrombcharcode (codes : List Val) : Option Val :=
  match allInts codes with
  | none => none
  | some l =>
    if l.all (fun i => 0 ≤ i ∧ i < 256) then
      (match l with
       | [c] => some (.bchr (UInt8.ofNat c.toNat))
       | l => some (.mbs (l.map fun c => UInt8.ofNat c.toNat)))
    else none

/-- is_class with the class given as its two predicates (characters, bytes) -/
def fnIsClass (E : Env) (pc : Char → Bool) (pb : UInt8 → Bool) (a0 : Val) : Val :=
  if a0.isBytes then .int (if isClass pb (a0.toBcs E) then 1 else 0)
  else .int (if isClass pc (a0.toStr E) then 1 else 0)

/-- the optional encoding-name argument of tombs/frommbs -/
inductive EncArg where
  | absent      -- the runtime's cmgr
  | utf8        -- a name that resolves to the same cmgr
  | unknown     -- a name hawk_get_cmgr_by_name does not know (or the empty name): zero-length result
deriving DecidableEq

/-- fnc_tombs -/
def fnTombs (E : Env) (a0 : Val) (enc : EncArg) : Val :=
  if enc = .unknown then .mbs []
  else match a0 with
    | .bchr b => .mbs [b]
    | .mbs b => .mbs b
    | v => .mbs (v.toBcs E)

/-- fnc_frommbs -/
def fnFrommbs (E : Env) (a0 : Val) (enc : EncArg) : Val :=
  if enc = .unknown then .str []
  else match a0 with
    | .str s => .str s
    | v => .str (v.toStr E)

/-- value of a digit character in bases up to 16 -/
def digitVal (c : Nat) : Option Nat :=
  if 48 ≤ c ∧ c ≤ 57 then some (c - 48)
  else if 97 ≤ c ∧ c ≤ 102 then some (c - 87)
  else if 65 ≤ c ∧ c ≤ 70 then some (c - 55)
  else none

def digitsVal (base : Nat) : Nat → List Nat → Option Nat
  | acc, [] => some acc
  | acc, c :: r => match digitVal c with
    | some d => if d < base then digitsVal base (acc * base + d) r else none
    | none => none

/-- the part of hawk_xchars_to_num this property relies on: an optional sign and a non-empty run of digits
    all valid in the base, without a radix prefix (base 0 = automatic: decimal, and a leading 0 would select
    another radix, so it is excluded); everything else is the business of the number parser (property C11)
    and reported as not modelled -/
def simpleNum (base : Nat) (s : List Nat) : Option Int :=
  let (neg, ds) := match s with
    | 45 :: r => (true, r)
    | 43 :: r => (false, r)
    | r => (false, r)
  if ds.isEmpty then none
  else if base = 0 ∧ ds.head? = some 48 ∧ ds.length > 1 then none
  else if base ≠ 0 ∧ base ≠ 2 ∧ base ≠ 8 ∧ base ≠ 10 ∧ base ≠ 16 then none
  else match digitsVal (if base = 0 then 10 else base) 0 ds with
    | some n => some (if neg then -(n : Int) else (n : Int))
    | none => none

/-- fnc_tonum: a number is returned as it is (the base is then ignored), nil is 0, a string / byte string /
    character / byte character is parsed in the given base (absent = automatic) -/
def fnTonum (E : Env) (a0 : Val) (base : Option Val) : Option Val :=
  match a0 with
  | .nil => some (.int 0)
  | .int i => some (.int i)
  | .flt m e => some (.flt m e)
  | v =>
    match optInt base with
    | none => none
    | some b =>
      let bv := (b.getD 0)
      if bv < 0 then none
      else
        let txt : List Nat := if v.isBytes then (v.toBcs E).map UInt8.toNat else (v.toStr E).map Char.toNat
        (simpleNum bv.toNat txt).map Val.int

end Hawk.StrFn
