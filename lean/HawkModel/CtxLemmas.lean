import HawkModel.Ctx
/-! For C09, sharing and stack discipline.  The call-site cache is the one thing contexts share and it tells them
nothing (the `*_blind` lemmas, up to `run_isolated` for worlds).  Of the private state, the frame skeleton `Ctx.skel`:
what a call has to put back, with what each primitive and each frame entry / exit does to it. -/
namespace Hawk.Ctx

def Ctx.ee (c : Ctx) : Err × Nat := (c.err, c.exitLevel)

@[simp] theorem ee_refup (c : Ctx) (v : Val) : (c.refup v).ee = c.ee := rfl
@[simp] theorem ee_refdown (c : Ctx) (v : Val) : (c.refdown v).ee = c.ee := rfl
@[simp] theorem ee_alloc (c : Ctx) (d : Data) : (c.alloc d).1.ee = c.ee := rfl
@[simp] theorem ee_push (c : Ctx) (s : Slot) : (c.push s).ee = c.ee := rfl
@[simp] theorem ee_setSlot (c : Ctx) (i : Nat) (v : Val) : (c.setSlot i v).ee = c.ee := by
  unfold Ctx.setSlot; split <;> rfl
@[simp] theorem ee_setRaw (c : Ctx) (i n : Nat) : (c.setRaw i n).ee = c.ee := by
  unfold Ctx.setRaw; split <;> rfl
@[simp] theorem ee_evalOwned (c : Ctx) (e : Expr) : (evalOwned c e).1.ee = c.ee := by
  cases e <;> simp [evalOwned]
@[simp] theorem ee_assign (c : Ctx) (i : Nat) (v : Val) : (c.assign i v).ee = c.ee := by
  unfold Ctx.assign; split <;> simp
@[simp] theorem ee_assignGbl (c : Ctx) (i : Nat) (v : Val) : (c.assignGbl i v).ee = c.ee := by
  unfold Ctx.assignGbl; split <;> simp
@[simp] theorem ee_replaceOwned (c : Ctx) (i : Nat) (v : Val) : (c.replaceOwned i v).ee = c.ee := by
  unfold Ctx.replaceOwned; split <;> simp
@[simp] theorem ee_doAssign (c : Ctx) (i : Nat) (e : Expr) (g : Bool) : (doAssign c i e g).ee = c.ee := by
  unfold doAssign; cases g <;> simp
@[simp] theorem ee_pushNils (c : Ctx) (n : Nat) : (pushNils c n).ee = c.ee := by
  induction n generalizing c with
  | zero => rfl
  | succ n ih => simp [pushNils, ih]
@[simp] theorem ee_pushArgsFromExprs (c : Ctx) (es : List Expr) : (pushArgsFromExprs c es).ee = c.ee := by
  induction es generalizing c with
  | nil => rfl
  | cons e es ih => simp [pushArgsFromExprs, ih]
@[simp] theorem ee_pushArgsFromVals (c : Ctx) (vs : List Val) : (pushArgsFromVals c vs).ee = c.ee := by
  induction vs generalizing c with
  | nil => rfl
  | cons e es ih => simp [pushArgsFromVals, ih]
@[simp] theorem ee_pushPrologue (c : Ctx) : (pushPrologue c).ee = c.ee := by simp [pushPrologue]
@[simp] theorem ee_enterFrame (c : Ctx) (t n : Nat) : (enterFrame c t n).ee = c.ee := by
  unfold enterFrame; simp; rfl
@[simp] theorem ee_enterCall (c : Ctx) (f : Fun) (args : List Expr) : (enterCall c f args).ee = c.ee := by
  unfold enterCall; simp
@[simp] theorem ee_popVals (c : Ctx) (n : Nat) : (popVals c n).ee = c.ee := by
  induction n generalizing c with
  | zero => rfl
  | succ n ih => simp only [popVals, ih]; rfl
@[simp] theorem ee_refdownArgs (c : Ctx) (n k : Nat) : (refdownArgs c n k).ee = c.ee := by
  induction k generalizing c with
  | zero => rfl
  | succ k ih => simp [refdownArgs, ih]

theorem err_of_ee {c c' : Ctx} (h : c'.ee = c.ee) : c'.err = c.err := congrArg Prod.fst h
theorem xl_of_ee {c c' : Ctx} (h : c'.ee = c.ee) : c'.exitLevel = c.exitLevel := congrArg Prod.snd h

/-! ## the frame skeleton: what `hawk_rtx_evalcall` relies on to restore `stack_top`/`stack_base` -/

def Slot.skel : Slot → Option Nat
  | .raw n => some n
  | .val _ => none

/-- positions and contents of the bookkeeping slots, the base, and what the application holds -/
structure Skel where
  stack : List (Option Nat)
  base : Nat
  ng : Nat
  offset : Nat
  handles : List Val
  tmps : List Val

def Ctx.skel (c : Ctx) : Skel := ⟨c.stack.map Slot.skel, c.base, c.ng, c.offset, c.handles, c.tmps⟩

theorem skel_congr {c c' : Ctx} (h1 : c'.stack = c.stack) (h2 : c'.base = c.base) (h3 : c'.ng = c.ng)
    (h4 : c'.offset = c.offset) (h5 : c'.handles = c.handles) (h6 : c'.tmps = c.tmps) : c'.skel = c.skel := by
  simp [Ctx.skel, h1, h2, h3, h4, h5, h6]

theorem Skel.ext {a b : Skel} (h1 : a.stack = b.stack) (h2 : a.base = b.base) (h3 : a.ng = b.ng)
    (h4 : a.offset = b.offset) (h5 : a.handles = b.handles) (h6 : a.tmps = b.tmps) : a = b := by
  cases a; cases b; simp at *; exact ⟨h1, h2, h3, h4, h5, h6⟩

@[simp] theorem skel_refup (c : Ctx) (v : Val) : (c.refup v).skel = c.skel := rfl
@[simp] theorem skel_refdown (c : Ctx) (v : Val) : (c.refdown v).skel = c.skel := rfl
@[simp] theorem skel_setErr (c : Ctx) (e : Err) : (c.setErr e).skel = c.skel := rfl
@[simp] theorem skel_alloc (c : Ctx) (d : Data) : (c.alloc d).1.skel = c.skel := rfl

theorem isVal_iff {c : Ctx} {i : Nat} : c.isVal i = true ↔ ∃ v, c.stack[i]? = some (.val v) := by
  unfold Ctx.isVal
  split
  · next v h => simp [h]
  · next h =>
    simp only [Bool.false_eq_true, false_iff, not_exists]
    intro v hv; exact h v hv

@[simp] theorem skel_setSlot (c : Ctx) (i : Nat) (v : Val) : (c.setSlot i v).skel = c.skel := by
  unfold Ctx.setSlot
  split
  · next h =>
    obtain ⟨w, hw⟩ := isVal_iff.mp h
    obtain ⟨hi, hw⟩ := List.getElem?_eq_some_iff.mp hw
    have hv : (Slot.val v).skel = (c.stack.map Slot.skel)[i]'(by simpa using hi) := by
      rw [List.getElem_map, hw]; rfl
    simp only [Ctx.skel, List.map_set, hv, List.set_getElem_self]
  · rfl

theorem stack_len_of_skel {c c' : Ctx} (h : c'.skel = c.skel) : c'.stack.length = c.stack.length := by
  have := congrArg (fun s => s.stack.length) h
  simpa [Ctx.skel] using this

theorem raw_iff_skel (c : Ctx) (i n : Nat) : c.stack[i]? = some (.raw n) ↔ c.skel.stack[i]? = some (some n) := by
  simp only [Ctx.skel, List.getElem?_map]
  cases c.stack[i]? with
  | none => simp
  | some s => cases s <;> simp [Slot.skel]

theorem skel_raw {c c' : Ctx} (h : c'.skel = c.skel) (i n : Nat) :
    c.stack[i]? = some (.raw n) ↔ c'.stack[i]? = some (.raw n) := by
  rw [raw_iff_skel, raw_iff_skel, h]

theorem base_of_skel {c c' : Ctx} (h : c'.skel = c.skel) : c'.base = c.base := by
  have := congrArg Skel.base h; simpa [Ctx.skel] using this

theorem handles_of_skel {c c' : Ctx} (h : c'.skel = c.skel) : c'.handles = c.handles := by
  have := congrArg Skel.handles h; simpa [Ctx.skel] using this

theorem rawAt_eq (c : Ctx) (i : Nat) : c.rawAt i = ((c.skel.stack[i]?).join).getD 0 := by
  unfold Ctx.rawAt
  simp only [Ctx.skel, List.getElem?_map, List.getD_eq_getElem?_getD]
  cases h : c.stack[i]? with
  | none => simp [Slot.toNat]
  | some s => cases s <;> simp [Slot.toNat, Slot.skel]

@[simp] theorem skel_evalOwned (c : Ctx) (e : Expr) : (evalOwned c e).1.skel = c.skel := by
  cases e <;> simp [evalOwned]

@[simp] theorem skel_assign (c : Ctx) (i : Nat) (v : Val) : (c.assign i v).skel = c.skel := by
  unfold Ctx.assign; split <;> simp

@[simp] theorem skel_assignGbl (c : Ctx) (i : Nat) (v : Val) : (c.assignGbl i v).skel = c.skel := by
  unfold Ctx.assignGbl; split <;> simp

@[simp] theorem skel_replaceOwned (c : Ctx) (i : Nat) (v : Val) : (c.replaceOwned i v).skel = c.skel := by
  unfold Ctx.replaceOwned; split <;> simp

@[simp] theorem skel_doAssign (c : Ctx) (i : Nat) (e : Expr) (g : Bool) : (doAssign c i e g).skel = c.skel := by
  unfold doAssign
  cases g <;> simp

@[simp] theorem skel_stack_length (c : Ctx) : c.skel.stack.length = c.stack.length := by simp [Ctx.skel]

@[simp] theorem skel_push (c : Ctx) (s : Slot) :
    (c.push s).skel = { c.skel with stack := c.skel.stack ++ [s.skel] } := by
  simp [Ctx.push, Ctx.skel]

theorem skel_pushNils (c : Ctx) (n : Nat) :
    (pushNils c n).skel = { c.skel with stack := c.skel.stack ++ List.replicate n none } := by
  induction n generalizing c with
  | zero => simp [pushNils]
  | succ n ih => simp [pushNils, ih, List.replicate_succ, Slot.skel]

theorem skel_pushArgsFromExprs (c : Ctx) (es : List Expr) :
    (pushArgsFromExprs c es).skel = { c.skel with stack := c.skel.stack ++ List.replicate es.length none } := by
  induction es generalizing c with
  | nil => simp [pushArgsFromExprs]
  | cons e es ih =>
    simp only [pushArgsFromExprs, ih, skel_push, skel_evalOwned, List.length_cons, List.replicate_succ, Slot.skel]
    simp

theorem skel_pushArgsFromVals (c : Ctx) (vs : List Val) :
    (pushArgsFromVals c vs).skel = { c.skel with stack := c.skel.stack ++ List.replicate vs.length none } := by
  induction vs generalizing c with
  | nil => simp [pushArgsFromVals]
  | cons v vs ih =>
    simp only [pushArgsFromVals, ih, skel_push, skel_refup, List.length_cons, List.replicate_succ, Slot.skel]
    simp

/-- the skeleton of a context inside a freshly entered frame with `m` value slots above the prologue -/
def frameSkel (c : Ctx) (nargs m : Nat) : Skel :=
  { c.skel with stack := c.skel.stack ++ [some c.base, some c.stack.length, none, some nargs] ++ List.replicate m none,
                base := c.stack.length }

theorem frameSkel_stack (c : Ctx) (n m : Nat) :
    (frameSkel c n m).stack = (c.skel.stack ++ [some c.base, some c.stack.length, none, some n]) ++ List.replicate m none := rfl

theorem frameSkel_slot (c : Ctx) (n m j : Nat) :
    (frameSkel c n m).stack[c.stack.length + j]? =
      ([some c.base, some c.stack.length, none, some n] ++ List.replicate m none)[j]? := by
  rw [frameSkel_stack, List.append_assoc, List.getElem?_append_right (by simp)]
  congr 1
  simp

theorem frame_len {d c0 : Ctx} {n m : Nat} (hs : d.skel = frameSkel c0 n m) :
    d.stack.length = c0.stack.length + 4 + m := by
  rw [← skel_stack_length d, hs, frameSkel_stack]
  simp
  omega

theorem avail_of_skel {c c' : Ctx} (h : c'.skel = c.skel) : c'.avail = c.avail := by
  unfold Ctx.avail
  rw [stack_len_of_skel h, show c'.offset = c.offset from congrArg Skel.offset h]

theorem avail_frame {d c : Ctx} {n m : Nat} (hs : d.skel = frameSkel c n m) : d.avail = c.avail - (4 + m) := by
  unfold Ctx.avail
  rw [frame_len hs, show d.offset = c.offset from congrArg Skel.offset hs]
  omega

theorem frame_facts {d c0 : Ctx} {n m : Nat} (hs : d.skel = frameSkel c0 n m) :
    d.base = c0.stack.length ∧ d.nargs = n ∧ d.rawAt (d.base + 1) = c0.stack.length ∧ d.rawAt (d.base + 0) = c0.base := by
  have hb : d.base = c0.stack.length := by
    have := congrArg Skel.base hs; simpa [Ctx.skel, frameSkel] using this
  refine ⟨hb, ?_, ?_, ?_⟩
  · unfold Ctx.nargs
    rw [rawAt_eq, hs, hb, frameSkel_slot]; rfl
  · rw [rawAt_eq, hs, hb, frameSkel_slot]; rfl
  · rw [rawAt_eq, hs, hb, frameSkel_slot]; rfl

theorem skel_enterFrame (c : Ctx) (c1 : Ctx) (a : Nat) (n : Nat)
    (h : c1.skel = { (pushPrologue c).skel with stack := (pushPrologue c).skel.stack ++ List.replicate a none }) :
    (enterFrame c1 c.stack.length n).skel = frameSkel c n a := by
  simp only [pushPrologue, skel_push, Slot.skel] at h
  have hget : c1.stack[c.stack.length + 3]? = some (.raw 0) := by
    rw [raw_iff_skel, h]; simp
  have hset : (enterFrame c1 c.stack.length n).skel =
      { c1.skel with base := c.stack.length, stack := c1.skel.stack.set (c.stack.length + 3) (some n) } := by
    simp [enterFrame, Ctx.setRaw, hget, Ctx.skel, Slot.skel]
  rw [hset, h]
  simp [frameSkel, Ctx.skel]

/-- the prologue, `n` pushed arguments, nils up to the `m` formal ones, and the frame is entered -/
theorem skel_enterArgs {c c1 : Ctx} {n : Nat} (m : Nat) (hn : n ≤ m)
    (h1 : c1.skel = { (pushPrologue c).skel with stack := (pushPrologue c).skel.stack ++ List.replicate n none }) :
    (enterFrame (pushNils c1 (m - n)) c.stack.length m).skel = frameSkel c m m := by
  apply skel_enterFrame
  rw [skel_pushNils, h1]
  have : List.replicate n (none : Option Nat) ++ List.replicate (m - n) none = List.replicate m none := by
    rw [List.replicate_append_replicate]; congr 1; omega
  simp [this]

theorem skel_enterCall (c : Ctx) (f : Fun) (args : List Expr) (nl : Nat) (h : args.length ≤ f.nargs) :
    (pushNils (enterCall c f args) nl).skel = frameSkel c f.nargs (f.nargs + nl) := by
  have h2 := skel_enterArgs f.nargs h (skel_pushArgsFromExprs (pushPrologue c) args)
  rw [skel_pushNils]
  unfold enterCall
  rw [h2]
  simp [frameSkel, ← List.replicate_append_replicate]

theorem popVals_stack (c : Ctx) (n : Nat) : (popVals c n).stack = c.stack.take (c.stack.length - n) := by
  induction n generalizing c with
  | zero => exact (List.take_length).symm
  | succ n ih =>
    rw [popVals, ih, List.length_take_of_le (Nat.sub_le _ _), List.take_take, Nat.min_eq_left (Nat.sub_le _ _),
      Nat.sub_sub, Nat.add_comm 1 n]

theorem popVals_fields (c : Ctx) (n : Nat) :
    (popVals c n).base = c.base ∧ (popVals c n).ng = c.ng ∧ (popVals c n).offset = c.offset ∧
    (popVals c n).rec0 = c.rec0 ∧ (popVals c n).handles = c.handles ∧ (popVals c n).tmps = c.tmps := by
  induction n generalizing c with
  | zero => exact ⟨rfl, rfl, rfl, rfl, rfl, rfl⟩
  | succ n ih => rw [popVals]; exact ih _

theorem skel_popVals (c : Ctx) (n : Nat) :
    (popVals c n).skel = { c.skel with stack := c.skel.stack.take (c.skel.stack.length - n) } := by
  obtain ⟨h1, h2, h3, _, h5, h6⟩ := popVals_fields c n
  apply Skel.ext <;> simp only [Ctx.skel, h1, h2, h3, h5, h6]
  rw [popVals_stack, List.map_take, List.length_map]

@[simp] theorem skel_refdownArgs (c : Ctx) (nargs k : Nat) : (refdownArgs c nargs k).skel = c.skel := by
  induction k generalizing c with
  | zero => simp [refdownArgs]
  | succ k ih => simp [refdownArgs, ih]

theorem skel_popFrame (c : Ctx) :
    (popFrame c).skel = { c.skel with stack := c.skel.stack.take (c.rawAt (c.base + 1)), base := c.rawAt (c.base + 0) } := by
  simp [popFrame, Ctx.skel]

theorem take_drop_nils {α : Type} (X : List α) (a : α) (m nl : Nat) :
    (X ++ List.replicate (m + nl) a).take ((X ++ List.replicate (m + nl) a).length - nl) = X ++ List.replicate m a := by
  rw [← List.replicate_append_replicate, ← List.append_assoc]
  apply List.take_left'
  simp; omega

theorem skel_popVals_frameSkel {c c3 : Ctx} {n m nl : Nat} (h : c3.skel = frameSkel c n (m + nl)) :
    (popVals c3 nl).skel = frameSkel c n m := by
  rw [skel_popVals, h]
  apply Skel.ext <;> try rfl
  simp only [frameSkel_stack]
  exact take_drop_nils _ _ _ _

theorem skel_popFrame_frameSkel {c c3 : Ctx} {n m : Nat} (h : c3.skel = frameSkel c n m) :
    (popFrame c3).skel = c.skel := by
  obtain ⟨_, _, h1, h0⟩ := frame_facts h
  rw [skel_popFrame, h1, h0, h]
  apply Skel.ext <;> try rfl
  simp only [frameSkel_stack, List.append_assoc]
  exact List.take_left' (skel_stack_length c)

@[simp] theorem skel_setRec0 (c : Ctx) (t : String) : (setRec0 c t).skel = c.skel := by
  unfold setRec0; simp only; split <;> rfl

@[simp] theorem ee_setRec0 (c : Ctx) (t : String) : (setRec0 c t).ee = c.ee := by
  unfold setRec0; simp only; split <;> rfl


/-- the frame `hawk_rtx_callfun` sets up for the body of `f` -/
def callFrame (c : Ctx) (f : Fun) (args : List Val) : Ctx :=
  enterFrame (pushNils (pushArgsFromVals (pushPrologue c) args) (f.nargs - args.length)) c.stack.length f.nargs

theorem callFun_cases (p : Prog) (c : Ctx) (f : Fun) (args : List Val) :
    (∃ e, ∀ k, callFun p c k f args = (c.setErr e, k, none)) ∨
    (args.length ≤ f.nargs ∧ ∀ k, callFun p c k f args =
      let r := runBlock p (callFrame c f args) k f.nlcls f.body
      let l := leaveFrame r.2.1 r.1 true
      (l.1, r.2.2, l.2.1.or l.2.2)) := by
  unfold callFun
  split
  · exact .inl ⟨_, fun _ => rfl⟩
  · split
    · exact .inl ⟨_, fun _ => rfl⟩
    · split
      · exact .inl ⟨_, fun _ => rfl⟩
      · refine .inr ⟨by omega, fun k => ?_⟩
        simp only [callFrame]
        cases (leaveFrame _ _ true).2.1 <;> rfl

theorem skel_callFrame (c : Ctx) (f : Fun) (args : List Val) (h : args.length ≤ f.nargs) :
    (callFrame c f args).skel = frameSkel c f.nargs f.nargs :=
  skel_enterArgs f.nargs h (skel_pushArgsFromVals (pushPrologue c) args)

@[simp] theorem skel_consumeInput (c : Ctx) : (consumeInput c).skel = c.skel := by
  unfold consumeInput; split <;> rfl

/-- the shape `runBegin` and `runEnd` (the BEGIN and the END block of `run_bpae_loop`) share -/
def runOpt (p : Prog) (blk : Option Block) (go : Prop) [Decidable go] (ok : Bool) (c : Ctx) (k : Cache) :
    Bool × Ctx × Cache :=
  match blk with
  | some b => if go then runBlock p { c with exitLevel := xlNone } k b.nlcls b.body else (ok, c, k)
  | none => (ok, c, k)

theorem runBegin_eq (p : Prog) (c : Ctx) (k : Cache) :
    runBegin p c k = runOpt p p.begin_ (c.exitLevel < xlGlobal) true c k := rfl

theorem runEnd_eq (p : Prog) (ok : Bool) (c : Ctx) (k : Cache) :
    runEnd p ok c k = runOpt p p.end_ (ok ∧ c.exitLevel < xlAbort) ok c k := rfl

/-- the frame `hawk_rtx_loop` runs the BEGIN and END blocks in -/
def loopFrame (c : Ctx) : Ctx := enterFrame (pushPrologue { c with exitLevel := xlNone }) c.stack.length 0

theorem loop_cases (p : Prog) (c : Ctx) :
    (∀ k, loop p c k = (({ c with exitLevel := xlNone } : Ctx).setErr .estack, k, none)) ∨
    (∀ k, loop p c k =
      let b := runOpt p p.begin_ ((loopFrame c).exitLevel < xlGlobal) true (loopFrame c) k
      let ok1 := b.1 || b.2.1.err == .enoerr
      let c3 := if ok1 ∧ p.end_.isSome ∧ b.2.1.exitLevel < xlGlobal then consumeInput b.2.1 else b.2.1
      let e := runOpt p p.end_ (ok1 ∧ c3.exitLevel < xlAbort) ok1 c3 b.2.2
      let f := finishLoop e.2.1 (e.1 || e.2.1.err == .enoerr)
      (f.1, e.2.2, f.2)) := by
  unfold loop
  by_cases h : ({ c with exitLevel := xlNone } : Ctx).avail < 4
  · exact .inl fun k => if_pos h
  · exact .inr fun k => by simp only [if_neg h, runBegin_eq, runEnd_eq]; rfl

theorem skel_loopFrame (c : Ctx) : (loopFrame c).skel = frameSkel c 0 0 :=
  skel_enterFrame { c with exitLevel := xlNone } (pushPrologue { c with exitLevel := xlNone }) 0 0
    (by simp)


/-- the skeleton without what the application holds, which `mkArgs`, `dropTmps` and `setHandle` change -/
def Ctx.core (c : Ctx) : List (Option Nat) × Nat × Nat × Nat := (c.stack.map Slot.skel, c.base, c.ng, c.offset)

theorem core_of_skel {c c' : Ctx} (h : c'.skel = c.skel) : c'.core = c.core := by
  have h1 := congrArg Skel.stack h
  have h2 := congrArg Skel.base h
  have h3 := congrArg Skel.ng h
  have h4 := congrArg Skel.offset h
  simp [Ctx.skel] at h1 h2 h3 h4
  simp [Ctx.core, h1, h2, h3, h4]

/-- a context at rest: only the globals on the stack, base 0, no call temporaries outstanding -/
structure Clean (c : Ctx) : Prop where
  stack : c.stack.map Slot.skel = List.replicate c.ng none
  base : c.base = 0
  tmps : c.tmps = []

theorem Clean.len {c : Ctx} (h : Clean c) : c.stack.length = c.ng := by
  simpa using congrArg List.length h.stack

theorem clean_of_core {c c' : Ctx} (h : c'.core = c.core) (ht : c'.tmps = []) (hc : Clean c) : Clean c' := by
  simp [Ctx.core] at h
  exact ⟨by rw [h.1, h.2.2.1]; exact hc.stack, by rw [h.2.1]; exact hc.base, ht⟩

theorem mkArgs_fields (c : Ctx) (as : List Arg) :
    (mkArgs c as).1.core = c.core ∧ (mkArgs c as).1.handles = c.handles ∧ (mkArgs c as).1.exitLevel = c.exitLevel := by
  induction as generalizing c with
  | nil => exact ⟨rfl, rfl, rfl⟩
  | cons a as ih =>
    cases a with
    | nil => exact ih c
    | hnd k => exact ih c
    | tmp s => simp only [mkArgs]; exact ih _

theorem dropTmps_fields (c : Ctx) (vs : List Val) :
    (dropTmps c vs).core = c.core ∧ (dropTmps c vs).tmps = [] ∧ (dropTmps c vs).handles = c.handles ∧
    (dropTmps c vs).exitLevel = c.exitLevel := by
  induction vs generalizing c with
  | nil => exact ⟨rfl, rfl, rfl, rfl⟩
  | cons v vs ih => exact ih (c.refdown v)

/-- the caller drops the result of an entry point, if there is one -/
def Ctx.dropRes (c : Ctx) : Option Val → Ctx
  | some v => c.refdown v
  | none => c

theorem dropRes_fields (c : Ctx) (r : Option Val) :
    (c.dropRes r).core = c.core ∧ (c.dropRes r).tmps = c.tmps ∧ (c.dropRes r).handles = c.handles ∧
    (c.dropRes r).exitLevel = c.exitLevel := by
  cases r <;> exact ⟨rfl, rfl, rfl, rfl⟩

/-- what both forms of `call` start with: the arguments made, the function called by name -/
def callArgs (p : Prog) (k : Cache) (c : Ctx) (fname : String) (as : List Arg) : Ctx × Cache × Option Val :=
  callByName p (mkArgs c as).1 k fname (mkArgs c as).2

theorem stepCtx_call_fst (p : Prog) (k : Cache) (c : Ctx) (fname : String) (args : List Arg) :
    (stepCtx p k c (.call fname args)).1 =
      dropTmps ((callArgs p k c fname args).1.dropRes (callArgs p k c fname args).2.2)
        ((callArgs p k c fname args).1.dropRes (callArgs p k c fname args).2.2).tmps := by
  simp only [stepCtx]
  rfl

theorem core_setHandle (c : Ctx) (k : Nat) (v : Val) : (setHandle c k v).core = c.core ∧ (setHandle c k v).tmps = c.tmps :=
  ⟨rfl, rfl⟩

theorem fresh_clean (p : Prog) (cid : Nat) : Clean (Ctx.fresh p cid) := by
  constructor <;> simp [Ctx.fresh, Slot.skel]

/-! ## nothing a context does or observes depends on the contents of the shared cache, and every entry point leaves it
    consistent -/

/-- every cached pointer is what a search of the function table returns for that call site's name -/
def Consistent (p : Prog) (k : Cache) : Prop :=
  ∀ s fid, k s = some fid → p.lookup (p.siteName s) = some fid

theorem consistent_empty (p : Prog) : Consistent p Cache.empty := by
  intro s fid h; simp [Cache.empty] at h

theorem resolve_snd {p : Prog} {k : Cache} (h : Consistent p k) (s : Nat) :
    (resolve p k s).2 = p.lookup (p.siteName s) := by
  unfold resolve
  cases hk : k s with
  | some fid => simp [h s fid hk]
  | none =>
    cases hl : p.lookup (p.siteName s) <;> simp

theorem resolve_consistent {p : Prog} {k : Cache} (h : Consistent p k) (s : Nat) :
    Consistent p (resolve p k s).1 := by
  unfold resolve
  cases hk : k s with
  | some fid => simpa using h
  | none =>
    cases hl : p.lookup (p.siteName s) with
    | none => simpa using h
    | some fid =>
      intro s' fid' h'
      simp only [Cache.set] at h'
      split at h'
      · next heq => cases h'; rw [heq]; exact hl
      · exact h s' fid' h'

theorem resolve_eq {p : Prog} {k k1 : Cache} {fid? : Option Nat} (hk : Consistent p k) {s : Nat}
    (h : resolve p k s = (k1, fid?)) : fid? = p.lookup (p.siteName s) ∧ Consistent p k1 := by
  have a := resolve_snd hk s
  have b := resolve_consistent hk s
  rw [h] at a b
  exact ⟨a, b⟩

theorem runBody_blind (p : Prog) (avail : Nat) (c : Ctx) (k k' : Cache) (body : List Action)
    (hk : Consistent p k) (hk' : Consistent p k') :
    (runBody p avail c k body).1 = (runBody p avail c k' body).1 ∧
    (runBody p avail c k body).2.1 = (runBody p avail c k' body).2.1 ∧
    Consistent p (runBody p avail c k body).2.2 ∧ Consistent p (runBody p avail c k' body).2.2 := by
  fun_induction runBody p avail c k body generalizing k' with
  | case1 avail c k => simp [runBody, hk, hk']
  | case2 avail c k a rest hx => rw [runBody.eq_def]; simp [hx, hk, hk']
  | case3 avail c k rest hx dst site args k1 fid? hres hfun =>
    -- a call (cases 3 to 9): on either cache the site resolves to the table's answer, so both runs take the same branch;
    -- the caches they go on with may differ, but both are consistent, which is all the induction hypotheses ask
    obtain ⟨rfl, h2⟩ := resolve_eq hk hres
    rcases hr' : resolve p k' site with ⟨k1', f'⟩
    obtain ⟨rfl, h2'⟩ := resolve_eq hk' hr'
    simp [runBody, hx, hfun, h2, h2', hr']
  | case4 avail c k rest hx dst site args k1 fid? hres f hfun hlt =>
    obtain ⟨rfl, h2⟩ := resolve_eq hk hres
    rcases hr' : resolve p k' site with ⟨k1', f'⟩
    obtain ⟨rfl, h2'⟩ := resolve_eq hk' hr'
    simp [runBody, hx, hfun, h2, h2', hlt, hr']
  | case5 avail c k rest hx dst site args k1 fid? hres f hfun hlt hst =>
    obtain ⟨rfl, h2⟩ := resolve_eq hk hres
    rcases hr' : resolve p k' site with ⟨k1', f'⟩
    obtain ⟨rfl, h2'⟩ := resolve_eq hk' hr'
    simp [runBody, hx, hfun, h2, h2', hlt, hst, hr']
  | case6 avail c k rest hx dst site args k1 fid? hres f hfun hlt hst c2 hl c4 hac =>
    obtain ⟨rfl, h2⟩ := resolve_eq hk hres
    rcases hr' : resolve p k' site with ⟨k1', f'⟩
    obtain ⟨rfl, h2'⟩ := resolve_eq hk' hr'
    simp [runBody, hx, hfun, h2, h2', hlt, hst, hl, c2, hac, hr']
  | case7 avail c k rest hx dst site args k1 fid? hres f hfun hlt hst c2 hl c5 hac ih =>
    obtain ⟨rfl, h2⟩ := resolve_eq hk hres
    rcases hr' : resolve p k' site with ⟨k1', f'⟩
    obtain ⟨rfl, h2'⟩ := resolve_eq hk' hr'
    have ih' := ih k1' h2 h2'
    simp [runBody, hx, hfun, hlt, hst, hl, c2, hac, hr']
    exact ih'
  | case8 avail c k rest hx dst site args k1 fid? hres f hfun hlt hst c2 hl ok c3 k2 hrun c4 hac ih =>
    obtain ⟨rfl, h2⟩ := resolve_eq hk hres
    rcases hr' : resolve p k' site with ⟨k1', f'⟩
    obtain ⟨rfl, h2'⟩ := resolve_eq hk' hr'
    have ih' := ih k1' h2 h2'
    have hc' := ih'.2.2.2
    rw [hrun] at ih'
    simp at ih'
    simp [runBody, hx, hfun, hlt, hst, hl, c2, ← ih'.1, ← ih'.2.1, hac, ih'.2.2.1, hr']
    exact hc'
  | case9 avail c k rest hx dst site args k1 fid? hres f hfun hlt hst c2 hl ok c3 k2 hrun c5 hac ih1 ih2 =>
    obtain ⟨rfl, h2⟩ := resolve_eq hk hres
    rcases hr' : resolve p k' site with ⟨k1', f'⟩
    obtain ⟨rfl, h2'⟩ := resolve_eq hk' hr'
    have ih' := ih1 k1' h2 h2'
    have hc' := ih'.2.2.2
    rw [hrun] at ih'
    simp at ih'
    simp [runBody, hx, hfun, hlt, hst, hl, c2, ← ih'.1, ← ih'.2.1, hac, hr']
    exact ih2 _ ih'.2.2.1 hc'
  | case10 avail c k rest hx a hna c1 hs ih =>
    have ih' := ih k' hk hk'
    cases a with
    | call dst site args => exact (hna dst site args rfl).elim
    | _ => simp [runBody, hx, hs]; exact ih'
  | case11 avail c k rest hx a hna c1 hs =>
    cases a with
    | call dst site args => exact (hna dst site args rfl).elim
    | _ => simp [runBody, hx, hs, hk, hk']

section CacheBlind
variable {p : Prog} {k k' : Cache}

theorem runBlock_blind (hk : Consistent p k) (hk' : Consistent p k') (c : Ctx) (nl : Nat) (body : List Action) :
    (runBlock p c k nl body).1 = (runBlock p c k' nl body).1 ∧
    (runBlock p c k nl body).2.1 = (runBlock p c k' nl body).2.1 ∧ Consistent p (runBlock p c k nl body).2.2 := by
  unfold runBlock
  split
  · exact ⟨rfl, rfl, hk⟩
  · have := runBody_blind p (c.avail - nl) (pushNils c nl) k k' body hk hk'
    simp only [this.1, this.2.1, this.2.2.1, and_self]

theorem callFun_blind (hk : Consistent p k) (hk' : Consistent p k') (c : Ctx) (f : Fun) (args : List Val) :
    (callFun p c k f args).1 = (callFun p c k' f args).1 ∧
    (callFun p c k f args).2.2 = (callFun p c k' f args).2.2 ∧ Consistent p (callFun p c k f args).2.1 := by
  rcases callFun_cases p c f args with ⟨e, h⟩ | ⟨_, h⟩ <;> rw [h k, h k']
  · exact ⟨rfl, rfl, hk⟩
  · have := runBlock_blind hk hk' (callFrame c f args) f.nlcls f.body
    simp only [this.1, this.2.1, this.2.2, and_self]

theorem callByName_blind (hk : Consistent p k) (hk' : Consistent p k') (c : Ctx) (name : String) (args : List Val) :
    (callByName p c k name args).1 = (callByName p c k' name args).1 ∧
    (callByName p c k name args).2.2 = (callByName p c k' name args).2.2 ∧
    Consistent p (callByName p c k name args).2.1 := by
  unfold callByName
  split
  · exact ⟨rfl, rfl, hk⟩
  · exact callFun_blind hk hk' c _ args

theorem runOpt_blind (hk : Consistent p k) (hk' : Consistent p k') (blk : Option Block) (go : Prop) [Decidable go]
    (ok : Bool) (c : Ctx) :
    (runOpt p blk go ok c k).1 = (runOpt p blk go ok c k').1 ∧
    (runOpt p blk go ok c k).2.1 = (runOpt p blk go ok c k').2.1 ∧ Consistent p (runOpt p blk go ok c k).2.2 := by
  unfold runOpt
  split
  · split
    · exact runBlock_blind hk hk' _ _ _
    · exact ⟨rfl, rfl, hk⟩
  · exact ⟨rfl, rfl, hk⟩

theorem loop_blind (hk : Consistent p k) (hk' : Consistent p k') (c : Ctx) :
    (loop p c k).1 = (loop p c k').1 ∧ (loop p c k).2.2 = (loop p c k').2.2 ∧ Consistent p (loop p c k).2.1 := by
  rcases loop_cases p c with h | h <;> rw [h k, h k']
  · exact ⟨rfl, rfl, hk⟩
  · -- END starts from the cache BEGIN left, on either side
    have hb := runOpt_blind hk hk' p.begin_ ((loopFrame c).exitLevel < xlGlobal) true (loopFrame c)
    have hb' := runOpt_blind hk' hk p.begin_ ((loopFrame c).exitLevel < xlGlobal) true (loopFrame c)
    simp only [hb.1, hb.2.1, runOpt_blind hb.2.2 hb'.2.2, and_self]

theorem stepCtx_blind (hk : Consistent p k) (hk' : Consistent p k') (c : Ctx) (op : Op) :
    (stepCtx p k c op).1 = (stepCtx p k' c op).1 ∧ (stepCtx p k c op).2.2 = (stepCtx p k' c op).2.2 ∧
    Consistent p (stepCtx p k c op).2.1 := by
  cases op with
  | call fname _ | calls fname _ =>
    simp only [stepCtx]
    generalize mkArgs c _ = r1
    obtain ⟨c1, vs⟩ := r1
    have h := callByName_blind hk hk' c1 fname vs
    generalize callByName p c1 k fname vs = a at h
    generalize callByName p c1 k' fname vs = b at h
    obtain ⟨ca, ka, ra⟩ := a
    obtain ⟨cb, kb, rb⟩ := b
    simp only at h
    obtain ⟨rfl, rfl, hc⟩ := h
    exact ⟨rfl, rfl, hc⟩
  | loop | exec =>
    simp only [stepCtx]
    have h := loop_blind hk hk' c
    generalize loop p c k = a at h
    generalize loop p c k' = b at h
    obtain ⟨ca, ka, ra⟩ := a
    obtain ⟨cb, kb, rb⟩ := b
    simp only at h
    obtain ⟨rfl, rfl, hc⟩ := h
    exact ⟨rfl, rfl, hc⟩
  | halt => exact ⟨rfl, rfl, hk⟩
  | _ => simp only [stepCtx]; split <;> exact ⟨rfl, rfl, hk⟩

end CacheBlind


def World.init (p : Prog) : World := { interp := ({} : Interp).parse p }

theorem parse_eq_init (w : World) (hclosed : ∀ cid, w.ctxs cid = none) (p : Prog) :
    ({ w with interp := w.interp.clear.parse p } : World) = World.init p := by
  have hc : w.ctxs = fun _ => none := funext hclosed
  cases w with
  | mk interp ctxs =>
    simp only at hc
    subst hc
    rfl

def obsOf (cid : Nat) (l : List (Nat × Obs)) : List Obs := (l.filter (fun x => x.1 == cid)).map (·.2)

/-- two worlds agree on the program and on context `cid`; their caches may differ but both are
    consistent with the program -/
structure SameCtx (cid : Nat) (w w' : World) : Prop where
  prog : w'.interp.prog = w.interp.prog
  k : Consistent w.interp.prog w.interp.cache
  k' : Consistent w.interp.prog w'.interp.cache
  ctx : w'.ctxs cid = w.ctxs cid

theorem step_tag (w : World) (o : WOp) : (w.step o).2.1 = o.cid := by
  cases o with
  | «open» c | close c | op c o => simp only [World.step]; split <;> rfl

theorem step_prog (w : World) (o : WOp) : (w.step o).1.interp.prog = w.interp.prog := by
  cases o with
  | «open» c | close c | op c o => simp only [World.step]; split <;> rfl

theorem step_consistent (w : World) (o : WOp) (h : Consistent w.interp.prog w.interp.cache) :
    Consistent w.interp.prog (w.step o).1.interp.cache := by
  cases o with
  | «open» c | close c => simp only [World.step]; split <;> exact h
  | op c o =>
    simp only [World.step]; split
    · exact h
    · next cx hcx => exact (stepCtx_blind h h cx o).2.2

theorem step_other (w : World) (o : WOp) (cid : Nat) (h : o.cid ≠ cid) : (w.step o).1.ctxs cid = w.ctxs cid := by
  cases o with
  | «open» c | close c | op c o =>
    simp only [World.step]; split
    · rfl
    · simp only [World.setCtx]; simp only [WOp.cid] at h; simp [Ne.symm h]

theorem step_same {cid : Nat} {w w' : World} (h : SameCtx cid w w') (o : WOp) (ho : o.cid = cid) :
    (w'.step o).2.2 = (w.step o).2.2 ∧ (w'.step o).1.ctxs cid = (w.step o).1.ctxs cid := by
  cases o with
  | «open» c =>
    simp only [WOp.cid] at ho; subst ho
    simp only [World.step, h.ctx]
    split
    · exact ⟨rfl, h.ctx⟩
    · simp [World.setCtx, h.prog]
  | close c =>
    simp only [WOp.cid] at ho; subst ho
    simp only [World.step, h.ctx]
    split
    · exact ⟨rfl, h.ctx⟩
    · simp [World.setCtx]
  | op c o =>
    simp only [WOp.cid] at ho; subst ho
    simp only [World.step, h.ctx]
    split
    · exact ⟨rfl, h.ctx⟩
    · next cx hcx =>
      have := stepCtx_blind (p := w.interp.prog) h.k' h.k cx o
      rw [h.prog]
      simp [World.setCtx, this.1, this.2.1]

theorem run_isolated (cid : Nat) (ops : List WOp) : ∀ (w w' : World), SameCtx cid w w' →
    obsOf cid (w.run ops).2 = obsOf cid (w'.run (ops.filter (fun o => o.cid == cid))).2 := by
  induction ops with
  | nil => intro w w' _; rfl
  | cons o os ih =>
    intro w w' h
    by_cases ho : o.cid = cid
    · have hs := step_same h o ho
      have hrel : SameCtx cid (w.step o).1 (w'.step o).1 :=
        ⟨by rw [step_prog, step_prog]; exact h.prog,
         by rw [step_prog]; exact step_consistent w o h.k,
         by rw [step_prog]
            have := step_consistent w' o (by rw [h.prog]; exact h.k')
            rw [h.prog] at this; exact this,
         hs.2⟩
      have := ih _ _ hrel
      simp only [List.filter_cons, ho, beq_self_eq_true, ↓reduceIte, World.run, obsOf, step_tag, hs.1]
      simp only [obsOf] at this
      simp [this]
    · have hrel : SameCtx cid (w.step o).1 w' :=
        ⟨by rw [step_prog]; exact h.prog,
         by rw [step_prog]; exact step_consistent w o h.k,
         by rw [step_prog]; exact h.k',
         by rw [step_other w o cid ho]; exact h.ctx⟩
      have := ih _ _ hrel
      have hne : (o.cid == cid) = false := by simp [ho]
      simp only [List.filter_cons, hne, World.run, obsOf, step_tag]
      simp only [obsOf] at this
      simp [this]

end Hawk.Ctx
