import HawkModel.OomRel
import HawkModel.OomLemmas
/-!
The second table language (`Ft`, OomRel.lean).  The check `wfFrom` carries the exact sets of held and freed
resources, so no symbolic state is needed: a run from sets that pass the check is `Balanced` if it fails
(`runFrom_spec`), and a run that succeeds had no failing hard step whatever the table (`ok_no_hard_failure`).
-/
namespace Hawk.Oom.Ft
open Hawk.Oom (nodupB nodupB_iff nodup_snoc)

/-- nothing leaks, nothing is released twice, nothing that is not held is released, and nothing that was already
    released on the main path is released again -/
def Balanced (o : Outcome) : Prop :=
  o.held.Nodup ∧ o.released.Perm o.held ∧ ∀ r, r ∈ o.freed → r ∉ o.released

theorem labelExact_spec (held rels : List Res) (h : labelExact held rels = true) :
    rels.Nodup ∧ ∀ r, r ∈ rels ↔ r ∈ held := by
  simp only [labelExact, Bool.and_eq_true, List.all_eq_true, List.contains_iff_mem] at h
  exact ⟨(nodupB_iff rels).mp h.1.1, fun r => ⟨fun hr => by simpa using h.1.2 r hr, fun hr => by simpa using h.2 r hr⟩⟩

theorem exit_released (t : Table) (held freed : List Res) (l : Nat) (h : labelOK t held l = true) :
    (exit t held freed l).released.Nodup ∧ ∀ r, r ∈ (exit t held freed l).released ↔ r ∈ held := by
  unfold labelOK at h
  split at h
  · rename_i rels hl
    simp only [exit, List.getD_eq_getElem?_getD, hl, Option.getD_some]
    exact labelExact_spec held rels h
  · simp at h

theorem exit_balanced (t : Table) (held freed : List Res) (l : Nat) (h : labelOK t held l = true)
    (hn : held.Nodup) (hd : ∀ r, r ∈ freed → r ∉ held) : Balanced (exit t held freed l) :=
  have ⟨hr, hm⟩ := exit_released t held freed l h
  ⟨hn, (List.perm_ext_iff_of_nodup hr hn).mpr hm, fun r hf hrel => hd r hf ((hm r).mp hrel)⟩

theorem runFrom_spec (t : Table) (fail : Nat → Bool) :
    ∀ (ops : List Op) (i : Nat) (held freed : List Res),
      wfFrom t ops held freed = true → held.Nodup → (∀ r, r ∈ freed → r ∉ held) →
      ((runFrom t fail ops i held freed).ok = false → Balanced (runFrom t fail ops i held freed)) ∧
      ((runFrom t fail ops i held freed).ok = true →
        (runFrom t fail ops i held freed).released = [] ∧ (runFrom t fail ops i held freed).held.Nodup ∧
        ∀ r, r ∈ (runFrom t fail ops i held freed).freed → r ∉ (runFrom t fail ops i held freed).held) := by
  intro ops
  induction ops with
  | nil =>
    intro i held freed _ hn hd
    exact ⟨nofun, fun _ => ⟨rfl, hn, hd⟩⟩
  | cons op rest ih =>
    intro i held freed hw hn hd
    cases op with
    | acq r l | acqp r l =>
      simp only [wfFrom, Bool.and_eq_true, Bool.not_eq_true', List.contains_eq_mem, decide_eq_false_iff_not] at hw
      obtain ⟨⟨⟨h1, h2⟩, hl⟩, hrest⟩ := hw
      have hn' : (held ++ [r]).Nodup := nodup_snoc hn h1
      have hd' : ∀ q, q ∈ freed → q ∉ held ++ [r] := by
        intro q hq
        simp only [List.mem_append, List.mem_singleton, not_or]
        exact ⟨hd q hq, fun e => h2 (e ▸ hq)⟩
      simp only [runFrom]
      split
      -- `hl` says which set the failure exit releases: `held` for `acq`, `held ++ [r]` for `acqp`
      · exact ⟨fun _ => exit_balanced t _ freed l hl (by assumption) (by assumption), nofun⟩
      · exact ih (i + 1) (held ++ [r]) freed hrest hn' hd'
    | guard l =>
      simp only [wfFrom, Bool.and_eq_true] at hw
      simp only [runFrom]
      split
      · exact ⟨fun _ => exit_balanced t held freed l hw.1 hn hd, nofun⟩
      · exact ih (i + 1) held freed hw.2 hn hd
    | rel r =>
      simp only [wfFrom, Bool.and_eq_true, List.contains_eq_mem, decide_eq_true_eq] at hw
      obtain ⟨_, hrest⟩ := hw
      simp only [runFrom]
      refine ih (i + 1) (held.erase r) (freed ++ [r]) hrest (hn.erase r) ?_
      intro q hq
      simp only [List.mem_append, List.mem_singleton] at hq
      rw [hn.mem_erase_iff]
      rcases hq with hq | hq
      · intro h; exact hd q hq h.2
      · intro h; exact h.1 hq

theorem ok_no_hard_failure (t : Table) (fail : Nat → Bool) :
    ∀ (ops : List Op) (i : Nat) (held freed : List Res),
      (runFrom t fail ops i held freed).ok = true →
      ∀ j op, ops[j]? = some op → op.hard = true → fail (j + i) = false := by
  intro ops
  induction ops with
  | nil => intro i held freed _ j op hj; simp at hj
  | cons o rest ih =>
    intro i held freed hk j op hj hh
    have step : (o.hard = true → fail i = false) ∧
        ∃ held' freed', (runFrom t fail rest (i + 1) held' freed').ok = true := by
      cases o with
      | rel r => exact ⟨fun h => by simp [Op.hard] at h, _, _, hk⟩
      | acq r l | guard l | acqp r l =>
        cases hf : fail i with
        | true =>
          simp only [runFrom, hf, if_true] at hk
          exact nomatch hk
        | false =>
          simp only [runFrom, hf, Bool.false_eq_true, if_false] at hk
          exact ⟨fun _ => rfl, _, _, hk⟩
    obtain ⟨h0, held', freed', hk'⟩ := step
    cases j with
    | zero =>
      obtain rfl : o = op := by simpa using hj
      rw [Nat.zero_add]
      exact h0 hh
    | succ j =>
      rw [Nat.add_right_comm]
      exact ih (i + 1) held' freed' hk' j op (by simpa using hj) hh

end Hawk.Oom.Ft
