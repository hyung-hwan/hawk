import HawkModel.Crash
/-!
  For each guard model of `Crash`, the fact about all operands that makes the guarded operation safe: the machine
  division is defined exactly on the `Safe` operand pairs, the evaluators and the folder test for the others first, and
  the extracted criterion `guardsOk` implies `Safe`; likewise for the IGNORECASE stores, the substr / index / match
  regions, the tagged words, the call frame and the exponent loop.
-/
namespace Hawk.Crash

theorem machMod_some {n d : Int} (h : Safe n d) : machMod n d = some (Int.tmod n d) := by
  simp [machMod, h.1, h.2]

theorem machDiv_some {n d : Int} (h : Safe n d) : machDiv n d = some (Int.tdiv n d) := by
  simp [machDiv, h.1, h.2]

theorem machDiv_isSome_iff (n d : Int) : (machDiv n d).isSome ↔ Safe n d := by
  unfold machDiv Safe
  by_cases h0 : d = 0 <;> by_cases h1 : n = INT_MIN ∧ d = -1 <;> simp [h0, h1]

theorem machMod_isSome_iff (n d : Int) : (machMod n d).isSome ↔ Safe n d := by
  unfold machMod Safe
  by_cases h0 : d = 0 <;> by_cases h1 : n = INT_MIN ∧ d = -1 <;> simp [h0, h1]

theorem evalDiv_ne_trap (l1 l2 : Int) : evalDiv l1 l2 ≠ .trap := by
  unfold evalDiv
  by_cases h0 : l2 = 0
  · simp [h0]
  · by_cases h1 : l1 = INT_MIN ∧ l2 = -1
    · simp [h1]
    · simp only [h0, h1, if_false, machMod_some ⟨h0, h1⟩, machDiv_some ⟨h0, h1⟩]
      split <;> simp

theorem evalIdiv_ne_trap (l1 l2 : Int) : evalIdiv l1 l2 ≠ .trap := by
  by_cases h0 : l2 = 0 <;> by_cases h1 : l2 = -1 <;> simp [evalIdiv, machDiv, h0, h1]

theorem evalMod_ne_trap (l1 l2 : Int) : evalMod l1 l2 ≠ .trap := by
  by_cases h0 : l2 = 0 <;> by_cases h1 : l2 = -1 <;> simp [evalMod, machMod, h0, h1]

theorem foldDiv_eq_evalDiv (l r : Int) : foldDiv l r = evalDiv l r := by
  unfold foldDiv evalDiv
  -- the folder tests the remainder with `≠` and has the two arms the other way round
  simp only [ne_eq, ite_not]

open Hawk.Gen.DivSites

theorem factNonzero_sound {n d : Int} {f : Fact} (hs : factNonzero f = true) (hh : factHolds n d f = true) : d ≠ 0 := by
  unfold factNonzero at hs
  unfold factHolds at hh
  by_cases hp : f.pol = true
  · simp only [hp, if_true, List.any_eq_true, List.all_eq_true] at hs hh
    obtain ⟨a, ha, hk⟩ := hs
    have := hh a ha
    cases a <;> simp [atomHolds] at this hk <;> omega
  · simp only [hp, Bool.false_eq_true, if_false, beq_iff_eq] at hs hh
    rw [hs] at hh
    simpa [atomHolds] using hh

theorem factNoOverflow_sound {n d : Int} {f : Fact} (hs : factNoOverflow f = true) (hh : factHolds n d f = true) :
    ¬(n = INT_MIN ∧ d = -1) := by
  unfold factNoOverflow at hs
  unfold factHolds at hh
  by_cases hp : f.pol = true
  · simp only [hp, if_true, List.any_eq_true, List.all_eq_true] at hs hh
    obtain ⟨a, ha, hk⟩ := hs
    have := hh a ha
    cases a <;> simp [atomHolds] at this hk <;> omega
  · simp only [hp, Bool.false_eq_true, if_false, Bool.or_eq_true, beq_iff_eq] at hs hh
    rcases hs with ((hs | hs) | hs) | hs <;> rw [hs] at hh <;> simp [atomHolds] at hh <;> omega

theorem guardsOk_sound {n d : Int} {fs : List Fact} (hg : guardsOk fs = true)
    (hh : ∀ f ∈ fs, factHolds n d f = true) : Safe n d := by
  unfold guardsOk at hg
  rw [Bool.and_eq_true, List.any_eq_true, List.any_eq_true] at hg
  obtain ⟨⟨f1, hf1, h1⟩, ⟨f2, hf2, h2⟩⟩ := hg
  exact ⟨factNonzero_sound h1 (hh f1 hf1), factNoOverflow_sound h2 (hh f2 hf2)⟩

open Hawk.Gen.FlagSites in
/-- all values a store of the given shape can write -/
def storedValues : Shape → List Int
  | .zero => [0]
  | .intNe0 => [0, 1]
  | .fltNe0 => [0, 1]
  | .intSign => [-1, 0, 1]
  | .fltSign => [-1, 0, 1]

open Hawk.Gen.FlagSites in
theorem storeValue_mem (s : Shape) (v : Num) : storeValue s v ∈ storedValues s := by
  cases s <;> cases v <;> simp only [storeValue, storedValues] <;> repeat' split
  all_goals decide

instance (i : Int) (len : Nat) : Decidable (IndexOk i len) := by unfold IndexOk; exact inferInstance

theorem wrap_inRange (x : Int) : InRange (wrap x) := by
  unfold wrap InRange INT_MIN INT_MAX TWO64
  omega

theorem wrap_id {x : Int} (h : InRange x) : wrap x = x := by
  unfold wrap InRange INT_MIN INT_MAX TWO64 at *
  omega

theorem toS_inRange (u : Nat) : InRange (toS u) := wrap_inRange _

theorem toU_of_pos {x : Int} (h : InRange x) (hp : 0 < x) : toU x = x.toNat := by
  unfold toU InRange INT_MIN INT_MAX TWO64 at *
  have : x % 18446744073709551616 = x := by omega
  rw [this]

/-- the two clamps of `hawk_fnc_substr` on variables: the offset into `[0, n]`, then the count into `[0, n - offset]` -/
theorem clamp_bounds {n i c : Int} (hn : 0 ≤ n) (hc : 0 ≤ c) :
    let i2 := if i < 0 then 0 else i
    let i3 := if i2 ≥ n then n else i2
    let c3 := if c > n - i3 then n - i3 else c
    0 ≤ i3 ∧ 0 ≤ c3 ∧ i3 + c3 ≤ n := by
  intro i2 i3 c3
  have h2 : 0 ≤ i2 := by simp only [i2]; split <;> omega
  have h3 : 0 ≤ i3 ∧ i3 ≤ n := by simp only [i3]; split <;> omega
  simp only [c3]
  split <;> omega

theorem substrRegion_bounds (len : Nat) (lindex : Int) (lcount : Option Int) :
    0 ≤ (substrRegion len lindex lcount).1 ∧ 0 ≤ (substrRegion len lindex lcount).2 ∧
    (substrRegion len lindex lcount).1 + (substrRegion len lindex lcount).2 ≤ Int.ofNat len := by
  refine clamp_bounds (Int.natCast_nonneg len) ?_
  cases lcount with
  | none => decide
  | some c => simp only []; split <;> omega

theorem matchStart_inRange (len0 : Nat) (start : Int) (hs : InRange start) : InRange (matchStart len0 start) := by
  unfold matchStart
  split
  · unfold InRange INT_MIN INT_MAX; omega
  · split
    · exact toS_inRange _
    · exact hs

/-- with a third argument, `index_or_rindex` adjusts the boundary as `__fnc_match` adjusts its start -/
theorem indexBoundary_inRange (len0 : Nat) (b : Option Int) (rindex : Bool)
    (hb : ∀ x, b = some x → InRange x) : InRange (indexBoundary len0 b rindex) := by
  cases b with
  | none =>
    simp only [indexBoundary]
    split
    · exact toS_inRange _
    · unfold InRange INT_MIN INT_MAX; omega
  | some x => exact matchStart_inRange len0 x (hb x rfl)

theorem indexRegion_bounds (len0 : Nat) (b : Option Int) (rindex : Bool)
    (hb : ∀ x, b = some x → InRange x) :
    ∀ off n, indexRegion len0 b rindex = some (off, n) → off + n ≤ len0 := by
  intro off n h
  unfold indexRegion at h
  have hr := indexBoundary_inRange len0 b rindex hb
  generalize indexBoundary len0 b rindex = b1 at h hr
  simp only [] at h
  split at h
  · cases h
  · have hu := toU_of_pos hr (by omega)
    cases rindex <;> simp at h <;> omega

theorem matchRegion_bounds (len0 : Nat) (start : Int) :
    ∀ off n, matchRegion len0 start = some (off, n) → off + n ≤ len0 := by
  intro off n h
  unfold matchRegion at h
  generalize matchStart len0 start = s1 at h
  simp only [Int.ofNat_eq_natCast] at h
  by_cases hc : s1 > (len0 : Int) + 1 ∨ s1 ≤ 0
  · simp [hc] at h
  · simp only [hc, if_false, Option.some.injEq, Prod.mk.injEq] at h
    omega

namespace Vtr
theorem typeBits_of_mod4 (w r : Nat) (hr : r < 3) (h : w % 4 = r) : typeBits w = r := by
  unfold typeBits
  split <;> omega

theorem typeBits_encodeInt (i : Int) : typeBits (encodeInt i) = 1 := by
  apply typeBits_of_mod4 _ 1 (by omega)
  unfold encodeInt SIGN
  split <;> omega

theorem typeBits_encodeChar (c : Nat) : typeBits (encodeChar c) = 2 := by
  apply typeBits_of_mod4 _ 2 (by omega)
  unfold encodeChar; omega

theorem typeBits_encodeBchr (b : Nat) : typeBits (encodeBchr b) = 3 := by
  unfold typeBits encodeBchr
  split <;> omega

theorem typeBits_aligned (w : Nat) (h : w % 4 = 0) : typeBits w = 0 :=
  typeBits_of_mod4 w 0 (by omega) h

theorem decode_encode (i : Int) (h : -INTMAX ≤ i ∧ i ≤ INTMAX) : decodeInt (encodeInt i) = i := by
  -- a non-negative payload stays below the sign bit
  have hS : 4 * INTMAX + 1 < (SIGN : Int) := by decide
  unfold decodeInt encodeInt
  simp only [Int.ofNat_eq_natCast]
  by_cases hi : i ≥ 0
  · rw [if_pos hi, if_neg (by omega)]; omega
  · rw [if_neg hi, if_pos (by omega)]; omega
end Vtr

/-- the padding for omitted parameters is reserved under the condition under which it is pushed -/
theorem evalcallPushes_eq_reserve (funN callN : Nat) : evalcallPushes funN callN = evalcallReserve funN callN := by
  unfold evalcallPushes evalcallReserve
  split <;> omega

theorem powLoop_iters (v b e : Nat) : ∀ k, e < 2 ^ k → (powLoop v b e).2 ≤ k := by
  fun_induction powLoop v b e with
  | case1 v b => intro k _; exact Nat.zero_le k
  | case2 v b e he v' r ih =>
    intro k h
    cases k with
    | zero => omega
    | succ k => exact Nat.succ_le_succ (ih k (by rw [Nat.pow_succ] at h; omega))

theorem powLoop_val (v b e : Nat) : (powLoop v b e).1 % M64 = (v * b ^ e) % M64 := by
  fun_induction powLoop v b e with
  | case1 v b => simp
  | case2 v b e he v' r ih =>
    have hsplit : b ^ e = (b * b) ^ (e / 2) * b ^ (e % 2) := by
      rw [← Nat.pow_two, ← Nat.pow_mul, ← Nat.pow_add, Nat.div_add_mod]
    show r.1 % M64 = _
    rw [ih, hsplit, Nat.mul_mod, ← Nat.pow_mod, ← Nat.mul_mod]
    by_cases ho : e % 2 = 1
    · simp only [v', ho, dite_true, Nat.pow_one]
      rw [Nat.mod_mul_mod, Nat.mul_comm ((b * b) ^ (e / 2)) b, Nat.mul_assoc]
    · have h0 : e % 2 = 0 := by omega
      simp only [v', h0, Nat.zero_ne_one, dite_false, Nat.pow_zero, Nat.mul_one]

end Hawk.Crash
