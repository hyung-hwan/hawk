import HawkModel.Depth
/-!
  Graph half of `Depth`: where plain calls go up in the node numbering a stack can only be as long as its cut frames let
  it fall back (`chain_span`), and the machine keeps every counter equal to the number of frames of its class and within
  its limit (`Inv`), so the cut frames are at most the sum of the limits.
  Counter half: a request list passes all its checks iff its peak per counter is within the limit.
-/
namespace Hawk.Depth

theorem orderedCheck_sound {n : Nat} {es : List Edge} (h : orderedCheck n es = true) : Ordered n es := by
  intro e he
  have := (List.all_eq_true.mp h) e he
  simp only [Bool.and_eq_true, Bool.or_eq_true, decide_eq_true_eq] at this
  exact ⟨this.1.1, this.1.2, fun hc => this.2.resolve_left fun h1 => h1 hc⟩

theorem chain_tail {e : Edge} {s : List Edge} (h : Chain (e :: s)) : Chain s := by
  cases s with
  | nil => trivial
  | cons f r => exact h.2

theorem chain_cons_top {root : Nat} {e : Edge} {s : List Edge} (hc : Chain s) (h : e.src = top root s) :
    Chain (e :: s) := by
  cases s with
  | nil => trivial
  | cons f r => exact ⟨h, hc⟩

/-- source of the oldest call on the stack -/
def bottom (root : Nat) : List Edge → Nat
  | [] => root
  | [e] => e.src
  | _ :: f :: r => bottom root (f :: r)

/-- from the oldest caller to the running function a stack climbs one node per frame, except that each cut frame may
    fall by less than `n`: a plain call goes up by at least one node, a cut call stays inside `0 .. n - 1` -/
theorem chain_span {n : Nat} {es : List Edge} (hO : Ordered n es) (root : Nat) :
    ∀ s : List Edge, Chain s → (∀ e ∈ s, e ∈ es) → bottom root s + s.length ≤ cutCount s * n + top root s
  | [], _, _ => by simp [bottom, top, cutCount]
  | e :: r, hc, hm => by
    have ih := chain_span hO root r (chain_tail hc) (fun x hx => hm x (List.mem_cons_of_mem _ hx))
    have he : e.src + 1 ≤ (if e.cls = 0 then 0 else 1) * n + e.dst := by
      have := hO e (hm e (List.mem_cons_self ..))
      split
      · have := this.2.2 ‹_›
        omega
      · omega
    cases r with
    | nil => exact he
    | cons f r =>
      have hsrc : e.src = f.dst := hc.1
      simp only [bottom, top, cutCount, List.length_cons, Nat.add_mul] at ih ⊢
      omega

theorem cutCount_plain : ∀ s : List Edge, (∀ e ∈ s, e.cls = 0) → cutCount s = 0
  | [], _ => rfl
  | e :: r, h => by
    rw [cutCount, if_pos (h e (List.mem_cons_self ..)), cutCount_plain r fun x hx => h x (List.mem_cons_of_mem _ hx)]

theorem chain_len_bound {n : Nat} {es : List Edge} (hO : Ordered n es) (s : List Edge) (hc : Chain s)
    (hm : ∀ e ∈ s, e ∈ es) : s.length ≤ (cutCount s + 1) * n := by
  have h1 := chain_span hO 0 s hc hm
  rw [Nat.add_mul, Nat.one_mul]
  cases s with
  | nil => exact Nat.zero_le _
  | cons e r =>
    have : top 0 (e :: r) < n := (hO e (hm e (List.mem_cons_self ..))).2.1
    omega

theorem plain_chain_increasing {n : Nat} {es : List Edge} (hO : Ordered n es) (s : List Edge) (hne : s ≠ [])
    (hc : Chain s) (hm : ∀ e ∈ s, e ∈ es ∧ e.cls = 0) : bottom 0 s < top 0 s := by
  have h1 := chain_span hO 0 s hc fun e he => (hm e he).1
  rw [cutCount_plain s fun e he => (hm e he).2, Nat.zero_mul, Nat.zero_add] at h1
  have := List.length_pos_iff.2 hne
  omega

structure Inv (g : Graph) (s : St) : Prop where
  chain : Chain s.stack
  mem : ∀ e ∈ s.stack, e ∈ g.edges
  ctr : ∀ c, 2 ≤ c → s.ctr c = clsCount c s.stack
  lim : ∀ c, 2 ≤ c → clsCount c s.stack ≤ g.limit c

theorem inv_init (g : Graph) : Inv g St.init :=
  ⟨trivial, fun _ h => (nomatch h), fun _ _ => rfl, fun _ _ => Nat.zero_le _⟩

/-- for a cut class `c`, `step` moves counter `c` on exactly the frames that `clsCount c` counts -/
theorem step_ctr_cond {c cls : Nat} (hc : 2 ≤ c) : (c = cls ∧ 2 ≤ cls) ↔ cls = c :=
  ⟨fun h => h.1.symm, fun h => ⟨h.symm, h ▸ hc⟩⟩

theorem inv_step {g : Graph} {root : Nat} {s s' : St} {o : Op} (hi : Inv g s) (h : step g root s o = some s') :
    Inv g s' := by
  obtain ⟨stack, ctr⟩ := s
  obtain ⟨hchain, hmem, hctr, hlim⟩ := hi
  dsimp only at hchain hmem hctr hlim
  cases o with
  | call e =>
    simp only [step] at h
    split at h
    · rename_i hcond
      obtain ⟨hedge, hsrc, hguard⟩ := hcond
      cases h
      refine ⟨chain_cons_top hchain hsrc, List.forall_mem_cons.2 ⟨hedge, hmem⟩, ?_, ?_⟩
      all_goals
        intro c hc
        have h1 := hctr c hc
        have h2 := hlim c hc
        simp only [clsCount, step_ctr_cond hc]
        split
        · subst c
          omega
        · omega
    · cases h
  | ret =>
    cases stack with
    | nil => cases h
    | cons e r =>
      cases h
      refine ⟨chain_tail hchain, fun x hx => hmem x (List.mem_cons_of_mem _ hx), ?_, ?_⟩
      all_goals
        intro c hc
        have h1 := hctr c hc
        have h2 := hlim c hc
        simp only [clsCount, step_ctr_cond hc] at h1 h2 ⊢
      · by_cases hce : e.cls = c
        · rw [if_pos hce] at h1 ⊢; omega
        · rw [if_neg hce] at h1 ⊢; omega
      · omega

theorem inv_run {g : Graph} {root : Nat} : ∀ (ops : List Op) (s s' : St), Inv g s → run g root s ops = some s' → Inv g s'
  | [], _, _, hi, h => Option.some.inj h ▸ hi
  | o :: os, s, s', hi, h => by
    simp only [run] at h
    split at h
    · cases h
    · exact inv_run os _ s' (inv_step hi ‹_›) h

theorem sumLimits_mono {f g : Nat → Nat} (h : ∀ c, 2 ≤ c → f c ≤ g c) : ∀ K, sumLimits f K ≤ sumLimits g K
  | 0 => Nat.le_refl 0
  | k + 1 => Nat.add_le_add (sumLimits_mono h k) (h (k + 2) (Nat.le_add_left 2 k))

theorem sumLimits_zero : ∀ K, sumLimits (fun _ => 0) K = 0
  | 0 => rfl
  | k + 1 => by rw [sumLimits, sumLimits_zero k]

theorem sumLimits_clsCount_cons (e : Edge) (r : List Edge) (K : Nat) :
    sumLimits (fun c => clsCount c (e :: r)) K =
      (if 2 ≤ e.cls ∧ e.cls < K + 2 then 1 else 0) + sumLimits (fun c => clsCount c r) K := by
  induction K with
  | zero => rw [if_neg (by omega)]; rfl
  | succ k ih =>
    simp only [sumLimits, ih]
    simp only [clsCount]
    split <;> split <;> split <;> omega

theorem cutCount_eq_sumLimits (K : Nat) (s : List Edge) (h : ∀ e ∈ s, e.cls ≠ 1 ∧ e.cls < K + 2) :
    cutCount s = sumLimits (fun c => clsCount c s) K := by
  induction s with
  | nil => exact (sumLimits_zero K).symm
  | cons e r ih =>
    have he := h e (List.mem_cons_self ..)
    rw [sumLimits_clsCount_cons, cutCount, ih (fun x hx => h x (List.mem_cons_of_mem _ hx))]
    split <;> split <;> omega

/-- well-formedness of a cut graph: certificate + no residual edge + classes in range -/
structure Graph.Good (g : Graph) : Prop where
  ordered : Ordered g.nNodes g.edges
  classes : ∀ e ∈ g.edges, e.cls ≠ 1 ∧ e.cls < g.nClasses + 2

theorem stack_bounded {g : Graph} (hg : g.Good) {root : Nat} {ops : List Op} {s : St}
    (h : run g root St.init ops = some s) :
    s.stack.length ≤ (sumLimits g.limit g.nClasses + 1) * g.nNodes := by
  have hi := inv_run ops St.init s (inv_init g) h
  have h2 := cutCount_eq_sumLimits g.nClasses s.stack (fun e he => hg.classes e (hi.mem e he))
  have h3 := sumLimits_mono hi.lim g.nClasses
  exact Nat.le_trans (chain_len_bound hg.ordered s.stack hi.chain hi.mem) (Nat.mul_le_mul_right _ (by omega))

theorem mem_dropResidual {es : List Edge} {e : Edge} (h : e ∈ dropResidual es) : e ∈ es ∧ e.cls ≠ 1 := by
  simpa only [dropResidual, List.mem_filter, bne_iff_ne, ne_eq] using h

theorem cycEdge_link (w : List Nat) (c k : Nat) : (cycEdge w c (k + 1)).src = (cycEdge w c k).dst := by
  simp only [cycEdge, Edge.src, Edge.dst]
  rw [Nat.mod_add_mod]

theorem spin_chain (w : List Nat) (c : Nat) : ∀ k, Chain (spin w c k)
  | 0 => trivial
  | 1 => trivial
  | k + 2 => ⟨cycEdge_link w c k, spin_chain w c (k + 1)⟩

theorem spin_length (w : List Nat) (c : Nat) : ∀ k, (spin w c k).length = k
  | 0 => rfl
  | k + 1 => congrArg (· + 1) (spin_length w c k)

theorem cycEdge_mem {es : List Edge} {c : Nat} {w : List Nat} (h : closedWalkCheck es c w = true) (i : Nat) :
    cycEdge w c i ∈ es := by
  simp only [closedWalkCheck, Bool.and_eq_true, Bool.not_eq_true', List.isEmpty_eq_false_iff, List.all_eq_true,
    List.mem_range, List.contains_iff_mem] at h
  exact h.2 (i % w.length) (Nat.mod_lt _ (List.length_pos_iff.2 h.1))

theorem spin_mem {es : List Edge} {c : Nat} {w : List Nat} (h : closedWalkCheck es c w = true) :
    ∀ k, ∀ e ∈ spin w c k, e ∈ es ∧ e.cls = c
  | 0, _, he => nomatch he
  | k + 1, e, he => by
    rcases List.mem_cons.1 he with rfl | he
    · exact ⟨cycEdge_mem h k, rfl⟩
    · exact spin_mem h k e he

theorem guardOk_iff (limit c : Nat) : guardOk limit c = true ↔ limit = 0 ∨ c < limit := by
  simp only [guardOk, Bool.not_eq_true', Bool.and_eq_false_iff, decide_eq_false_iff_not]
  omega

theorem descend_iff (limit n c : Nat) : descend limit n c = true ↔ n = 0 ∨ limit = 0 ∨ c + n ≤ limit := by
  fun_induction descend limit n c with
  | case1 => simp
  | case2 n c ih =>
    simp only [Bool.and_eq_true, guardOk_iff, ih]
    omega

theorem stackOk_iff (limit top req : Nat) (h : top ≤ limit) : stackOk limit top req = true ↔ top + req ≤ limit := by
  simp only [stackOk, Bool.not_eq_true', decide_eq_false_iff_not]
  omega

theorem effStack_ge (l : Limits) : stackMin ≤ effStack l := by
  have h : ∀ s : Nat, stackMin ≤ (if s < stackMin then stackMin else s) := by
    intro s; split <;> omega
  exact h _

/-- entering level `lv` is checked with the counter at `lv - 1` -/
theorem guardOk_level (limit lv : Nat) : (lv = 0 || guardOk limit (lv - 1)) = true ↔ limit = 0 ∨ lv ≤ limit := by
  simp only [Bool.or_eq_true, decide_eq_true_eq, guardOk_iff]
  omega

theorem Req.ok_iff (l : Limits) (r : Req) : r.ok l = true ↔ within l r.kind r.level := by
  obtain ⟨k, lv⟩ := r
  cases k
  case stack => exact decide_eq_true_iff
  all_goals exact guardOk_level (l.of _) lv

theorem verdict_ok_iff (l : Limits) (rs : List Req) : verdict l rs = .ok ↔ ∀ r ∈ rs, r.ok l = true := by
  fun_induction verdict l rs with
  | case1 => simp
  | case2 r rs h ih => simp only [List.forall_mem_cons, ih, h, true_and]
  | case3 r rs h => simp [h]

theorem verdict_err {l : Limits} {k : Kind} (rs : List Req) (h : verdict l rs = .err k) :
    ∃ r ∈ rs, r.kind = k ∧ r.ok l = false := by
  fun_induction verdict l rs with
  | case1 => cases h
  | case2 r rs hr ih =>
    obtain ⟨x, hx, hk⟩ := ih h
    exact ⟨x, List.mem_cons_of_mem _ hx, hk⟩
  | case3 r rs hr => exact ⟨r, List.mem_cons_self .., Verdict.err.inj h, Bool.eq_false_iff.2 hr⟩

theorem verdict_append (l : Limits) (a b : List Req) :
    verdict l (a ++ b) = match verdict l a with | .ok => verdict l b | .err k => .err k := by
  fun_induction verdict l a with
  | case1 => rfl
  | case2 r a h ih => rw [List.cons_append, verdict, if_pos h, ih]
  | case3 r a h => rw [List.cons_append, verdict, if_neg h]

theorem verdict_skip (l : Limits) (x y : List Req) (hx : verdict l x = .ok) : verdict l (x ++ y) = verdict l y := by
  rw [verdict_append, hx]

theorem verdict_ok_left (l : Limits) (x y : List Req) (h : verdict l (x ++ y) = .ok) : verdict l x = .ok :=
  (verdict_ok_iff l x).2 fun r hr => (verdict_ok_iff l _).1 h r (List.mem_append_left y hr)

theorem verdict_cut (l : Limits) (p x y : List Req) (h : verdict l (p ++ x) = .ok) :
    verdict l (p ++ x ++ y) = verdict l (p ++ y) := by
  rw [verdict_skip l _ y h, verdict_skip l p y (verdict_ok_left l p x h)]

theorem within_mono {l : Limits} {k : Kind} {a b : Nat} (hab : a ≤ b) (h : within l k b) : within l k a := by
  cases k
  case stack => exact Nat.le_trans hab h
  all_goals exact h.imp id (Nat.le_trans hab)

theorem within_max {l : Limits} {k : Kind} {a b : Nat} : within l k (max a b) ↔ within l k a ∧ within l k b := by
  constructor
  · intro h; exact ⟨within_mono (Nat.le_max_left ..) h, within_mono (Nat.le_max_right ..) h⟩
  · intro ⟨ha, hb⟩
    rcases Nat.le_total a b with h | h
    · rw [Nat.max_eq_right h]; exact hb
    · rw [Nat.max_eq_left h]; exact ha

theorem within_zero (l : Limits) (k : Kind) : within l k 0 := by
  cases k <;> simp [within]

theorem within_peak (l : Limits) (k : Kind) (rs : List Req) :
    within l k (peak k rs) ↔ ∀ r ∈ rs, r.kind = k → within l k r.level := by
  fun_induction peak k rs with
  | case1 => simp [within_zero]
  | case2 r rs h ih => simp only [List.forall_mem_cons, within_max, ih, h, forall_const]
  | case3 r rs h ih => simp only [List.forall_mem_cons, ih, h, false_imp_iff, true_and]

theorem verdict_ok_iff_peak (l : Limits) (rs : List Req) :
    verdict l rs = .ok ↔ ∀ k, within l k (peak k rs) := by
  simp only [verdict_ok_iff, Req.ok_iff, within_peak]
  exact ⟨fun h k r hr hk => hk ▸ h r hr, fun h r hr => h r.kind r hr rfl⟩

theorem verdict_err_peak {l : Limits} {k : Kind} {rs : List Req} (h : verdict l rs = .err k) :
    ¬ within l k (peak k rs) := by
  obtain ⟨r, hr, hk, ho⟩ := verdict_err rs h
  intro hw
  have := (within_peak l k rs).mp hw r hr hk
  rw [← hk, ← Req.ok_iff, ho] at this
  cases this

theorem peak_append (k : Kind) (a b : List Req) : peak k (a ++ b) = max (peak k a) (peak k b) := by
  fun_induction peak k a with
  | case1 => exact (Nat.zero_max _).symm
  | case2 r a h ih => rw [List.cons_append, peak, if_pos h, ih, Nat.max_assoc]
  | case3 r a h ih => rw [List.cons_append, peak, if_neg h, ih]

theorem peak_ramp (k k' : Kind) (a n : Nat) : peak k' (ramp k a n) = if k = k' ∧ 0 < n then a + n else 0 := by
  fun_induction ramp k a n with
  | case1 a => simp [peak]
  | case2 a n ih =>
    simp only [peak, ih]
    by_cases h : k = k'
    · simp [h]
      split <;> omega
    · simp [h]

/-- every ramp of the request tables starts at level 1 -/
theorem peak_ramp_zero (k k' : Kind) (n : Nat) : peak k' (ramp k 0 n) = if k = k' then n else 0 := by
  rw [peak_ramp]
  by_cases h : k = k'
  · simp [h]
    omega
  · simp [h]

/-- the plain recursion is the padded one with the 5-slot frame of a one-argument call -/
theorem recurFrom_eq_padFrom : ∀ more j, recurFrom more j = padFrom 5 stackBase more j
  | 0, _ => rfl
  | more + 1, j => by rw [recurFrom, padFrom, recurFrom_eq_padFrom more]

theorem peak_padFrom (frame base : Nat) (k : Kind) (more j : Nat) : peak k (padFrom frame base more j) =
    match k with
    | .stack => base + frame * (j + more) + frame
    | .blockRun => j + more + 3
    | .exprRun => 2 * (j + more) + 4
    | _ => 0 := by
  induction more generalizing j with
  | zero => cases k <;> simp only [padFrom, peak, reduceCtorEq, ↓reduceIte, Nat.add_zero, Nat.max_zero] <;> omega
  | succ m ih => cases k <;> simp only [padFrom, peak, peak_append, ih, reduceCtorEq, ↓reduceIte, Nat.mul_add] <;> omega

theorem peak_callFrom (k : Kind) (more i : Nat) : peak k (callFrom more (i + 1)) =
    match k with
    | .stack => if more = 0 then 0 else stackBase + 4 * (i + more) + 1
    | .exprRun => if more = 0 then 0 else i + more + 1
    | _ => 0 := by
  induction more generalizing i with
  | zero => cases k <;> rfl
  | succ m ih =>
    cases k <;>
      simp only [callFrom, peak, peak_append, ih, reduceCtorEq, ↓reduceIte, Nat.add_one_ne_zero, Nat.max_zero] <;>
      split <;> omega

/-- The table `peakOf` cell by cell: `peak` is pushed through the pieces of the request list of the family, which
    leaves maxima of numerals and of the closed forms above.  (`omega` is slow on nested `max`; only the entry of
    `callFrom`, an `if`, is left to it.) -/
theorem peak_requests (f : Family) (k : Kind) (n : Nat) : peak k (requests f n) = peakOf f k n := by
  cases f <;> dsimp only [requests, parseReqs, runReqs] <;> cases k <;> dsimp only [peakOf] <;>
    simp only [peak, peak_append, peak_ramp_zero, recurFrom_eq_padFrom, peak_padFrom, peak_callFrom, reduceCtorEq, ↓reduceIte,
      Nat.max_zero, Nat.zero_max, Nat.zero_add, Nat.max_eq_right, Nat.max_eq_left, Nat.reduceLeDiff, Nat.le_add_left]
  case call.exprRun => split <;> omega

theorem verdict_requests_ok_iff (l : Limits) (f : Family) (n : Nat) :
    verdict l (requests f n) = .ok ↔ ∀ k, within l k (peakOf f k n) := by
  simp only [verdict_ok_iff_peak, peak_requests]

theorem outcome_stopped_iff (l : Limits) (f : Family) (n : Nat) (k : Kind) :
    outcome l f n = .stopped k ↔ verdict l (requests f n) = .err k := by
  unfold outcome
  cases verdict l (requests f n) <;> simp

theorem max_le_max_left (a : Nat) {b c : Nat} (h : b ≤ c) : max a b ≤ max a c :=
  Nat.max_le.2 ⟨Nat.le_max_left .., Nat.le_trans h (Nat.le_max_right ..)⟩

theorem peakOf_mono (f : Family) (k : Kind) {m n : Nat} (h : m ≤ n) : peakOf f k m ≤ peakOf f k n := by
  cases f with
  | recurPad a p c =>
    have hm := Nat.mul_le_mul_left (4 + a + p) h
    cases k <;> dsimp only [peakOf] <;> omega
  | call =>
    cases k <;> dsimp only [peakOf]
    case stack => split <;> split <;> omega
    all_goals omega
  -- a two-phase family has a constant or a maximum whose first argument is the first phase (`omega` is slow on `max`)
  | exitRec d | exitBlk d =>
    cases k <;> dsimp only [peakOf] <;> first | exact Nat.le_refl _ | exact max_le_max_left _ (by omega)
  | _ => cases k <;> dsimp only [peakOf] <;> omega

end Hawk.Depth
