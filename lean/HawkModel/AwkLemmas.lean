import HawkModel.CoreLemmas
import HawkModel.Awk
/-!
What `Awk/Value.lean` writes by hand is the standard library's: the decimal printer and reader are `Nat.toDigits 10` and
`Nat.ofDigitChars 10 · 0`, the comparisons `compare` and `List.compareLex`, so one direction of the numeral round trip
and the order laws are the library's; the other direction is `natDigits_foldl`.  Each primitive of the evaluator returns
the given state with a few named fields replaced, and its lemma says which.
-/
namespace Hawk.Awk

theorem digitVal_digitChar : ∀ d : Fin 10, digitVal (digitChar d.val) = d.val := by decide
theorem digitChar_eq : ∀ d : Fin 10, digitChar d.val = Nat.digitChar d.val := by decide

theorem digitChar_digitVal (c : Char) (h : c.isDigit = true) : digitChar (digitVal c) = c := by
  have hb := Char.toNat_of_isDigit h
  unfold digitChar digitVal
  have : 48 + (c.toNat - 48) = c.toNat := by omega
  rw [this, Char.ofNat_toNat]

theorem digitVal_lt (c : Char) (h : c.isDigit = true) : digitVal c < 10 := by
  have hb := Char.toNat_of_isDigit h
  unfold digitVal; omega

theorem isDigit_not_special (c : Char) (h : c.isDigit = true) :
    c ≠ '-' ∧ c ≠ '+' ∧ isBlank c = false := by
  have hb := Char.toNat_of_isDigit h
  have hne : ∀ d : Char, d.toNat < 48 → c ≠ d := fun d hd e => by subst e; omega
  refine ⟨hne '-' (by decide), hne '+' (by decide), ?_⟩
  simp [isBlank, hne ' ' (by decide), hne '\t' (by decide), hne '\n' (by decide)]

theorem lookup_setAssoc_eq {β} (x k : String) (c : β) (l : List (String × β)) :
    (setAssoc x c l).lookup k = if k == x then some c else l.lookup k := by
  induction l with
  | nil => cases h : k == x <;> simp [setAssoc, List.lookup_cons, h]
  | cons a t ih =>
    obtain ⟨k', b⟩ := a
    rw [setAssoc]
    by_cases hk' : k' = x
    · subst hk'
      cases h : k == k' <;> simp [List.lookup_cons, h]
    · rw [if_neg (by simpa using hk'), List.lookup_cons, List.lookup_cons, ih]
      cases h : k == k' with
      | false => rfl
      | true =>
        have := eq_of_beq h
        subst this
        simp [hk']

theorem natDigitsAux_eq (n : Nat) (acc : List Char) : natDigitsAux n acc = Nat.toDigits 10 n ++ acc := by
  induction n using Nat.strongRecOn generalizing acc with
  | _ n ih =>
    rw [natDigitsAux, Nat.toDigits_eq_if (by decide)]
    by_cases h : n < 10
    · rw [if_pos h, if_pos h, digitChar_eq ⟨n, h⟩]
      rfl
    · rw [if_neg h, if_neg h, ih _ (by omega), digitChar_eq ⟨n % 10, by omega⟩, List.append_assoc]
      rfl

theorem natDigits_eq (n : Nat) : natDigits n = Nat.toDigits 10 n :=
  (natDigitsAux_eq n []).trans (List.append_nil _)

theorem parseNat_eq (l : List Char) : parseNat l = Nat.ofDigitChars 10 l 0 := by
  unfold parseNat Nat.ofDigitChars
  congr 1
  funext a c
  rw [Nat.mul_comm]
  rfl

theorem natDigits_lt10 (n : Nat) (h : n < 10) : natDigits n = [digitChar n] := by
  rw [natDigits_eq, Nat.toDigits_of_lt_base h, digitChar_eq ⟨n, h⟩]

theorem parseNat_append (l : List Char) (c : Char) : parseNat (l ++ [c]) = parseNat l * 10 + digitVal c := by
  simp [parseNat, List.foldl_append]

theorem parseNat_natDigits (n : Nat) : parseNat (natDigits n) = n := by
  rw [parseNat_eq, natDigits_eq]
  exact Nat.ofDigitChars_ten_toDigits

theorem natDigits_all_digit (n : Nat) : ∀ c ∈ natDigits n, c.isDigit = true := by
  rw [natDigits_eq]
  exact fun c => Nat.isDigit_of_mem_toDigits (by decide) (by decide)

theorem natDigits_ne_nil (n : Nat) : natDigits n ≠ [] := by
  rw [natDigits_eq]
  exact Nat.toDigits_ne_nil

theorem natDigits_head (n : Nat) : (natDigits n).head? = some '0' → n = 0 := by
  rw [natDigits_eq]
  exact (Nat.head?_toDigits_eq_zero_iff 10 (by decide) n).mp

/-- the fold is `parseNat` continued from `a`; from `0 < a` no leading zero can arise, so the printer undoes the reader -/
theorem natDigits_foldl (l : List Char) (hd : ∀ c ∈ l, c.isDigit = true) (a : Nat) (ha : 0 < a) :
    natDigits (l.foldl (fun a c => a * 10 + digitVal c) a) = natDigits a ++ l := by
  induction l generalizing a with
  | nil => exact (List.append_nil _).symm
  | cons c t ih =>
    have hc := hd c List.mem_cons_self
    have hv := digitVal_lt c hc
    rw [List.foldl_cons, ih (fun d h => hd d (List.mem_cons_of_mem _ h)) _ (by omega), natDigits_eq, Nat.mul_comm,
      ← Nat.toDigits_append_toDigits (by decide) ha hv, Nat.toDigits_of_lt_base hv, ← digitChar_eq ⟨_, hv⟩,
      digitChar_digitVal c hc, ← natDigits_eq, List.append_assoc]
    rfl

/-- canonical decimal natural: exactly the texts `natDigits` prints (`natDigits_canon`, `natDigits_parseNat`) -/
def CanonNat (l : List Char) : Prop :=
  l ≠ [] ∧ (∀ c ∈ l, c.isDigit = true) ∧ (l.head? = some '0' → l = ['0'])

/-- canonical decimal integer: no `+`, and `t ≠ ['0']` excludes `-0`, which `intDigits` never prints -/
def CanonInt (l : List Char) : Prop :=
  CanonNat l ∨ ∃ t, l = '-' :: t ∧ CanonNat t ∧ t ≠ ['0']

theorem natDigits_canon (n : Nat) : CanonNat (natDigits n) := by
  refine ⟨natDigits_ne_nil n, natDigits_all_digit n, ?_⟩
  intro h
  have := natDigits_head n h
  subst this
  rw [natDigits_lt10 0 (by omega)]
  rfl

theorem natDigits_parseNat (l : List Char) (h : CanonNat l) : natDigits (parseNat l) = l := by
  obtain ⟨hne, hd, hz⟩ := h
  cases l with
  | nil => exact absurd rfl hne
  | cons c t =>
    have hc := hd c List.mem_cons_self
    have hv := digitVal_lt c hc
    unfold parseNat
    rw [List.foldl_cons, Nat.zero_mul, Nat.zero_add]
    by_cases h0 : digitVal c = 0
    · -- the leading digit is '0': the numeral is "0"
      have hc0 : c = '0' := by rw [← digitChar_digitVal c hc, h0]; rfl
      obtain ⟨-, rfl⟩ := List.cons.inj (hz (by rw [hc0]; rfl))
      rw [List.foldl_nil, natDigits_lt10 _ hv, digitChar_digitVal c hc]
    · rw [natDigits_foldl t (fun d h => hd d (List.mem_cons_of_mem _ h)) _ (Nat.pos_of_ne_zero h0),
        natDigits_lt10 _ hv, digitChar_digitVal c hc]
      rfl

theorem scanBad_cons_nil (c : Char) (t : List Char) :
    scanBad (c :: t) [] = (c == '0' && !t.isEmpty) := by
  by_cases hc : c = '0'
  · subst hc; cases t <;> rfl
  · cases t <;> simp [scanBad, hc]

theorem scanBad_canon (ds : List Char) (h : CanonNat ds) : scanBad ds [] = false := by
  obtain ⟨hne, _, hz⟩ := h
  cases ds with
  | nil => exact absurd rfl hne
  | cons c t =>
    rw [scanBad_cons_nil]
    by_cases hc : c = '0'
    · have ht : t = [] := (List.cons.inj (hz (by rw [hc]; rfl))).2
      rw [ht, List.isEmpty_nil]; exact Bool.and_false _
    · simp [hc]

theorem scanNum_signed {l t : List Char} {neg : Bool} (h : CanonNat t) (hbl : l.dropWhile isBlank = l)
    (hsg : splitSign l = (neg, t)) (hds : doubleSign l = false) :
    scanNum l = some { value := if neg then -((parseNat t : Nat) : Int) else (parseNat t : Nat), rest := [],
                       hadDigits := true } := by
  unfold scanNum
  have hw := List.takeWhile_dropWhile_append (t := []) h.2.1 nofun
  rw [List.append_nil] at hw
  simp only [hbl, hsg, hw.1, hw.2, scanBad_canon t h, hds]
  simp [h.1]

theorem scanNum_canonNat (l : List Char) (h : CanonNat l) :
    scanNum l = some { value := (parseNat l : Nat), rest := [], hadDigits := true } := by
  obtain ⟨hne, hd, hz⟩ := h
  cases l with
  | nil => exact absurd rfl hne
  | cons c t =>
    obtain ⟨hm, hp, hb⟩ := isDigit_not_special c (hd c (by simp))
    refine scanNum_signed (neg := false) ⟨hne, hd, hz⟩ (by rw [List.dropWhile_cons]; simp [hb]) ?_ ?_
    · unfold splitSign
      split
      · next heq => simp at heq; exact absurd heq.1 hm
      · next heq => simp at heq; exact absurd heq.1 hp
      · rfl
    · cases t with
      | nil => rfl
      | cons c2 t2 => simp [doubleSign, hm, hp]

theorem scanNum_neg_canonNat (t : List Char) (h : CanonNat t) :
    scanNum ('-' :: t) = some { value := -((parseNat t : Nat) : Int), rest := [], hadDigits := true } := by
  refine scanNum_signed (neg := true) h (by rw [List.dropWhile_cons]; simp [show isBlank '-' = false by decide]) rfl ?_
  cases t with
  | nil => rfl
  | cons c2 t2 =>
    obtain ⟨hm, hp, _⟩ := isDigit_not_special c2 (h.2.1 c2 (by simp))
    simp [doubleSign, hm, hp]

theorem scanNum_intDigits (i : Int) :
    scanNum (intDigits i) = some { value := i, rest := [], hadDigits := true } := by
  cases i with
  | ofNat n => rw [intDigits, scanNum_canonNat _ (natDigits_canon n), parseNat_natDigits]; rfl
  | negSucc n => rw [intDigits, scanNum_neg_canonNat _ (natDigits_canon (n + 1)), parseNat_natDigits]; rfl

theorem strToNum_intToStr (i : Int) : strToNum (intToStr i) = some i := by
  rw [strToNum, intToStr, String.toList_ofList, scanNum_intDigits]; rfl

theorem intDigits_surj {l : List Char} (h : CanonInt l) : ∃ i, intDigits i = l := by
  rcases h with h | ⟨t, rfl, hc, h0⟩
  · exact ⟨.ofNat (parseNat l), natDigits_parseNat l h⟩
  · have ht := natDigits_parseNat t hc
    cases hm : parseNat t with
    | zero =>
      rw [hm, natDigits_lt10 0 (by decide)] at ht
      exact absurd ht.symm h0
    | succ m => exact ⟨.negSucc m, by rw [intDigits, ← hm, ht]⟩

theorem cmpInt_eq (x y : Int) : cmpInt x y = compare x y := (Int.compare_eq_ite_lt x y).symm

theorem cmpChars_eq (a b : List Char) : cmpChars a b = List.compareLex (compareOn Char.toNat) a b := by
  fun_induction cmpChars a b with
  | case1 => rfl
  | case2 => rfl
  | case3 => rfl
  | case4 a as b bs h => rw [List.compareLex_cons_cons, compareOn, Nat.compare_eq_ite_lt, if_pos h]; rfl
  | case5 a as b bs h h' => rw [List.compareLex_cons_cons, compareOn, Nat.compare_eq_ite_lt, if_neg h, if_pos h']; rfl
  | case6 a as b bs h h' ih =>
    rw [List.compareLex_cons_cons, compareOn, Nat.compare_eq_ite_lt, if_neg h, if_neg h', ih]; rfl

theorem rangeStepM_of_pure {m : Type → Type} [Monad m] [LawfulMonad m] (o b e : Bool) :
    rangeStepM (m := m) o (pure b) (pure e) = pure (rangeStep o b e) := by
  cases o <;> cases b <;> simp [rangeStepM, rangeStep]

/-- in the interpreter's monad the patterns need not be `pure`: it is enough that they leave the state they are run on
as it is -/
theorem rangeStepM_ok {B E : M Bool} {s : St} {bv ev : Bool} (o : Bool) (hb : B s = .ok bv s) (he : E s = .ok ev s) :
    rangeStepM o B E s = .ok (rangeStep o bv ev) s := by
  cases o <;> cases bv <;> simp [rangeStepM, rangeStep, bind, M.bind, pure, M.pure, hb, he]

/-- a read hands back the given state with another reader table -/
def FileRead.ReadersOnly (s : St) : FileRead → Prop
  | .got _ s1 => ∃ rd, s1 = { s with readers := rd }
  | .eof s1 => ∃ rd, s1 = { s with readers := rd }
  | _ => True

theorem openReader_readersOnly {key content : String} {s : St} {fr : FileRead}
    (h : openReader key content s = fr) : fr.ReadersOnly s := by
  subst h
  unfold openReader
  split <;> exact ⟨_, rfl⟩

theorem readFile_readersOnly {name : String} {s : St} {fr : FileRead} (h : readFile name s = fr) :
    fr.ReadersOnly s := by
  subst h
  unfold readFile
  split
  · exact ⟨s.readers, rfl⟩
  · exact ⟨_, rfl⟩
  · split
    · exact openReader_readersOnly rfl
    · split
      · trivial
      · split
        · trivial
        · exact openReader_readersOnly rfl

theorem readCmd_readersOnly {cmd : String} {s : St} {fr : FileRead} (h : readCmd cmd s = fr) :
    fr.ReadersOnly s := by
  subst h
  unfold readCmd
  split
  · exact ⟨s.readers, rfl⟩
  · exact ⟨_, rfl⟩
  · split
    · trivial
    · exact openReader_readersOnly rfl
    · split
      · exact openReader_readersOnly rfl
      · split
        · trivial
        · split
          · trivial
          · exact openReader_readersOnly rfl

/-- no `var=value` operand is pending -/
def C02.filesOnly (pending : List Pend) : Prop := ∀ p ∈ pending, p.isFile = true

/-- The fields a read of the main input moves are named through `s'` itself, so the statement needs no witnesses;
rewriting with it reads off any other field of `s'`. -/
theorem readMain_files {pending : List Pend} (hp : C02.filesOnly pending) {isOpen : Bool} {s s' : St}
    {o : Option String} (h : readMain pending isOpen s = (o, s')) :
    s' = { s with pending := s'.pending, headOpen := s'.headOpen, filename := s'.filename, fnr := s'.fnr,
                  nr := if o.isSome then s.nr + 1 else s.nr } ∧
    (o.isSome → s'.fnr = s.fnr + 1 ∨ s'.fnr = 1) := by
  fun_induction readMain pending isOpen s with
  | case1 => cases h; exact ⟨rfl, nofun⟩
  | case2 x v rest _ s ih => exact absurd (hp (.assign x v) (List.mem_cons_self ..)) Bool.false_ne_true
  | case3 name rest isOpen s s1 ih =>
    -- an exhausted file: the reader moves on; a file opened on the way restarts FNR at 0
    obtain ⟨hs, hf⟩ := ih (fun q hq => hp q (List.mem_cons_of_mem _ hq)) h
    cases isOpen
    · exact ⟨hs, fun ho => Or.inr ((hf ho).elim id id)⟩
    · exact ⟨hs, hf⟩
  | case4 name rest isOpen s r rs s1 =>
    cases isOpen <;> cases h
    · exact ⟨rfl, fun _ => Or.inr rfl⟩
    · exact ⟨rfl, fun _ => Or.inl rfl⟩

theorem emitStream_ok {ap : Bool} {key name text : String} {s s' : St}
    (h : emitStream ap key name text s = .ok () s') :
    s' = { s with
      openOuts := if s.openOuts.contains key then s.openOuts else key :: s.openOuts,
      outFiles := setAssoc name
        ((if s.openOuts.contains key || ap then (s.outFiles.lookup name).getD "" else "") ++ text) s.outFiles } := by
  -- `split at h` is slow on a state of this size; the branches are taken one at a time
  unfold emitStream at h
  by_cases h1 : (!validOutName name) = true
  · rw [if_pos h1] at h; cases h
  by_cases h2 : (s.fsys.any fun f => f.name == name) = true
  · rw [if_neg h1, if_pos h2] at h; cases h
  rw [if_neg h1, if_neg h2] at h
  by_cases ho : s.openOuts.contains key = true
  · rw [if_pos ho] at h
    cases h
    rw [ho]; rfl
  by_cases h3 : s.openOuts.any (writesTo name) = true
  · rw [if_neg ho, if_pos h3] at h; cases h
  by_cases h4 : (s.readers.any fun kr => readsFrom name kr.1) = true
  · rw [if_neg ho, if_neg h3, if_pos h4] at h; cases h
  rw [if_neg ho, if_neg h3, if_neg h4] at h
  rw [Bool.not_eq_true] at ho
  rw [ho]
  cases ap
  · cases h; simp only [Bool.false_or, Bool.false_eq_true, if_false, String.empty_append]
  · cases h; rfl

/-- every command shape of the profile (`cat > NAME`, `cat NAME`, `echo WORDS`) begins with a prefix that contains a blank -/
theorem not_command_of_no_blank {n : String} (h : ¬ ' ' ∈ n.toList) : pipeTarget n = none ∧ cmdSource n = none := by
  have hpre : ∀ pre : List Char, ' ' ∈ pre → pre.isPrefixOf n.toList = false := fun pre hm =>
    Bool.eq_false_iff.mpr fun hp => h ((List.isPrefixOf_iff_prefix.mp hp).subset hm)
  constructor
  · unfold pipeTarget
    simp only [hpre "cat > ".toList (by decide), Bool.false_eq_true, if_false]
  · unfold cmdSource
    simp only [hpre "cat ".toList (by decide), hpre "echo ".toList (by decide), Bool.false_eq_true, if_false]

end Hawk.Awk
