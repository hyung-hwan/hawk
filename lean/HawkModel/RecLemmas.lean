import HawkModel.CoreLemmas
import HawkModel.Rec
/-! Two ways of making a record.  A split cuts the fields out of the text: the tokenisers stay inside the buffer and move
    forward (`TokOK`, `StepOK`), so the fields are in-order pieces of it (`splitLoop_spec`); each FS mode has its law.  A
    rebuild makes the text from the fields: `$i = s` and `NF = n` are functions on the field texts (`recompTexts`, `resize`)
    followed by the same join-and-lay-out (`rebuilt`), so `Coherent` and what `$j` reads are proved once, for `rebuilt`. -/
namespace Hawk.Rec

def texts (r : Rec) : List Str := r.flds.map Fld.text

/-- the pieces of the whole-record split of `s` under the globals `e` (FS, STRIPRECSPC,
    IGNORECASE) -/
def splitTextsE (m : Matcher) (e : Env) (s : Str) : List Str :=
  texts (splitRecord m e { line := s })

/-- ... when FS is the string `fs`, STRIPRECSPC is `strip` and IGNORECASE is off -/
def splitTexts (m : Matcher) (fs : Str) (strip : Bool) (s : Str) : List Str :=
  splitTextsE m { fs := some fs, strip := strip } s

/-- how the record text was produced last (ghost state, not part of the model) -/
inductive Built where
  | init                               -- no record yet
  | split (e : Env)                    -- whole-record assignment, split under these globals
  | joined (ofs : Str)                 -- rebuilt from the fields with this separator

/-- spans laid out one after the other from offset `o`, `ol` characters apart -/
def Laid (ol : Nat) : Nat → List Fld → Prop
  | _, [] => True
  | o, f :: fs => f.off = o ∧ Laid ol (o + f.len + ol) fs

/-- the record, its fields, the spans and NF agree -/
structure Coherent (m : Matcher) (st : St) (b : Built) : Prop where
  /-- NF is the number of fields -/
  nf_eq : st.r.nf = st.r.flds.length
  /-- every span covers exactly the text of its field's value, in the buffer it points into -/
  spans : ∀ f ∈ st.r.flds, spanText st.r.buf f = f.text ∧ f.len = f.text.length
  /-- the value of `$0` is the record text -/
  d0_eq : st.r.d0 = st.r.line
  /-- text and fields are related as the split or join that made the text last (`b`) left them -/
  built : match b with
    | .init => st.r.line = [] ∧ st.r.flds = []
    | .split e => texts st.r = splitTextsE m e st.r.line
    | .joined ofs => st.r.line = ofs.intercalate (texts st.r) ∧ st.r.inw = false ∧
        Laid ofs.length 0 st.r.flds

/-- every span covers the text of its field's value (the second part of `Coherent`) -/
def SpansOK (r : Rec) : Prop := ∀ f ∈ r.flds, spanText r.buf f = f.text ∧ f.len = f.text.length

theorem slice_append_left (pre t rest : Str) :
    slice (pre ++ t ++ rest) pre.length t.length = t := by
  simp [slice, List.append_assoc]

theorem length_slice (b : Str) (off len : Nat) (h : off + len ≤ b.length) :
    (slice b off len).length = len := by
  simp [slice]; omega

theorem slice_eq_of_take_eq {a b : Str} {k off len : Nat} (h : a.take k = b.take k)
    (hk : off + len ≤ k) : slice a off len = slice b off len := by
  have e : ∀ l : Str, slice l off len = slice (l.take k) off len := by
    intro l
    simp only [slice, List.drop_take, List.take_take]
    congr 1; omega
  rw [e a, e b, h]

theorem joinSep_cons_cons (sep t u : Str) (ts : List Str) :
    joinSep sep (t :: u :: ts) = t ++ sep ++ joinSep sep (u :: ts) := rfl

theorem joinSep_eq_intercalate (sep : Str) (ts : List Str) :
    joinSep sep ts = sep.intercalate ts := by
  induction ts with
  | nil => simp [joinSep, List.intercalate]
  | cons t ts ih =>
    cases ts with
    | nil => simp [joinSep, List.intercalate]
    | cons u us =>
      rw [joinSep_cons_cons, ih]
      simp [List.intercalate, List.intersperse, List.append_assoc]

/-! ## the tokenisers stay inside the buffer and make progress -/

/-- what split_record relies on from a tokeniser called at `p` on a buffer of length `n` -/
structure TokOK (n p : Nat) (t : Tok) : Prop where
  le_off : p ≤ t.off
  end_le : t.off + t.len ≤ n
  next_ge : ∀ p', t.next = some p' → t.off + t.len ≤ p'
  next_gt : ∀ p', t.next = some p' → p < p' ∧ p' ≤ n

theorem TokOK.of_parts {n p off len : Nat} {next : Option Nat} (h1 : p ≤ off) (h2 : off + len ≤ n)
    (h3 : ∀ p', next = some p' → off + len ≤ p' ∧ p < p' ∧ p' ≤ n) :
    TokOK n p { off := off, len := len, next := next } :=
  ⟨h1, h2, fun p' h => (h3 p' h).1, fun p' h => (h3 p' h).2⟩

theorem TokOK.mono {n p q : Nat} {t : Tok} (h : TokOK n q t) (hpq : p ≤ q) : TokOK n p t :=
  ⟨Nat.le_trans hpq h.le_off, h.end_le, h.next_ge,
    fun p' hp' => ⟨Nat.lt_of_le_of_lt hpq (h.next_gt p' hp').1, (h.next_gt p' hp').2⟩⟩

theorem of_ite_none_eq_none {c : Prop} [Decidable c] {a : Nat} (h : (if c then none else some a) = none) : c :=
  Decidable.byContradiction fun hc => nomatch ite_eq_left_iff.mp h hc

theorem length_takeWhile_add_dropWhile (q : Char → Bool) (s : Str) :
    (s.takeWhile q).length + (s.dropWhile q).length = s.length := by
  rw [← List.length_append, List.takeWhile_append_dropWhile]

theorem dropWhile_nil_or_head (q : Char → Bool) (l : Str) :
    l.dropWhile q = [] ∨ ∃ y r, l.dropWhile q = y :: r ∧ q y = false := by
  cases h : l.dropWhile q with
  | nil => exact Or.inl rfl
  | cons y r =>
    exact Or.inr ⟨y, r, rfl, List.head?_dropWhile_eq_some (congrArg List.head? h)⟩

theorem word_ne_nil {s : Str} (h : s.dropWhile isSpace ≠ []) :
    (s.dropWhile isSpace).takeWhile (fun c => !isSpace c) ≠ [] := by
  obtain ⟨y, r, e, hy⟩ := (dropWhile_nil_or_head isSpace s).resolve_left h
  rw [e]
  simp [List.takeWhile, hy]

theorem add_length_drop {line : Str} {p : Nat} (hp : p ≤ line.length) :
    p + (line.drop p).length = line.length := by
  rw [List.length_drop]; exact Nat.add_sub_cancel' hp

theorem tokBlank_ok (line : Str) (p : Nat) (hp : p ≤ line.length) :
    TokOK line.length p (tokBlank line p) := by
  have hs := add_length_drop hp
  unfold tokBlank
  dsimp only
  generalize line.drop p = s at hs
  have h1 := length_takeWhile_add_dropWhile isSpace s
  have h2 := length_takeWhile_add_dropWhile (fun c => !isSpace c) (s.dropWhile isSpace)
  have h3 := List.length_dropWhile_le isSpace ((s.dropWhile isSpace).dropWhile (fun c => !isSpace c))
  rw [Nat.sub_eq_of_eq_add h1.symm]
  refine .of_parts (Nat.le_add_right ..) (by omega) fun p' h => ?_
  obtain ⟨hne, hp'⟩ := Option.ite_none_left_eq_some.mp h
  cases hp'
  -- progress: a rest that is not used up holds a word
  have hw := List.length_pos_iff.mpr (word_ne_nil (s := s) fun he => hne (by rw [he]; rfl))
  omega

theorem tokCharP_ok (q : Char → Bool) (line : Str) (p : Nat) (hp : p ≤ line.length) :
    TokOK line.length p (tokCharP q line p) := by
  have hs := add_length_drop hp
  unfold tokCharP
  dsimp only
  generalize line.drop p = s at hs
  have h1 := List.length_takeWhile_le q s
  refine .of_parts (Nat.le_refl _) (by omega) fun p' h => ?_
  obtain ⟨hlt, hp'⟩ := Option.ite_none_left_eq_some.mp h
  cases hp'
  omega

theorem tokEach_ok (line : Str) (p : Nat) (hp : p ≤ line.length) :
    TokOK line.length p (tokEach line p) := by
  have hs := add_length_drop hp
  unfold tokEach
  generalize line.drop p = s at hs
  cases s with
  | nil => exact .of_parts (Nat.le_refl _) hp (fun p' h => nomatch h)
  | cons c r =>
    rw [List.length_cons] at hs
    refine .of_parts (Nat.le_refl _) (by omega) fun p' h => ?_
    obtain ⟨hne, hp'⟩ := Option.ite_none_left_eq_some.mp h
    cases hp'
    have : r.length ≠ 0 := fun h0 => hne (by rw [List.length_eq_zero_iff.mp h0]; rfl)
    omega

/-- every match the regex oracle reports lies inside the text, at or after the search start -/
def SaneOn (mt : Str → Nat → Option (Nat × Nat)) : Prop :=
  ∀ line start ms ml, mt line start = some (ms, ml) → start ≤ ms ∧ ms + ml ≤ line.length

def Sane (m : Matcher) : Prop := ∀ ic fs, SaneOn (m ic fs)

theorem rexScan_ok (mt : Str → Nat → Option (Nat × Nat)) (hm : SaneOn mt) (strip : Bool)
    (line : Str) (sub cur real : Nat) (h1 : sub ≤ real) (h2 : real ≤ cur) (h3 : cur ≤ line.length) :
    match rexScan mt strip line sub cur real with
    | .whole r => sub ≤ r ∧ r ≤ line.length
    | .found r ms ml => sub ≤ r ∧ r ≤ ms ∧ ms + ml ≤ line.length ∧ 0 < ml := by
  fun_induction rexScan mt strip line sub cur real with
  | case1 cur real hlt hnone | case7 cur real hge => exact ⟨h1, Nat.le_trans h2 h3⟩
  | case2 cur real hlt ms hsome ih => exact ih h1 (Nat.le_succ_of_le h2) hlt
  | case3 cur real hlt ml hz hstrip hsome hall ih =>
    have := hm _ _ _ _ hsome
    exact ih (Nat.le_add_right ..) (by omega) (by omega)
  | case4 cur real hlt ml hz hstrip hsome hall =>
    have := hm _ _ _ _ hsome
    exact ⟨h1, by omega, this.2, Nat.pos_of_ne_zero hz⟩
  | case5 cur real hlt ms ml hsome hz hstrip hms | case6 cur real hlt ms ml hsome hz hstrip =>
    have := hm _ _ _ _ hsome
    exact ⟨h1, Nat.le_trans h2 this.1, this.2, Nat.pos_of_ne_zero hz⟩

theorem tokRex_ok (mt : Str → Nat → Option (Nat × Nat)) (hm : SaneOn mt) (strip : Bool)
    (line : Str) (p : Nat) (hp : p ≤ line.length) :
    TokOK line.length p (tokRex mt strip line p) := by
  have h := rexScan_ok mt hm strip line p p p (Nat.le_refl _) (Nat.le_refl _) hp
  unfold tokRex
  generalize rexScan mt strip line p p p = sc at h
  cases sc with
  | whole real =>
    obtain ⟨a, b⟩ := h
    exact .of_parts a (by omega) (fun p' h' => nomatch h')
  | found real ms ml =>
    obtain ⟨a, b, c, d⟩ := h
    have hnext : ∀ p', some (ms + ml) = some p' → real + (ms - real) ≤ p' ∧ p < p' ∧ p' ≤ line.length := by
      intro p' h'; cases h'; omega
    dsimp only
    cases allSpace line ms ml with
    | false => exact .of_parts a (by omega) hnext
    | true =>
      cases strip with
      | true | false => exact .of_parts a (by omega) fun p' h' => hnext p' (Option.ite_none_left_eq_some.mp h').2

/-- the loop of the '?'-quoted tokeniser run from `p` for a token started at `ts` behaves like a tokeniser called at `ts` -/
theorem tokQLoop_ok (fs ec lq rq : Char) (ts : Nat) (st : QSt) (p : Nat) (n : Nat)
    (hn : st.buf.length = n) (h1 : ts ≤ st.xp) (h2 : st.xp ≤ st.tp) (h3 : st.tp ≤ p) (h4 : p ≤ n)
    (h5 : st.esc = true → st.tp < p) :
    (tokQLoop fs ec lq rq ts st p).1.length = n ∧ (tokQLoop fs ec lq rq ts st p).1.take ts = st.buf.take ts ∧
      TokOK n ts (tokQLoop fs ec lq rq ts st p).2 := by
  fun_induction tokQLoop fs ec lq rq ts st p with
  | case1 st p hlt c hesc ih =>
    have hts := Nat.le_trans h1 h2
    obtain ⟨a, b, c⟩ := ih (by rw [List.length_set]; exact hn) (Nat.le_succ_of_le hts) (Nat.le_refl _)
      (Nat.succ_le_succ h3) (hn ▸ hlt) (fun h => nomatch h)
    exact ⟨a, b.trans (List.take_set_of_le hts), c⟩
  | case2 st p hlt c hesc hec ih =>
    exact ih hn h1 h2 (Nat.le_succ_of_le h3) (hn ▸ hlt) (fun _ => Nat.lt_succ_of_le h3)
  | case3 st p hlt c hesc hec hquo hrq ih | case7 st p hlt c hesc hec hquo hfs hlq ih =>
    exact ih hn h1 h2 (Nat.le_succ_of_le h3) (hn ▸ hlt) (fun h => absurd h hesc)
  | case4 st p hlt c hesc hec hquo hrq ih | case9 st p hlt c hesc hec hquo hfs hlq hsp ih =>
    have hts := Nat.le_trans h1 h2
    obtain ⟨a, b, c⟩ := ih (by rw [List.length_set]; exact hn) (Nat.le_succ_of_le hts) (Nat.le_refl _)
      (Nat.succ_le_succ h3) (hn ▸ hlt) (fun h => absurd h hesc)
    exact ⟨a, b.trans (List.take_set_of_le hts), c⟩
  | case5 st p hlt c hesc hec hquo hfs hsp p2 =>
    have hp2 : p + 1 ≤ p2 := Nat.le_add_right ..
    refine ⟨hn, rfl, .of_parts (Nat.le_refl _) (by omega) fun p' hp' => ?_⟩
    obtain ⟨_, hp'⟩ := Option.ite_none_left_eq_some.mp hp'
    cases hp'
    omega
  | case6 st p hlt c hesc hec hquo hfs hsp =>
    refine ⟨hn, rfl, .of_parts (Nat.le_refl _) (by omega) fun p' hp' => ?_⟩
    cases hp'
    omega
  | case8 st p hlt c hesc hec hquo hfs hlq hsp ih =>
    -- a blank is copied but does not extend the token: `xp` stays
    obtain ⟨a, b, c⟩ := ih (by rw [List.length_set]; exact hn) h1 (Nat.le_succ_of_le h2)
      (Nat.succ_le_succ h3) (hn ▸ hlt) (fun h => absurd h hesc)
    exact ⟨a, b.trans (List.take_set_of_le (Nat.le_trans h1 h2)), c⟩
  | case10 st p hge hesc =>
    have := h5 hesc
    exact ⟨by rw [List.length_set]; exact hn, List.take_set_of_le h1,
      .of_parts (Nat.le_refl _) (by omega) fun p' hp' => nomatch hp'⟩
  | case11 st p hge hesc =>
    exact ⟨hn, rfl, .of_parts (Nat.le_refl _) (by omega) fun p' hp' => nomatch hp'⟩

/-- `TokOK` for a tokeniser that may rewrite the buffer (the '?'-quoted one): it keeps the length and what lies before
    `p`, where the fields cut so far are -/
def StepOK (step : Step) (n : Nat) : Prop :=
  ∀ buf p, buf.length = n → p ≤ n →
    (step buf p).1.length = n ∧ (step buf p).1.take p = buf.take p ∧ TokOK n p (step buf p).2

theorem roStep_ok (tok : Str → Nat → Tok) (h : ∀ line p, p ≤ line.length → TokOK line.length p (tok line p))
    (n : Nat) : StepOK (roStep tok) n := by
  intro buf p hb hp
  subst hb
  exact ⟨rfl, rfl, h buf p hp⟩

theorem tokQ_ok (fs ec lq rq : Char) (n : Nat) : StepOK (tokQ fs ec lq rq) n := by
  intro buf p hb hp
  have hs := add_length_drop (hb ▸ hp)
  have hw := List.length_takeWhile_le isSpace (buf.drop p)
  unfold tokQ
  dsimp only
  generalize hp0 : p + ((buf.drop p).takeWhile isSpace).length = p0
  have hle : p ≤ p0 := hp0 ▸ Nat.le_add_right ..
  obtain ⟨hlen, htake, htok⟩ := tokQLoop_ok fs ec lq rq p0 { buf := buf, tp := p0, xp := p0, esc := false, quo := false } p0 n
    hb (Nat.le_refl _) (Nat.le_refl _) (Nat.le_refl _) (by omega) (fun h => nomatch h)
  refine ⟨hlen, ?_, htok.mono hle⟩
  have := congrArg (List.take p) htake
  rwa [List.take_take, List.take_take, Nat.min_eq_left hle] at this

theorem roTok_ok (m : Matcher) (hm : Sane m) (e : Env) (n : Nat) :
    StepOK (roStep (roTok m e)) n := by
  refine roStep_ok _ (fun line p hp => ?_) n
  unfold roTok
  cases fsMode e.fsText with
  | each => exact tokEach_ok line p hp
  | blank | quoted _ _ _ _ => exact tokBlank_ok line p hp
  | char c =>
    cases e.ic with
    | true | false => exact tokCharP_ok _ line p hp
  | regex => exact tokRex_ok _ (hm _ _) _ line p hp

/-- spans in increasing order, none starting before `lo` or before the end of the previous one -/
def InOrder : Nat → List Fld → Prop
  | _, [] => True
  | lo, f :: fs => lo ≤ f.off ∧ InOrder (f.off + f.len) fs

theorem inOrder_mono (fs : List Fld) (lo lo' : Nat) (h : lo' ≤ lo) (hs : InOrder lo fs) :
    InOrder lo' fs := by
  cases fs with
  | nil => trivial
  | cons f fs => exact ⟨Nat.le_trans h hs.1, hs.2⟩

/-- the guard in `splitLoop` is never the reason to stop: with a well-behaved tokeniser the
    model's loop is exactly the C's `while (p)` -/
theorem splitLoop_guard (step : Step) (n : Nat) (hs : StepOK step n) (buf : Str) (p p' : Nat)
    (hb : buf.length = n) (hp : p ≤ n) (h : (step buf p).2.next = some p') : p < p' ∧ p' ≤ n :=
  (hs buf p hb hp).2.2.next_gt p' h

theorem splitLoop_spec (step : Step) (n : Nat) (hs : StepOK step n) (first : Bool) (buf : Str)
    (p : Nat) (hb : buf.length = n) (hp : p ≤ n) :
    (splitLoop step n first buf p).1.length = n ∧
    (splitLoop step n first buf p).1.take p = buf.take p ∧
    InOrder p (splitLoop step n first buf p).2 ∧
    ∀ f ∈ (splitLoop step n first buf p).2, f.off + f.len ≤ n ∧
      slice (splitLoop step n first buf p).1 f.off f.len = f.text ∧ f.len = f.text.length := by
  fun_induction splitLoop step n first buf p with
  | case1 first buf p r hempty =>
    obtain ⟨a, b, c⟩ := hs buf p hb hp
    exact ⟨a, b, trivial, fun f hf => nomatch hf⟩
  | case2 first buf p r hne f hnone =>
    obtain ⟨a, b, c⟩ := hs buf p hb hp
    refine ⟨a, b, ⟨c.le_off, trivial⟩, fun g hg => ?_⟩
    rw [List.mem_singleton.mp hg]
    exact ⟨c.end_le, rfl, (length_slice _ _ _ (by rw [a]; exact c.end_le)).symm⟩
  | case3 first buf p r hne f p' hsome hguard rest ih =>
    obtain ⟨a, b, c⟩ := hs buf p hb hp
    obtain ⟨ia, ib, io, ic⟩ := ih a hguard.2
    refine ⟨ia, ?_, ⟨c.le_off, inOrder_mono _ _ _ (c.next_ge p' hsome) io⟩, fun g hg => ?_⟩
    · have := congrArg (List.take p) ib
      simp only [List.take_take, Nat.min_eq_left (Nat.le_of_lt hguard.1)] at this
      rw [this]; exact b
    · rcases List.mem_cons.mp hg with rfl | hg
      · exact ⟨c.end_le, slice_eq_of_take_eq ib (c.next_ge p' hsome),
          (length_slice _ _ _ (by rw [a]; exact c.end_le)).symm⟩
      · exact ic g hg
  | case4 first buf p r hne f p' hsome hguard =>
    exact absurd (splitLoop_guard step n hs buf p p' hb hp hsome) hguard

theorem splitLoop_ro_buf (tok : Str → Nat → Tok) (n : Nat) (first : Bool) (buf : Str) (p : Nat) :
    (splitLoop (roStep tok) n first buf p).1 = buf := by
  fun_induction splitLoop (roStep tok) n first buf p with
  | case1 | case2 | case4 => rfl
  | case3 first buf p r hne f p' hsome hguard rest ih => exact ih

theorem splitLoop_false_ne_nil (step : Step) (n : Nat) (buf : Str) (p : Nat) :
    (splitLoop step n false buf p).2 ≠ [] := by
  rw [splitLoop]
  simp only [Bool.false_and, Bool.false_eq_true, if_false]
  split
  · simp
  · split <;> simp

/-- induction over the loop of split_record for a tokeniser that only reads the buffer: the guard never stops it, so
    a run yields no field, the last field, or a field and the run from the next start -/
theorem splitLoop_ro_induct {tok : Str → Nat → Tok}
    (htok : ∀ line p, p ≤ line.length → TokOK line.length p (tok line p))
    {motive : Bool → Nat → List Str → Prop} (n : Nat) (first : Bool) (buf : Str) (p : Nat)
    (hb : buf.length = n) (hp : p ≤ n)
    (empty : ∀ p, (tok buf p).next = none → (tok buf p).len = 0 → motive true p [])
    (last : ∀ first p, (tok buf p).next = none → (first = true → (tok buf p).len ≠ 0) →
      motive first p [slice buf (tok buf p).off (tok buf p).len])
    (more : ∀ first p p' ts, (tok buf p).next = some p' → ts ≠ [] → motive false p' ts →
      motive first p (slice buf (tok buf p).off (tok buf p).len :: ts)) :
    motive first p ((splitLoop (roStep tok) n first buf p).2.map Fld.text) := by
  fun_induction splitLoop (roStep tok) n first buf p with
  | case1 first buf p r hempty =>
    simp only [Bool.and_eq_true, beq_iff_eq, Option.isNone_iff_eq_none] at hempty
    obtain ⟨⟨rfl, hnone⟩, hlen⟩ := hempty
    exact empty p hnone hlen
  | case2 first buf p r hne f hnone =>
    exact last first p hnone fun hf hlen => hne (by simp [hf, hnone, show r.2.len = 0 from hlen])
  | case3 first buf p r hne f p' hsome hguard rest ih =>
    exact more first p p' _ hsome (mt List.map_eq_nil_iff.mp (splitLoop_false_ne_nil _ _ _ _))
      (ih hb hguard.2 empty last more)
  | case4 first buf p r hne f p' hsome hguard =>
    exact absurd (splitLoop_guard _ n (roStep_ok _ htok n) buf p p' hb hp hsome) hguard

theorem take_length_takeWhile (q : Char → Bool) (s : Str) :
    s.take (s.takeWhile q).length = s.takeWhile q := by
  have := List.take_left' (l₁ := s.takeWhile q) (l₂ := s.dropWhile q) rfl
  rwa [List.takeWhile_append_dropWhile] at this

theorem takeWhile_split (q : Char → Bool) (s : Str) (h : (s.takeWhile q).length < s.length) :
    ∃ x, q x = false ∧ s = s.takeWhile q ++ x :: s.drop ((s.takeWhile q).length + 1) := by
  induction s with
  | nil => simp at h
  | cons a r ih =>
    by_cases ha : q a
    · have h' : (r.takeWhile q).length < r.length := by
        simp [List.takeWhile, ha] at h; exact h
      obtain ⟨x, hx, e⟩ := ih h'
      refine ⟨x, hx, ?_⟩
      simp only [List.takeWhile, ha, List.length_cons, List.drop_succ_cons, List.cons_append]
      congr 1
    · exact ⟨a, by simpa using ha, by simp [List.takeWhile, ha]⟩

theorem tokCharP_text (q : Char → Bool) (buf : Str) (p : Nat) :
    slice buf (tokCharP q buf p).off (tokCharP q buf p).len = (buf.drop p).takeWhile q :=
  take_length_takeWhile q (buf.drop p)

theorem tokCharP_none {q : Char → Bool} {buf : Str} {p : Nat} (h : (tokCharP q buf p).next = none) :
    (buf.drop p).takeWhile q = buf.drop p := by
  rw [← take_length_takeWhile]
  exact List.take_of_length_le (of_ite_none_eq_none h)

theorem tokCharP_some {q : Char → Bool} {buf : Str} {p p' : Nat} (h : (tokCharP q buf p).next = some p') :
    ∃ x, q x = false ∧ buf.drop p = (buf.drop p).takeWhile q ++ x :: buf.drop p' := by
  obtain ⟨hlt, hp'⟩ := Option.ite_none_left_eq_some.mp h
  cases hp'
  rw [Nat.add_assoc, ← List.drop_drop]
  exact takeWhile_split q _ (Nat.lt_of_not_le hlt)

/-- the two facts determine the fields of a non-empty text -/
theorem char_loop_law (c : Char) (n : Nat) (first : Bool) (buf : Str) (p : Nat)
    (hb : buf.length = n) (hp : p ≤ n) :
    joinSep [c] ((splitLoop (roStep (tokChar c)) n first buf p).2.map Fld.text) = buf.drop p ∧
    ∀ t ∈ (splitLoop (roStep (tokChar c)) n first buf p).2.map Fld.text, c ∉ t := by
  have hnotin : ∀ s : Str, c ∉ s.takeWhile (fun x => x != c) := fun s hmem => by
    simpa using List.mem_takeWhile_imp hmem
  unfold tokChar
  refine splitLoop_ro_induct (tokCharP_ok _) (motive := fun _ p ts => joinSep [c] ts = buf.drop p ∧ ∀ t ∈ ts, c ∉ t)
    n first buf p hb hp (fun p hnone hlen => ?_) (fun first p hnone _ => ?_) (fun first p p' ts hsome hne ih => ?_)
  · rw [← tokCharP_none hnone]
    exact ⟨(List.length_eq_zero_iff.mp hlen).symm, fun t ht => nomatch ht⟩
  · rw [tokCharP_text, List.forall_mem_singleton]
    exact ⟨tokCharP_none hnone, hnotin _⟩
  · obtain ⟨x, hx, e⟩ := tokCharP_some hsome
    obtain ⟨u, us, rfl⟩ := List.exists_cons_of_ne_nil hne
    rw [tokCharP_text, joinSep_cons_cons, ih.1, List.forall_mem_cons]
    refine ⟨?_, hnotin _, ih.2⟩
    rw [show x = c by simpa using hx] at e
    rw [List.append_assoc, List.singleton_append, ← e]

def AllSpace (g : Str) : Prop := ∀ x ∈ g, isSpace x = true
def Word (t : Str) : Prop := t ≠ [] ∧ ∀ x ∈ t, isSpace x = false

/-- `Blanked ts s`: the text `s` consists of the words `ts`, in this order, with runs of
    space characters between them (non-empty ones, since a word is followed by the end or by a
    space) and possibly in front and behind.  A complete description of blank-mode splitting:
    `blanked_unique`. -/
def Blanked : List Str → Str → Prop
  | [], s => AllSpace s
  | t :: ts, s => ∃ g rest, s = g ++ t ++ rest ∧ AllSpace g ∧ Word t ∧
      (rest = [] ∨ ∃ y r, rest = y :: r ∧ isSpace y = true) ∧ Blanked ts rest

theorem blanked_prepend (g : Str) (hg : AllSpace g) (ts : List Str) (s : Str) (h : Blanked ts s) :
    Blanked ts (g ++ s) := by
  cases ts with
  | nil =>
    intro x hx
    rcases List.mem_append.mp hx with h1 | h1
    · exact hg x h1
    · exact h x h1
  | cons t ts =>
    obtain ⟨g', rest, e, a, b, c, d⟩ := h
    refine ⟨g ++ g', rest, by rw [e]; simp [List.append_assoc], ?_, b, c, d⟩
    intro x hx
    rcases List.mem_append.mp hx with h1 | h1
    · exact hg x h1
    · exact a x h1

theorem allSpace_takeWhile (s : Str) : AllSpace (s.takeWhile isSpace) :=
  fun _ => List.mem_takeWhile_imp

theorem dropWhile_nil_allSpace (s : Str) (h : s.dropWhile isSpace = []) : AllSpace s := by
  have := List.takeWhile_append_dropWhile (p := isSpace) (l := s)
  rw [h, List.append_nil] at this
  rw [← this]; exact allSpace_takeWhile s

theorem blank_anatomy (s : Str) :
    let g := s.takeWhile isSpace
    let s1 := s.dropWhile isSpace
    let w := s1.takeWhile (fun c => !isSpace c)
    let s2 := s1.dropWhile (fun c => !isSpace c)
    let gap := s2.takeWhile isSpace
    let s3 := s2.dropWhile isSpace
    s = g ++ w ++ s2 ∧ s2 = gap ++ s3 ∧ AllSpace g ∧ AllSpace gap ∧ (∀ x ∈ w, isSpace x = false) ∧
    (s2 = [] ∨ ∃ y r, s2 = y :: r ∧ isSpace y = true) ∧
    (s1 ≠ [] → w ≠ []) ∧
    (s3 = [] ∨ ∃ y r, s3 = y :: r ∧ isSpace y = false) := by
  intro g s1 w s2 gap s3
  have e1 : s = g ++ s1 := (List.takeWhile_append_dropWhile (p := isSpace) (l := s)).symm
  have e2 : s1 = w ++ s2 := (List.takeWhile_append_dropWhile (p := fun c => !isSpace c) (l := s1)).symm
  have e3 : s2 = gap ++ s3 := (List.takeWhile_append_dropWhile (p := isSpace) (l := s2)).symm
  refine ⟨by rw [List.append_assoc, ← e2, ← e1], e3, allSpace_takeWhile s, allSpace_takeWhile s2, ?_, ?_,
    word_ne_nil, dropWhile_nil_or_head isSpace s2⟩
  · intro x hx
    simpa using List.mem_takeWhile_imp hx
  · exact (dropWhile_nil_or_head (fun c => !isSpace c) s1).imp_right
      fun ⟨y, r, h, hy⟩ => ⟨y, r, h, by simpa using hy⟩

theorem tokBlank_text (buf : Str) (p : Nat) :
    slice buf (tokBlank buf p).off (tokBlank buf p).len
      = ((buf.drop p).dropWhile isSpace).takeWhile (fun c => !isSpace c) := by
  unfold tokBlank slice
  rw [← List.drop_drop, ← List.suffix_iff_eq_drop.mp (List.dropWhile_suffix isSpace)]
  exact take_length_takeWhile _ _

theorem tokBlank_next {buf : Str} {p p' : Nat} (h : (tokBlank buf p).next = some p') :
    (((buf.drop p).dropWhile isSpace).dropWhile (fun c => !isSpace c)).dropWhile isSpace ≠ [] ∧
    buf.drop p' = (((buf.drop p).dropWhile isSpace).dropWhile (fun c => !isSpace c)).dropWhile isSpace := by
  obtain ⟨hne, hp'⟩ := Option.ite_none_left_eq_some.mp h
  cases hp'
  rw [← List.drop_drop]
  exact ⟨mt List.isEmpty_iff.mpr hne, (List.suffix_iff_eq_drop.mp
    (((List.dropWhile_suffix _).trans (List.dropWhile_suffix _)).trans (List.dropWhile_suffix _))).symm⟩

theorem blank_loop_law (n : Nat) (first : Bool) (buf : Str) (p : Nat)
    (hb : buf.length = n) (hp : p ≤ n)
    (hpre : first = false → ∃ y r, buf.drop p = y :: r ∧ isSpace y = false) :
    Blanked ((splitLoop (roStep tokBlank) n first buf p).2.map Fld.text) (buf.drop p) := by
  refine splitLoop_ro_induct tokBlank_ok
    (motive := fun first p ts => (first = false → ∃ y r, buf.drop p = y :: r ∧ isSpace y = false) →
      Blanked ts (buf.drop p))
    n first buf p hb hp (fun p hnone hlen _ => ?_) (fun first p hnone hlen hpre => ?_)
    (fun first p p' ts hsome _ ih _ => ?_) hpre
  · obtain ⟨_, _, _, _, _, _, a5, _⟩ := blank_anatomy (buf.drop p)
    exact dropWhile_nil_allSpace _ (Decidable.byContradiction fun h => a5 h (List.length_eq_zero_iff.mp hlen))
  · obtain ⟨e1, _, a1, _, a3, a4, a5, _⟩ := blank_anatomy (buf.drop p)
    rw [tokBlank_text]
    refine ⟨_, _, e1, a1, ⟨?_, a3⟩, a4,
      dropWhile_nil_allSpace _ (List.isEmpty_iff.mp (of_ite_none_eq_none hnone))⟩
    cases first with
    | false =>
      obtain ⟨y, r, hy, hsp⟩ := hpre rfl
      apply a5
      rw [hy]
      simp [List.dropWhile, hsp]
    | true => exact fun hw => hlen rfl (congrArg List.length hw)
  · obtain ⟨e1, e2, a1, a2, a3, a4, a5, a6⟩ := blank_anatomy (buf.drop p)
    obtain ⟨hs3, hdrop⟩ := tokBlank_next hsome
    have hwne := a5 fun h => hs3 (by simp [h])
    rw [← hdrop] at hs3 e2 a6
    rw [tokBlank_text]
    exact ⟨_, _, e1, a1, ⟨hwne, a3⟩, a4, e2 ▸ blanked_prepend _ a2 _ _ (ih fun _ => a6.resolve_left hs3)⟩

theorem blanked_cons {t : Str} {ts : List Str} {s : Str} (h : Blanked (t :: ts) s) :
    t = (s.dropWhile isSpace).takeWhile (fun c => !isSpace c) ∧
    Blanked ts ((s.dropWhile isSpace).dropWhile (fun c => !isSpace c)) := by
  obtain ⟨g, rest, e, hg, ⟨hne, hw⟩, hr, hb⟩ := h
  have hd : ∀ c, (t ++ rest).head? = some c → isSpace c = false := by
    cases t with
    | nil => exact absurd rfl hne
    | cons y t => rintro c ⟨⟩; exact hw y (List.mem_cons_self ..)
  have k1 := List.takeWhile_dropWhile_append hg hd
  have k2 := List.takeWhile_dropWhile_append (p := fun c => !isSpace c) (xs := t) (t := rest) (fun x hx => by simp [hw x hx])
    (by rcases hr with rfl | ⟨y, r, rfl, hy⟩
        · nofun
        · rintro c ⟨⟩; simp [hy])
  rw [e, List.append_assoc, k1.2, k2.1, k2.2]
  exact ⟨rfl, hb⟩

theorem blanked_unique (ts : List Str) : ∀ (ts' : List Str) (s : Str),
    Blanked ts s → Blanked ts' s → ts = ts' := by
  have contra : ∀ (t : Str) (ts : List Str) (s : Str), AllSpace s → Blanked (t :: ts) s → False := by
    intro t ts s hs hb
    obtain ⟨g, rest, e, _, ⟨hne, hw⟩, _, _⟩ := hb
    cases t with
    | nil => exact hne rfl
    | cons x t =>
      have h1 := hw x (List.mem_cons_self ..)
      have h2 := hs x (by rw [e]; simp)
      rw [h1] at h2; cases h2
  induction ts with
  | nil =>
    intro ts' s h h'
    cases ts' with
    | nil => rfl
    | cons t' ts' => exact (contra t' ts' s h h').elim
  | cons t ts ih =>
    intro ts' s h h'
    cases ts' with
    | nil => exact (contra t ts s h' h).elim
    | cons t' ts' =>
      obtain ⟨rfl, hb⟩ := blanked_cons h
      obtain ⟨rfl, hb'⟩ := blanked_cons h'
      rw [ih ts' _ hb hb']

theorem allSpace_nil : AllSpace [] := fun x hx => by cases hx

theorem blanked_join (ts : List Str) (h : ∀ t ∈ ts, Word t) : Blanked ts (joinSep [' '] ts) := by
  induction ts with
  | nil => exact allSpace_nil
  | cons t ts ih =>
    have ht := h t (List.mem_cons_self ..)
    cases ts with
    | nil =>
      exact ⟨[], [], (by simp [joinSep]), allSpace_nil, ht, Or.inl rfl, allSpace_nil⟩
    | cons u ts =>
      have ih' := ih (fun x hx => h x (List.mem_cons_of_mem _ hx))
      have hsp : AllSpace [' '] := by
        intro x hx
        simp only [List.mem_singleton] at hx
        subst hx; decide
      refine ⟨[], [' '] ++ joinSep [' '] (u :: ts), (by simp [joinSep_cons_cons]), allSpace_nil, ht,
        Or.inr ⟨' ', joinSep [' '] (u :: ts), rfl, (by decide)⟩, ?_⟩
      exact blanked_prepend [' '] hsp _ _ ih'

theorem blanked_words (ts : List Str) : ∀ (s : Str), Blanked ts s → ∀ t ∈ ts, Word t := by
  induction ts with
  | nil => intro s _ t ht; cases ht
  | cons u ts ih =>
    intro s h t ht
    obtain ⟨g, rest, _, _, hw, _, hb⟩ := h
    rcases List.mem_cons.mp ht with rfl | ht
    · exact hw
    · exact ih rest hb t ht

theorem tokEach_nil {buf : Str} {p : Nat} (h : buf.drop p = []) :
    tokEach buf p = { off := p, len := 0, next := none } := by
  unfold tokEach
  rw [h]

theorem tokEach_cons {buf : Str} {p : Nat} {c : Char} {r : Str} (h : buf.drop p = c :: r) :
    tokEach buf p = { off := p, len := 1, next := if r.isEmpty then none else some (p + 1) } ∧
    slice buf p 1 = [c] ∧ buf.drop (p + 1) = r := by
  unfold tokEach slice
  rw [← List.drop_drop, h]
  exact ⟨rfl, rfl, rfl⟩

theorem each_loop_law (n : Nat) (first : Bool) (buf : Str) (p : Nat)
    (hb : buf.length = n) (hp : p ≤ n) (hpre : first = false → buf.drop p ≠ []) :
    (splitLoop (roStep tokEach) n first buf p).2.map Fld.text = (buf.drop p).map (fun c => [c]) := by
  refine splitLoop_ro_induct tokEach_ok
    (motive := fun first p ts => (first = false → buf.drop p ≠ []) → ts = (buf.drop p).map (fun c => [c]))
    n first buf p hb hp (fun p hnone hlen _ => ?_) (fun first p hnone hlen hpre => ?_)
    (fun first p p' ts hsome _ ih _ => ?_) hpre
  · cases hd : buf.drop p with
    | nil => rfl
    | cons c r => rw [(tokEach_cons hd).1] at hlen; cases hlen
  · cases hd : buf.drop p with
    | nil =>
      rw [tokEach_nil hd] at hlen
      cases first with
      | false => exact absurd hd (hpre rfl)
      | true => exact absurd rfl (hlen rfl)
    | cons c r =>
      obtain ⟨e, ht, _⟩ := tokEach_cons hd
      rw [e] at hnone ⊢
      rw [ht, List.isEmpty_iff.mp (of_ite_none_eq_none hnone)]
      rfl
  · cases hd : buf.drop p with
    | nil => rw [tokEach_nil hd] at hsome; cases hsome
    | cons c r =>
      obtain ⟨e, ht, hr⟩ := tokEach_cons hd
      rw [e] at hsome ⊢
      obtain ⟨hne, hp'⟩ := Option.ite_none_left_eq_some.mp hsome
      cases hp'
      rw [ht, ih (fun _ => hr ▸ mt List.isEmpty_iff.mpr hne), hr]
      rfl

theorem clrrec_nf (r : Rec) (h : r.nf = r.flds.length) : (clrrec r).nf = 0 := by
  show (if r.flds.length > 0 then (0 : Int) else r.nf) = 0
  split
  · rfl
  · rw [h]; omega

/-- the third part: the fields depend on the text and the globals only; the fourth: without a field split_record
    returns before it stores NF, which hawk_rtx_clrrec has left at 0 -/
theorem setrec0_shape (m : Matcher) (e : Env) (r : Rec) (s : Str) :
    (setrec0 m e r s).line = s ∧ (setrec0 m e r s).d0 = s ∧
    (setrec0 m e r s).flds = (splitRecord m e { line := s }).flds ∧
    (r.nf = r.flds.length → (setrec0 m e r s).nf = (setrec0 m e r s).flds.length) := by
  have key : ∀ fl : List Fld, r.nf = r.flds.length →
      (if fl.isEmpty then (clrrec r).nf else (fl.length : Int)) = fl.length := by
    intro fl h
    split
    · rename_i he
      rw [clrrec_nf _ h, List.isEmpty_iff.mp he]; rfl
    · rfl
  unfold setrec0 splitRecord
  cases fsMode e.fsText <;> exact ⟨rfl, rfl, rfl, key _⟩

theorem setrec0_pieces (m : Matcher) (hm : Sane m) (e : Env) (r : Rec) (s : Str) :
    InOrder 0 (setrec0 m e r s).flds ∧
    ∀ f ∈ (setrec0 m e r s).flds, f.off + f.len ≤ (setrec0 m e r s).buf.length ∧
      slice (setrec0 m e r s).buf f.off f.len = f.text ∧ f.len = f.text.length := by
  unfold setrec0 splitRecord
  cases fsMode e.fsText with
  | quoted a b c d =>
    obtain ⟨hl, _, ho, hs⟩ := splitLoop_spec _ _ (tokQ_ok a b c d s.length) true s 0 rfl (Nat.zero_le _)
    refine ⟨ho, fun f hf => ⟨?_, (hs f hf).2⟩⟩
    show f.off + f.len ≤ (splitLoop (tokQ a b c d) s.length true s 0).1.length
    rw [hl]; exact (hs f hf).1
  | each | blank | char _ | regex =>
    obtain ⟨_, _, ho, hs⟩ := splitLoop_spec _ _ (roTok_ok m hm e s.length) true s 0 rfl (Nat.zero_le _)
    rw [splitLoop_ro_buf] at hs
    exact ⟨ho, hs⟩

theorem setrec0_spans (m : Matcher) (hm : Sane m) (e : Env) (r : Rec) (s : Str) : SpansOK (setrec0 m e r s) :=
  fun f hf => ((setrec0_pieces m hm e r s).2 f hf).2

theorem SpansOK.readRef_eq {r : Rec} (h : SpansOK r) {i : Nat} (hd : i = 0 → r.d0 = r.line) :
    readRef r i = readVal r i := by
  unfold readRef readVal
  split
  · rename_i h0
    exact (hd h0).symm
  · cases hf : r.flds[i - 1]? with
    | none => rfl
    | some f => exact (h f (List.mem_of_getElem? hf)).1

theorem Coherent.readRef_eq {m : Matcher} {st : St} {b : Built} (h : Coherent m st b) (i : Nat) :
    readRef st.r i = readVal st.r i :=
  SpansOK.readRef_eq h.spans fun _ => h.d0_eq

theorem Coherent.both {m : Matcher} {st : St} {b : Built} (h : Coherent m st b) {j : Nat} {x : Str}
    (hx : readVal st.r j = x) : readVal st.r j = x ∧ readRef st.r j = x :=
  ⟨hx, (h.readRef_eq j).trans hx⟩

/-! ## a rebuild as a function on the field texts -/

theorem relayout_map {β} (g : Fld → β) (hg : ∀ f o, g { f with off := o } = g f) (ol o : Nat) (fs : List Fld) :
    (relayout ol o fs).map g = fs.map g := by
  induction fs generalizing o with
  | nil => rfl
  | cons f fs ih => rw [relayout, List.map_cons, List.map_cons, ih, hg]

theorem relayout_texts (ol o : Nat) (fs : List Fld) :
    (relayout ol o fs).map Fld.text = fs.map Fld.text :=
  relayout_map _ (fun _ _ => rfl) ol o fs

theorem relayout_lens (ol o : Nat) (fs : List Fld) :
    (relayout ol o fs).map Fld.len = fs.map Fld.len :=
  relayout_map _ (fun _ _ => rfl) ol o fs

theorem relayout_length (ol o : Nat) (fs : List Fld) : (relayout ol o fs).length = fs.length := by
  rw [← List.length_map (f := Fld.len), relayout_lens, List.length_map]

theorem relayout_laid (ol o : Nat) (fs : List Fld) : Laid ol o (relayout ol o fs) := by
  induction fs generalizing o with
  | nil => trivial
  | cons f fs ih => exact ⟨rfl, ih _⟩

theorem relayout_lenok (ol o : Nat) (fs : List Fld) (h : ∀ f ∈ fs, f.len = f.text.length) :
    ∀ f ∈ relayout ol o fs, f.len = f.text.length := by
  rw [← List.map_inj_left] at h ⊢
  rw [relayout_lens, relayout_map (fun f => f.text.length) (fun _ _ => rfl), h]

theorem laid_slices (sep pre : Str) (fs : List Fld)
    (hl : Laid sep.length pre.length fs) (hlen : ∀ f ∈ fs, f.len = f.text.length) (post : Str) :
    ∀ f ∈ fs, slice (pre ++ joinSep sep (fs.map Fld.text) ++ post) f.off f.len = f.text := by
  induction fs generalizing pre with
  | nil => intro f hf; cases hf
  | cons g fs ih =>
    obtain ⟨hoff, hrest⟩ := hl
    have hg := hlen g (List.mem_cons_self ..)
    cases fs with
    | nil =>
      intro f hf
      simp only [List.mem_singleton] at hf
      subst hf
      simp only [List.map, joinSep]
      rw [hoff, hg]
      exact slice_append_left pre f.text post
    | cons h fs =>
      intro f hf
      simp only [List.map, joinSep_cons_cons]
      rcases List.mem_cons.mp hf with rfl | hf
      · rw [hoff, hg]
        have := slice_append_left pre f.text (sep ++ joinSep sep (h.text :: fs.map Fld.text) ++ post)
        simpa [List.append_assoc] using this
      · have hpre : (pre ++ g.text ++ sep).length = pre.length + g.len + sep.length := by
          simp [hg]; omega
        have := ih (pre ++ g.text ++ sep) (by rw [hpre]; exact hrest)
          (fun f hf => hlen f (List.mem_cons_of_mem _ hf)) f hf
        simpa [List.append_assoc] using this

theorem recompTexts_length (flds : List Fld) (lv : Nat) (s : Str) :
    (recompTexts flds lv s).length = max flds.length (lv + 1) := by
  unfold recompTexts
  rw [List.length_set, List.length_append, List.length_map, List.length_replicate]
  omega

theorem recompTexts_at (flds : List Fld) (lv : Nat) (s : Str) :
    (recompTexts flds lv s)[lv]? = some s := by
  unfold recompTexts
  exact List.getElem?_set_self (by rw [List.length_append, List.length_map, List.length_replicate]; omega)

theorem recompTexts_other (flds : List Fld) (lv j : Nat) (s : Str) (h : j ≠ lv) :
    (recompTexts flds lv s)[j]? =
      if j < flds.length then (flds[j]?).map Fld.text
      else if j < lv then some [] else none := by
  unfold recompTexts
  rw [List.getElem?_set_ne (Ne.symm h)]
  by_cases hj : j < flds.length
  · rw [if_pos hj, List.getElem?_append_left (by rw [List.length_map]; exact hj), List.getElem?_map]
  · rw [if_neg hj, List.getElem?_append_right (by rw [List.length_map]; omega), List.length_map,
      List.getElem?_replicate]
    exact ite_cond_congr (propext (by omega))

theorem getD_append_replicate (ts : List Str) (k j : Nat) :
    ((ts ++ List.replicate k [])[j]?).getD [] = (ts[j]?).getD [] := by
  by_cases hj : j < ts.length
  · rw [List.getElem?_append_left hj]
  · rw [List.getElem?_append_right (Nat.le_of_not_lt hj), List.getElem?_replicate,
      List.getElem?_eq_none (Nat.le_of_not_lt hj)]
    split <;> rfl

theorem recompTexts_getD (flds : List Fld) (lv j : Nat) (s : Str) :
    ((recompTexts flds lv s)[j]?).getD [] = if j = lv then s else ((flds.map Fld.text)[j]?).getD [] := by
  by_cases h : j = lv
  · rw [if_pos h, h, recompTexts_at]; rfl
  · unfold recompTexts
    rw [if_neg h, List.getElem?_set_ne (Ne.symm h), getD_append_replicate]

/-- `NF = k` on the field texts -/
def resize (k : Nat) (ts : List Str) : List Str := (ts ++ List.replicate (k - ts.length) []).take k

theorem resize_length (k : Nat) (ts : List Str) : (resize k ts).length = k := by
  unfold resize
  rw [List.length_take, List.length_append, List.length_replicate]
  omega

theorem resize_getD (k j : Nat) (ts : List Str) :
    ((resize k ts)[j]?).getD [] = if j < k then (ts[j]?).getD [] else [] := by
  unfold resize
  rw [List.getElem?_take]
  split
  · exact getD_append_replicate ..
  · rfl

theorem resize_of_le {k : Nat} {ts : List Str} (h : k ≤ ts.length) : resize k ts = ts.take k := by
  unfold resize
  rw [Nat.sub_eq_zero_of_le h, List.replicate_zero, List.append_nil]

theorem resize_self (ts : List Str) : resize ts.length ts = ts := by
  rw [resize_of_le (Nat.le_refl _), List.take_length]

/-- growing the record by `$k = ""` fills it up with empty texts -/
theorem recompTexts_nil (flds : List Fld) {k : Nat} (h : flds.length < k) :
    recompTexts flds (k - 1) [] = resize k (flds.map Fld.text) := by
  have hk : k - 1 + 1 = k := by omega
  have hlen : (flds.map Fld.text ++ List.replicate (k - flds.length) []).length = k := by
    rw [List.length_append, List.length_map, List.length_replicate]; omega
  have hget : (flds.map Fld.text ++ List.replicate (k - flds.length) [])[k - 1]'(by omega) = [] := by
    rw [List.getElem_append_right (by rw [List.length_map]; omega), List.getElem_replicate]
  unfold recompTexts resize
  rw [hk, List.length_map, List.take_of_length_le (Nat.le_of_eq hlen)]
  -- the last of the texts filled in is empty already
  conv => lhs; arg 3; rw [← hget]
  exact List.set_getElem_self _

/-- the fields a rebuild makes of the texts `ts`: each span as long as its text, `sep.length` apart -/
def layout (sep : Str) (ts : List Str) : List Fld :=
  relayout sep.length 0 (ts.map fun t => { text := t, off := 0, len := t.length })

/-- the record after a rebuild from the field texts `ts` joined by `sep`, with `nf` stored into NF -/
def rebuilt (sep : Str) (ts : List Str) (nf : Int) (r : Rec) : Rec :=
  { r with line := joinSep sep ts, inw := false, flds := layout sep ts, nf := nf, d0 := joinSep sep ts }

theorem texts_length (r : Rec) : (texts r).length = r.flds.length := List.length_map _

theorem texts_layout (sep : Str) (ts : List Str) : (layout sep ts).map Fld.text = ts := by
  unfold layout
  rw [relayout_texts, List.map_map]
  exact List.map_id _

theorem layout_spans (sep : Str) (ts : List Str) :
    ∀ f ∈ layout sep ts, slice (joinSep sep ts) f.off f.len = f.text ∧ f.len = f.text.length := by
  intro f hf
  have hk := relayout_lenok sep.length 0 (ts.map fun t => { text := t, off := 0, len := t.length })
    fun f hf => by obtain ⟨t, _, rfl⟩ := List.mem_map.mp hf; rfl
  have := laid_slices sep [] (layout sep ts) (relayout_laid ..) hk [] f hf
  rw [texts_layout, List.nil_append, List.append_nil] at this
  exact ⟨this, hk f hf⟩

theorem relayout_eq_layout (sep : Str) (fs : List Fld) (h : ∀ f ∈ fs, f.len = f.text.length) :
    relayout sep.length 0 fs = layout sep (fs.map Fld.text) := by
  have key : ∀ o, relayout sep.length o fs
      = relayout sep.length o ((fs.map Fld.text).map fun t => { text := t, off := 0, len := t.length }) := by
    induction fs with
    | nil => intro o; rfl
    | cons f fs ih =>
      intro o
      simp only [List.map_cons, relayout]
      rw [ih (fun g hg => h g (List.mem_cons_of_mem _ hg)), ← h f (List.mem_cons_self ..)]
  exact key 0

theorem rebuilt_spans (sep : Str) (ts : List Str) (nf : Int) (r : Rec) : SpansOK (rebuilt sep ts nf r) :=
  layout_spans sep ts

theorem rebuilt_coherent (m : Matcher) (e : Env) (sep : Str) (ts : List Str) {nf : Int} (r : Rec)
    (hnf : nf = ts.length) : Coherent m ⟨rebuilt sep ts nf r, e⟩ (.joined sep) := by
  refine ⟨?_, rebuilt_spans _ _ _ _, rfl, ?_, rfl, relayout_laid ..⟩
  · show nf = ((layout sep ts).length : Int)
    rw [hnf, ← List.length_map (f := Fld.text), texts_layout]
  · show joinSep sep ts = sep.intercalate ((layout sep ts).map Fld.text)
    rw [texts_layout, joinSep_eq_intercalate]

theorem rebuilt_length (sep : Str) (ts : List Str) (nf : Int) (r : Rec) :
    (rebuilt sep ts nf r).flds.length = ts.length := by
  show (layout sep ts).length = _
  rw [← List.length_map (f := Fld.text), texts_layout]

theorem setfld_eq (e : Env) (r : Rec) (i : Nat) (s : Str) :
    setfld e r i s = rebuilt e.ofs (recompTexts r.flds (i - 1) s) (recompTexts r.flds (i - 1) s).length r := rfl

theorem setfld_length (e : Env) (r : Rec) {i : Nat} (hi : 1 ≤ i) (s : Str) :
    (setfld e r i s).flds.length = max r.flds.length i := by
  rw [setfld_eq, rebuilt_length, recompTexts_length, Nat.sub_add_cancel hi]

/-- hawk_rtx_truncrec builds the text from the spans, hence the hypothesis that they cover the field values -/
theorem truncrec_eq (e : Env) (r : Rec) (n : Nat) (h : SpansOK r) :
    truncrec e r n = rebuilt e.ofs ((texts r).take n) r.nf r := by
  have hl : (r.flds.take n).map (spanText r.buf) = (texts r).take n := by
    show _ = (r.flds.map Fld.text).take n
    rw [← List.map_take]
    exact List.map_congr_left fun f hf => (h f (List.mem_of_mem_take hf)).1
  unfold truncrec rebuilt
  dsimp only
  rw [hl, relayout_eq_layout _ _ fun f hf => (h f (List.mem_of_mem_take hf)).2, List.map_take]
  rfl

theorem truncrec_texts (e : Env) (r : Rec) (n : Nat) :
    (truncrec e r n).flds.map Fld.text = (r.flds.take n).map Fld.text :=
  relayout_texts ..

theorem setNF_neg (e : Env) (r : Rec) {n : Int} (hn : n < 0) : setNF e r n = .error .einval :=
  if_pos hn

theorem setNF_nonneg (e : Env) (r : Rec) {n : Int} (hn : 0 ≤ n) :
    setNF e r n = .ok (if n.toNat ≤ r.flds.length then { truncrec e r n.toNat with nf := n }
      else { setfld e r n.toNat [] with nf := n }) := by
  unfold setNF
  rw [if_neg (Int.not_lt.mpr hn)]
  dsimp only
  split <;> rfl

theorem setNF_eq (e : Env) (r : Rec) (h : SpansOK r) {n : Int} (hn : 0 ≤ n) :
    setNF e r n = .ok (rebuilt e.ofs (resize n.toNat (texts r)) n r) := by
  rw [setNF_nonneg _ _ hn]
  split
  · rename_i hk
    rw [truncrec_eq _ _ _ h, resize_of_le (by rwa [texts_length])]
    rfl
  · rename_i hk
    rw [setfld_eq, recompTexts_nil _ (Nat.lt_of_not_le hk)]
    rfl

theorem setNF_ok {e : Env} {r : Rec} (h : SpansOK r) {n : Int} {r' : Rec} (hr : setNF e r n = .ok r') :
    0 ≤ n ∧ r' = rebuilt e.ofs (resize n.toNat (texts r)) n r := by
  have hn : 0 ≤ n := Int.not_lt.mp fun hneg => by rw [setNF_neg _ _ hneg] at hr; cases hr
  rw [setNF_eq _ _ h hn] at hr
  exact ⟨hn, (Except.ok.inj hr).symm⟩

/-! ## `$j` reads an entry of the list of texts (`readVal_pos`): after a rebuild, a list fact -/

theorem readVal_pos (r : Rec) {j : Nat} (hj : 1 ≤ j) :
    readVal r j = ((r.flds.map Fld.text)[j - 1]?).getD [] := by
  unfold readVal
  rw [if_neg (Nat.ne_of_gt hj), List.getElem?_map]
  cases r.flds[j - 1]? <;> rfl

theorem readVal_beyond (r : Rec) {j : Nat} (h : r.flds.length < j) : readVal r j = [] := by
  rw [readVal_pos _ (Nat.zero_lt_of_lt h), List.getElem?_eq_none (by rw [List.length_map]; omega)]
  rfl

theorem readVal_rebuilt (sep : Str) (ts : List Str) (nf : Int) (r : Rec) {j : Nat} (hj : 1 ≤ j) :
    readVal (rebuilt sep ts nf r) j = (ts[j - 1]?).getD [] := by
  rw [readVal_pos _ hj]
  show (((layout sep ts).map Fld.text)[j - 1]?).getD [] = _
  rw [texts_layout]

theorem readVal_setfld (e : Env) (r : Rec) {i j : Nat} (hi : 1 ≤ i) (hj : 1 ≤ j) (s : Str) :
    readVal (setfld e r i s) j = if j = i then s else readVal r j := by
  rw [setfld_eq, readVal_rebuilt _ _ _ _ hj, recompTexts_getD, readVal_pos _ hj]
  exact ite_cond_congr (propext (by omega))

theorem readVal_truncrec (e : Env) (r : Rec) (n : Nat) {j : Nat} (hj : 1 ≤ j) :
    readVal (truncrec e r n) j = if j ≤ n then readVal r j else [] := by
  rw [readVal_pos _ hj, truncrec_texts, List.map_take, List.getElem?_take]
  by_cases hjn : j ≤ n
  · rw [if_pos hjn, if_pos (by omega), readVal_pos _ hj]
  · rw [if_neg hjn, if_neg (by omega)]; rfl

theorem readVal_setNF {e : Env} {r : Rec} (h : SpansOK r) {n : Int} {r' : Rec} (hr : setNF e r n = .ok r')
    {j : Nat} (hj : 1 ≤ j) :
    readVal r' j = if (j : Int) ≤ n then readVal r j else [] := by
  obtain ⟨hn, rfl⟩ := setNF_ok h hr
  rw [readVal_rebuilt _ _ _ _ hj, resize_getD, readVal_pos _ hj]
  exact ite_cond_congr (propext (by omega))

theorem recompTexts_readVal (r : Rec) {i : Nat} (hi : 1 ≤ i) (hle : i ≤ r.flds.length) :
    recompTexts r.flds (i - 1) (readVal r i) = texts r := by
  have hlt : i - 1 < (r.flds.map Fld.text).length := by rw [List.length_map]; omega
  unfold recompTexts
  rw [Nat.sub_add_cancel hi, Nat.sub_eq_zero_of_le hle, List.replicate_zero, List.append_nil, readVal_pos _ hi,
    List.getElem?_eq_getElem hlt, Option.getD_some, List.set_getElem_self]
  rfl

theorem setNF_self (e : Env) {r : Rec} (h : SpansOK r) {i : Nat} (hi : 1 ≤ i) (hle : i ≤ r.flds.length) :
    setNF e r r.flds.length = .ok (setfld e r i (readVal r i)) := by
  rw [setNF_eq _ _ h (Int.natCast_nonneg _), setfld_eq, recompTexts_readVal _ hi hle, Int.toNat_natCast, ← texts_length,
    resize_self]

theorem growFails_false (r : Rec) {k : Nat} (h : k ≤ maxFlds) : growFails r k = false :=
  decide_eq_false fun hh => Nat.not_lt_of_le h hh.2

theorem step_setf (m : Matcher) (st : St) {i : Nat} (hi : i ≠ 0) (s : Str) (hg : growFails st.r i = false) :
    step m st (.setf i s) = { st with r := setfld st.e st.r i s } := by
  simp only [step, if_neg hi, hg, Bool.false_eq_true, if_false]

theorem step_setf_fails (m : Matcher) (st : St) {i : Nat} (hi : i ≠ 0) (s : Str) (hg : growFails st.r i = true) :
    step m st (.setf i s) = { st with r := clrrec st.r } := by
  simp only [step, if_neg hi, hg, if_true]

theorem step_setnf_neg (m : Matcher) (st : St) {n : Int} (hn : n < 0) : step m st (.setnf n) = st := by
  simp only [step, setNF_neg _ _ hn, if_neg fun h : 0 ≤ n ∧ _ => Int.not_lt.mpr h.1 hn]

theorem step_setnf (m : Matcher) (st : St) (h : SpansOK st.r) {n : Int} (hn : 0 ≤ n)
    (hg : growFails st.r n.toNat = false) :
    step m st (.setnf n) = { st with r := rebuilt st.e.ofs (resize n.toNat (texts st.r)) n st.r } := by
  simp only [step, setNF_eq _ _ h hn, hg, Bool.false_eq_true, and_false, if_false]

theorem step_setnf_fails (m : Matcher) (st : St) {n : Int} (hn : 0 ≤ n) (hg : growFails st.r n.toNat = true) :
    step m st (.setnf n) = { st with r := clrrec st.r } := by
  simp only [step, hn, hg, and_self, if_true]

/-- statements that neither re-split the record, nor assign `$i`, nor cut the record below `i`, nor ask for more than
    `maxFlds` fields (which clears the record) -/
def Keeps (i : Nat) : Op → Prop
  | .set0 _ => False
  | .rewrite _ => False
  | .getline _ => False
  | .setf j _ => j ≠ 0 ∧ j ≠ i ∧ j ≤ maxFlds
  | .setnf n => n < 0 ∨ ((i : Int) ≤ n ∧ n.toNat ≤ maxFlds)
  | _ => True

theorem step_keeps (m : Matcher) {st : St} (h : SpansOK st.r) {i : Nat} (hi : 1 ≤ i) (hle : i ≤ st.r.flds.length)
    {op : Op} (hk : Keeps i op) :
    readVal (step m st op).r i = readVal st.r i ∧ i ≤ (step m st op).r.flds.length ∧ SpansOK (step m st op).r := by
  cases op with
  | set0 _ | rewrite _ | getline _ => exact hk.elim
  | setf j s =>
    obtain ⟨hj0, hji, hjm⟩ := hk
    have hj : 1 ≤ j := Nat.pos_of_ne_zero hj0
    rw [step_setf m st hj0 s (growFails_false st.r hjm)]
    refine ⟨by rw [readVal_setfld _ _ hj hi, if_neg (Ne.symm hji)], ?_, rebuilt_spans _ _ _ _⟩
    rw [setfld_length _ _ hj]
    exact Nat.le_trans hle (Nat.le_max_left ..)
  | setnf n =>
    rcases hk with hneg | ⟨hin, hnm⟩
    · rw [step_setnf_neg m st hneg]
      exact ⟨rfl, hle, h⟩
    · have hn : 0 ≤ n := Int.le_trans (Int.natCast_nonneg i) hin
      rw [step_setnf m st h hn (growFails_false st.r hnm)]
      refine ⟨by rw [readVal_setNF h (setNF_eq _ _ h hn) hi, if_pos hin], ?_, rebuilt_spans _ _ _ _⟩
      rw [rebuilt_length, resize_length]
      omega
  | ofs _ | fs _ | strip _ | ic _ | ofmt _ | read _ | readnf => exact ⟨rfl, hle, h⟩

/-- a rebuild lays the spans afresh, so of the invariant nothing but the spans of the start is needed -/
theorem foldl_keeps (m : Matcher) {i : Nat} (hi : 1 ≤ i) (ops : List Op) : ∀ st : St, SpansOK st.r → i ≤ st.r.flds.length →
    (∀ op ∈ ops, Keeps i op) →
    readVal (ops.foldl (step m) st).r i = readVal st.r i ∧ readRef (ops.foldl (step m) st).r i = readVal st.r i := by
  induction ops with
  | nil => exact fun st h _ _ => ⟨rfl, h.readRef_eq fun h0 => absurd h0 (Nat.ne_of_gt hi)⟩
  | cons op ops ih =>
    intro st h hle hk
    obtain ⟨h1, h2, h3⟩ := step_keeps m h hi hle (hk op (List.mem_cons_self ..))
    rw [← h1]
    exact ih _ h3 h2 fun o ho => hk o (List.mem_cons_of_mem _ ho)

end Hawk.Rec
