import HawkModel.Arr
import HawkModel.Gen.CFunsArr
/-!
  For Props/C19Tie.lean: the fuelled do-while of the translated doubling loop against the model's `dblLoop`.
-/
namespace Hawk.Arr.Tie
open Hawk.Arr Hawk.Gen.C

/-- with `f + 1` rounds of fuel the loop `do { c *= 2; } while (c <= bound)` on a `W`-valued word ends in
    `dblLoop c bound`, provided `f + 1` doublings of `c` exceed `bound` and twice the bound still fits the word.
    The loop body is a variable `step` with its equation: the closure the translator wrote in `arrInsDouble` meets
    `hstep` by `rfl`. -/
theorem dbl_aux (W bound : Nat) (hb : 2 * bound < W) (step : Nat → Nat × Bool)
    (hstep : ∀ x, step x = ((x * 2) % W, decide ((x * 2) % W ≤ bound))) :
    ∀ (f c : Nat), 0 < c → 2 * c < W → bound < c * 2 ^ (f + 1) →
      doLoop (f + 1) step c = some (dblLoop c bound) := by
  -- one round of the translated loop has the shape of `dblLoop`'s defining equation
  have round : ∀ f c, 2 * c < W →
      doLoop (f + 1) step c = if 2 * c ≤ bound then doLoop f step (2 * c) else some (2 * c) := by
    intro f c hc
    rw [doLoop, hstep, Nat.mul_comm c 2, Nat.mod_eq_of_lt hc]
    simp only [decide_eq_true_eq]
  intro f
  induction f with
  | zero =>
    intro c hc hcW hlt
    rw [round 0 c hcW, dblLoop, if_neg (by omega), dif_neg (by omega)]
  | succ f ih =>
    intro c hc hcW hlt
    rw [round _ c hcW, dblLoop]
    by_cases hle : 2 * c ≤ bound
    · rw [if_pos hle, dif_pos ⟨hle, hc⟩]
      rw [Nat.pow_succ, Nat.mul_comm (2 ^ (f + 1)) 2, ← Nat.mul_assoc, Nat.mul_comm c 2] at hlt
      exact ih (2 * c) (by omega) (by omega) hlt
    · rw [if_neg hle, dif_neg (by omega)]

end Hawk.Arr.Tie
