/-
  Model of lib/arr.c (hawk_arr_t): the slot table, size/tally/capa bookkeeping,
  the capacity computation of hawk_arr_insert with its retry loop, and the
  allocator as an oracle (a list of answers consumed one per allocation request).

  State: `slots` is slot[0 .. size) (cells at or beyond `size` are never read by
  the C code before being overwritten: hawk_arr_insert null-fills the gap).
  `size`, `tally`, `capa` are stored separately *as in the C struct* so that
  `size = slots.length` and `tally = #occupied` are theorems, not definitions.

  Events record the style callbacks (freeer/keeper) in call order.
-/
namespace Hawk.Arr

inductive Ev where
  | freed (v : Nat)
  | kept (v : Nat)
deriving Repr, DecidableEq

inductive Err where
  | enomem | einval | ebuffull
deriving Repr, DecidableEq

structure Arr where
  slots : List (Option Nat)
  size : Nat
  tally : Nat
  capa : Nat
deriving Repr, DecidableEq

/-- allocator oracle: answers for successive allocation requests; exhausted = success -/
abbrev Oracle := List Bool

def Oracle.next : Oracle → Bool × Oracle
  | [] => (true, [])
  | b :: r => (b, r)

def empty : Arr := { slots := [], size := 0, tally := 0, capa := 0 }

/-- HAWK_ALIGN_POW2(x, 64) -/
def align64 (x : Nat) : Nat := ((x + 63) / 64) * 64

/-- `capa = arr->capa; do { capa *= 2; } while (capa <= bound);`
    (only ever entered with arr->capa > 0; for c = 0 the C loop would not end, the
    model stops so that the function is total and `dblLoop_gt` needs `0 < c`.) -/
def dblLoop (c bound : Nat) : Nat :=
  if h : 2 * c ≤ bound ∧ 0 < c then dblLoop (2 * c) bound else 2 * c
termination_by bound - c
decreasing_by omega

/-- the capacity hawk_arr_insert asks for first (default sizer) -/
def wantCapa (a : Arr) (pos : Nat) : Nat :=
  if a.capa = 0 then align64 (pos + 1)
  else dblLoop a.capa (if pos ≥ a.size then pos else a.size)

def minCapa (a : Arr) (pos : Nat) : Nat :=
  if pos ≥ a.size then pos + 1 else a.size + 1

/-- largest capacity whose slot table (8-byte pointers) has a size in bytes that fits a 64-bit `hawk_oow_t`:
    `HAWK_TYPE_MAX(hawk_oow_t) / HAWK_SIZEOF(*arr->slot)`.  hawk_arr_setcapa refuses anything larger without asking
    the allocator; hawk_arr_insert refuses a position at or beyond it before computing a capacity. -/
def maxCapa : Nat := (2 ^ 64 - 1) / 8

/-- the allocation request inside hawk_arr_setcapa(capa), capa > 0: refused outright when the byte size would wrap,
    otherwise the allocator (oracle) answers -/
def setcapaAsk (capa : Nat) (o : Oracle) : Bool × Oracle :=
  if capa > maxCapa then (false, o) else o.next

/-- the `do { if (setcapa(capa)) break; if (capa <= mincapa) fail; capa = mincapa + (capa - mincapa) / 2; } while (1)` loop
    (the excess over the minimum is halved on each refusal, so the number of requests is logarithmic in the gap).
    Returns the capacity obtained (none = gave up) and the remaining oracle. -/
def retryCapa (capa mincapa : Nat) (o : Oracle) : Option Nat × Oracle :=
  match setcapaAsk capa o with
  | (true, o') => (some capa, o')
  | (false, o') =>
    if h : capa ≤ mincapa then (none, o') else retryCapa (mincapa + (capa - mincapa) / 2) mincapa o'
termination_by capa - mincapa
decreasing_by omega

/-- slot table after a successful insert (gap null-filled, tail shifted) -/
def insSlots (s : List (Option Nat)) (pos : Nat) (v : Nat) : List (Option Nat) :=
  if pos ≥ s.length then s ++ List.replicate (pos - s.length) none ++ [some v]
  else s.take pos ++ [some v] ++ s.drop pos

structure Res where
  arr : Arr
  ret : Except Err Nat
  evs : List Ev
  orc : Oracle

def insert (a : Arr) (pos v : Nat) (o : Oracle) : Res :=
  -- a position no table can hold is refused before anything else
  if pos ≥ maxCapa then ⟨a, .error .einval, [], o⟩ else
  -- alloc_slot first
  match o.next with
  | (false, o1) => ⟨a, .error .enomem, [], o1⟩
  | (true, o1) =>
    let place (a' : Arr) (o' : Oracle) : Res :=
      ⟨{ a' with slots := insSlots a'.slots pos v,
                 size := if pos > a'.size then pos + 1 else a'.size + 1,
                 tally := a'.tally + 1 }, .ok pos, [], o'⟩
    if pos ≥ a.capa ∨ a.size ≥ a.capa then
      match retryCapa (wantCapa a pos) (minCapa a pos) o1 with
      | (none, o2) => ⟨a, .error .enomem, [], o2⟩   -- the caller keeps the data on failure (SIMPLE copier)
      | (some c, o2) =>
        let a' := { a with capa := c }
        if pos ≥ a'.capa ∨ a'.size ≥ a'.capa then ⟨a', .error .ebuffull, [], o2⟩
        else place a' o2
    else place a o1

def update (a : Arr) (pos v : Nat) (o : Oracle) : Res :=
  if pos ≥ a.size then ⟨a, .error .einval, [], o⟩
  else
    match a.slots.getD pos none with
    | none =>
      match o.next with
      | (false, o1) => ⟨a, .error .enomem, [], o1⟩
      | (true, o1) => ⟨{ a with slots := a.slots.set pos (some v), tally := a.tally + 1 }, .ok pos, [], o1⟩
    | some c =>
      if c = v then ⟨a, .ok pos, [.kept v], o⟩
      else
        match o.next with
        | (false, o1) => ⟨a, .error .enomem, [], o1⟩
        | (true, o1) => ⟨{ a with slots := a.slots.set pos (some v) }, .ok pos, [.freed c], o1⟩

def upsert (a : Arr) (pos v : Nat) (o : Oracle) : Res :=
  if pos < a.size then update a pos v o else insert a pos v o

def freedOf (l : List (Option Nat)) : List Ev :=
  l.filterMap (fun x => x.map Ev.freed)

def occupied (l : List (Option Nat)) : Nat := (l.filter Option.isSome).length

/-- hawk_arr_delete: returns the number of cells removed -/
def delete (a : Arr) (index count : Nat) : Arr × Nat × List Ev :=
  if index ≥ a.size then (a, 0, [])
  else
    let count := if count > a.size - index then a.size - index else count
    if count = 0 then (a, 0, [])
    else
      let gone := (a.slots.drop index).take count
      ({ a with slots := a.slots.take index ++ a.slots.drop (index + count),
                size := a.size - count,
                tally := a.tally - occupied gone }, count, freedOf gone)

/-- hawk_arr_uplete: frees cells in place, no compaction -/
def uplete (a : Arr) (index count : Nat) : Arr × Nat × List Ev :=
  if index ≥ a.size then (a, 0, [])
  else
    let count := if count > a.size - index then a.size - index else count
    let gone := (a.slots.drop index).take count
    ({ a with slots := a.slots.take index ++ List.replicate count none ++ a.slots.drop (index + count),
              tally := a.tally - occupied gone }, count, freedOf gone)

/-- hawk_arr_pushstack: insert at `size` -/
def pushstack (a : Arr) (v : Nat) (o : Oracle) : Res := insert a a.size v o

/-- hawk_arr_popstack (asserts size > 0; the harness only calls it then): delete the last slot -/
def popstack (a : Arr) : Arr × Nat × List Ev :=
  if a.size > 0 then delete a (a.size - 1) 1 else (a, 0, [])

def clear (a : Arr) : Arr × List Ev :=
  ({ a with slots := [], size := 0, tally := 0 }, freedOf a.slots)

/-- hawk_arr_setcapa: true = returned arr, false = returned NULL (realloc refused) -/
def setcapa (a : Arr) (capa : Nat) (o : Oracle) : Arr × Bool × List Ev × Oracle :=
  if capa = a.capa then (a, true, [], o)
  else
    let (a1, _, ev1) := if capa < a.size then delete a capa (a.size - capa) else (a, 0, [])
    if capa > 0 then
      match setcapaAsk capa o with
      | (false, o1) => (a1, false, ev1, o1)
      | (true, o1) => ({ a1 with capa := capa }, true, ev1, o1)
    else
      let (a2, ev2) := clear a1
      ({ a2 with capa := 0 }, true, ev1 ++ ev2, o)

/-! ### the abstract view: a list of optional values -/
def abs (a : Arr) : List (Option Nat) := a.slots

/-- value last stored at index i (none = empty or beyond size) -/
def read (a : Arr) (i : Nat) : Option Nat := (a.slots.getD i none)

/-- well-formedness of the bookkeeping -/
structure WF (a : Arr) : Prop where
  size_eq : a.size = a.slots.length
  tally_eq : a.tally = occupied a.slots
  size_le_capa : a.size ≤ a.capa

/-! ### binary max-heap on a dense array (sift_up / sift_down / pushheap / deleteheap / updateheap) -/

def hparent (i : Nat) : Nat := (i - 1) / 2

/-- comparator used by the harness: integer order, as an `int` in {-1,0,1} -/
def cmp (a b : Nat) : Int := if a > b then 1 else if a < b then -1 else 0

/-- inner `while (1)` of sift_up: the hole is at `index` (> 0), `tmp` is the value being lifted -/
def siftUpLoop (tmp : Nat) (l : List Nat) (index : Nat) : List Nat × Nat :=
  if h : index = 0 then (l.set index tmp, index) else
  let parent := hparent index
  let l1 := l.set index (l.getD parent 0)
  if parent = 0 then (l1.set parent tmp, parent)
  else if cmp tmp (l1.getD (hparent parent) 0) ≤ 0 then (l1.set parent tmp, parent)
  else siftUpLoop tmp l1 parent
termination_by index
decreasing_by unfold hparent; omega

def siftUp (l : List Nat) (index : Nat) : List Nat × Nat :=
  if index > 0 then
    if cmp (l.getD index 0) (l.getD (hparent index) 0) > 0 then siftUpLoop (l.getD index 0) l index
    else (l, index)
  else (l, index)

/-- child selection of sift_down: the greater child (right only if strictly greater) -/
def pickChild (l : List Nat) (index : Nat) : Nat :=
  if 2 * index + 2 < l.length then
    (if cmp (l.getD (2 * index + 2) 0) (l.getD (2 * index + 1) 0) > 0 then 2 * index + 2 else 2 * index + 1)
  else 2 * index + 1

theorem lt_pickChild (l : List Nat) (index : Nat) : index < pickChild l index := by
  fun_cases pickChild l index <;> omega

/-- `do { … } while (index < base)` of sift_down with the hole at `index` (< base) -/
def siftDownLoop (tmp : Nat) (l : List Nat) (index : Nat) : List Nat × Nat :=
  let child := pickChild l index
  if cmp tmp (l.getD child 0) > 0 then (l.set index tmp, index)
  else
    let l1 := l.set index (l.getD child 0)
    if child < l.length / 2 then siftDownLoop tmp l1 child
    else (l1.set child tmp, child)
termination_by l.length - index
decreasing_by
  simp only [List.length_set]
  have := lt_pickChild l index
  omega

def siftDown (l : List Nat) (index : Nat) : List Nat × Nat :=
  if index < l.length / 2 then siftDownLoop (l.getD index 0) l index else (l, index)

def pushheap (l : List Nat) (v : Nat) : List Nat :=
  (siftUp (l ++ [v]) l.length).1

/-- hawk_arr_deleteheap (requires index < size); returns the new dense array and the freed value -/
def deleteheap (l : List Nat) (index : Nat) : List Nat × Option Nat :=
  if h : index < l.length then
    let tmp := l[index]
    let n := l.length - 1
    if n > 0 ∧ index ≠ n then
      let l1 := (l.set index (l.getD n 0)).take n
      let c := cmp (l1.getD index 0) tmp
      if c > 0 then ((siftUp l1 index).1, some tmp)
      else if c < 0 then ((siftDown l1 index).1, some tmp)
      else (l1, some tmp)
    else (l.take n, some tmp)
  else (l, none)

def updateheap (l : List Nat) (index v : Nat) : List Nat × Option Nat :=
  if h : index < l.length then
    let tmp := l[index]
    let c := cmp v tmp
    if c ≠ 0 then
      let l1 := l.set index v
      if c > 0 then ((siftUp l1 index).1, some tmp) else ((siftDown l1 index).1, some tmp)
    else (l, none)
  else (l, none)

/-- max-heap order: every non-root element is ≤ its parent -/
def HeapOrd (l : List Nat) : Prop := ∀ i, 0 < i → i < l.length → l.getD i 0 ≤ l.getD (hparent i) 0

instance (l : List Nat) : Decidable (HeapOrd l) := by
  unfold HeapOrd
  have : (∀ i, 0 < i → i < l.length → l.getD i 0 ≤ l.getD (hparent i) 0) ↔
         (∀ i ∈ List.range l.length, 0 < i → l.getD i 0 ≤ l.getD (hparent i) 0) := by
    constructor
    · intro h i hi hp; exact h i hp (List.mem_range.mp hi)
    · intro h i hp hl; exact h i (List.mem_range.mpr hl) hp
  rw [this]; infer_instance

/-! ### the same heap with position back-pointers (`heap_pos_offset != HAWK_ARR_NIL`)

An item is `(key, pos)`: `pos` is the field inside the caller's datum that `HEAP_UPDATE_POS(arr, index)` overwrites
with `index` after every slot store.  `stamp l i x` is exactly `arr->slot[i] = x; HEAP_UPDATE_POS (arr, i);`.
The functions below are arr.c's again with that macro at each of its seven sites; `HeapPosLemmas` proves that their
keys evolve exactly like the key-only model above and that every item's `pos` equals the slot it sits in. -/

abbrev Item := Nat × Nat

def stamp (l : List Item) (i : Nat) (x : Item) : List Item := l.set i (x.1, i)

def keys (l : List Item) : List Nat := l.map (·.1)

def siftUpLoopP (tmp : Item) (l : List Item) (index : Nat) : List Item × Nat :=
  if h : index = 0 then (stamp l index tmp, index) else
  let parent := hparent index
  let l1 := stamp l index (l.getD parent (0, 0))
  if parent = 0 then (stamp l1 parent tmp, parent)
  else if cmp tmp.1 (l1.getD (hparent parent) (0, 0)).1 ≤ 0 then (stamp l1 parent tmp, parent)
  else siftUpLoopP tmp l1 parent
termination_by index
decreasing_by unfold hparent; omega

def siftUpP (l : List Item) (index : Nat) : List Item × Nat :=
  if index > 0 then
    if cmp (l.getD index (0, 0)).1 (l.getD (hparent index) (0, 0)).1 > 0 then siftUpLoopP (l.getD index (0, 0)) l index
    else (l, index)
  else (l, index)

def pickChildP (l : List Item) (index : Nat) : Nat :=
  if 2 * index + 2 < l.length then
    (if cmp (l.getD (2 * index + 2) (0, 0)).1 (l.getD (2 * index + 1) (0, 0)).1 > 0 then 2 * index + 2 else 2 * index + 1)
  else 2 * index + 1

theorem lt_pickChildP (l : List Item) (index : Nat) : index < pickChildP l index := by
  fun_cases pickChildP l index <;> omega

def siftDownLoopP (tmp : Item) (l : List Item) (index : Nat) : List Item × Nat :=
  let child := pickChildP l index
  if cmp tmp.1 (l.getD child (0, 0)).1 > 0 then (stamp l index tmp, index)
  else
    let l1 := stamp l index (l.getD child (0, 0))
    if child < l.length / 2 then siftDownLoopP tmp l1 child
    else (stamp l1 child tmp, child)
termination_by l.length - index
decreasing_by
  simp only [stamp, List.length_set]
  have := lt_pickChildP l index
  omega

def siftDownP (l : List Item) (index : Nat) : List Item × Nat :=
  if index < l.length / 2 then siftDownLoopP (l.getD index (0, 0)) l index else (l, index)

/-- hawk_arr_pushheap: insert at the back, HEAP_UPDATE_POS there, sift up (the caller's `pos` field is overwritten) -/
def pushheapP (l : List Item) (k : Nat) : List Item :=
  (siftUpP (l ++ [(k, l.length)]) l.length).1

def deleteheapP (l : List Item) (index : Nat) : List Item × Option Nat :=
  if h : index < l.length then
    let tmp := l[index]
    let n := l.length - 1
    if n > 0 ∧ index ≠ n then
      let l1 := (stamp l index (l.getD n (0, 0))).take n
      let c := cmp (l1.getD index (0, 0)).1 tmp.1
      if c > 0 then ((siftUpP l1 index).1, some tmp.1)
      else if c < 0 then ((siftDownP l1 index).1, some tmp.1)
      else (l1, some tmp.1)
    else (l.take n, some tmp.1)
  else (l, none)

def updateheapP (l : List Item) (index k : Nat) : List Item × Option Nat :=
  if h : index < l.length then
    let tmp := l[index]
    let c := cmp k tmp.1
    if c ≠ 0 then
      let l1 := stamp l index (k, 0)
      if c > 0 then ((siftUpP l1 index).1, some tmp.1) else ((siftDownP l1 index).1, some tmp.1)
    else (l, none)
  else (l, none)

/-- every item knows the slot it is in -/
def PosOk (l : List Item) : Prop := ∀ i (h : i < l.length), (l[i]).2 = i

instance (l : List Item) : Decidable (PosOk l) := by
  unfold PosOk
  have : (∀ i (h : i < l.length), (l[i]).2 = i) ↔ (∀ i ∈ List.range l.length, (l.getD i (0, 0)).2 = i) := by
    constructor
    · intro h i hi
      have hl := List.mem_range.mp hi
      simp [List.getD_eq_getElem?_getD, hl, h i hl]
    · intro h i hl
      have := h i (List.mem_range.mpr hl)
      simpa [List.getD_eq_getElem?_getD, hl] using this
  rw [this]; infer_instance

end Hawk.Arr
