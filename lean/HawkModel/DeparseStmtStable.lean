import HawkModel.DeparseStmtLemmas
import HawkModel.DeparseStable
import Std.Data.String.ToNat
/-!
  Second generation of the statement level: the tree read back is equivalent to the original (`canonS`), it satisfies the
  same well-formedness conditions, and its printed text does not change any more.  The renaming of variables (`__gN`, `__lN`,
  `__pN`) is injective and every name it writes resolves back to its variable.
-/
namespace Hawk.Deparse
open Hawk.Gen.Precedence Hawk.Gen.Keywords

def canonO : Option Ast → Option Ast
  | none => none
  | some a => some (canon a)

mutual
/-- statement trees up to the spelling of integer literals and folding of unary operators over them (`canon` everywhere) -/
def canonS : Stmt → Stmt
  | .null => .null
  | .blk nl body => .blk nl (canonSL body)
  | .ift c t => .ift (canon c) (canonS t)
  | .ife c t e => .ife (canon c) (canonS t) (canonS e)
  | .whl c b => .whl (canon c) (canonS b)
  | .dowhl b c => .dowhl (canonS b) (canon c)
  | .for_ i t u b => .for_ (canonO i) (canonO t) (canonO u) (canonS b)
  | .forin x b => .forin (canon x) (canonS b)
  | .brk => .brk
  | .cont => .cont
  | .ret v => .ret (canonO v)
  | .exit_ ab v => .exit_ ab (canonO v)
  | .next => .next
  | .nextfile o => .nextfile o
  | .del v => .del (canon v)
  | .reset v => .reset (canon v)
  | .prt f args out => .prt f (canonL args) (match out with | none => none | some (r, o) => some (r, canon o))
  | .expr e => .expr (canon e)
def canonSL : StmtL → StmtL
  | .nil => .nil
  | .cons s t => .cons (canonS s) (canonSL t)
end

def EquivS (a b : Stmt) : Prop := canonS a = canonS b

theorem canonO_normO (v : Option Ast) : canonO (normO v) = canonO v := by
  cases v <;> simp [canonO, normO, canon_norm]

mutual
theorem canon_normS : (s : Stmt) → canonS (normS s) = canonS s
  | .null | .brk | .cont | .next | .nextfile _ => rfl
  | .blk nl body => by simp only [normS, canonS, canon_normSL body]
  | .ift c t | .whl c t | .dowhl t c | .forin c t => by simp only [normS, canonS, canon_norm, canon_normS t]
  | .ife c t e => by simp only [normS, canonS, canon_norm, canon_normS t, canon_normS e]
  | .for_ i t u b => by simp only [normS, canonS, canonO_normO, canon_normS b]
  | .ret v | .exit_ _ v => by simp only [normS, canonS, canonO_normO]
  | .del v | .reset v | .expr v => by simp only [normS, canonS, canon_norm]
  | .prt f args out => by
    cases out with
    | none => simp only [normS, canonS, canonL_normL]
    | some p => obtain ⟨r, o⟩ := p; simp only [normS, canonS, canonL_normL, canon_norm]
theorem canon_normSL : (l : StmtL) → canonSL (normSL l) = canonSL l
  | .nil => rfl
  | .cons s t => by simp only [normSL, canonSL, canon_normS s, canon_normSL t]
end

theorem opndP_norm_norm (a : Ast) : opndP (norm (norm a)) = opndP (norm a) := by
  simp only [opndP, norm_isAss, printP_norm_norm]

theorem ex_norm_norm (a : Ast) : ex (norm (norm a)) = ex (norm a) := by simp only [ex, printP_norm_norm]
theorem opx_norm_norm (a : Ast) : opx (norm (norm a)) = opx (norm a) := by simp only [opx, opndP_norm_norm]
theorem optEx_norm_norm (v : Option Ast) : optEx (normO (normO v)) = optEx (normO v) := by
  cases v <;> simp [optEx, normO, ex_norm_norm]

theorem argList_norm_norm : (l : AstL) → argList (normL (normL l)) = argList (normL l)
  | .nil => rfl
  | .cons a .nil => by simp only [normL, argList, opx_norm_norm]
  | .cons a (.cons b t) => by
    have ih := argList_norm_norm (.cons b t)
    simp only [normL] at ih ⊢
    simp only [argList, opx_norm_norm, ih]

theorem isBlk_normS (s : Stmt) : (normS s).isBlk = s.isBlk := by cases s <;> rfl

mutual
theorem printS_norm_norm : (s : Stmt) → (outer d : Nat) → printS outer d (normS (normS s)) = printS outer d (normS s)
  | .null, _, _ | .brk, _, _ | .cont, _, _ | .next, _, _ | .nextfile _, _, _ => rfl
  | .blk nl body, outer, d => by simp only [normS, printS, printSL_norm_norm body]
  | .ift c t, outer, d | .whl c t, outer, d | .dowhl t c, outer, d | .forin c t, outer, d => by
    simp only [normS, printS, ex_norm_norm, isBlk_normS, printS_norm_norm t]
  | .ife c t e, outer, d => by simp only [normS, printS, ex_norm_norm, isBlk_normS, printS_norm_norm t, printS_norm_norm e]
  | .for_ i t u b, outer, d => by simp only [normS, printS, optEx_norm_norm, isBlk_normS, printS_norm_norm b]
  | .ret v, outer, d | .exit_ _ v, outer, d => by cases v <;> simp only [normS, normO, printS, ex_norm_norm]
  | .del v, outer, d | .reset v, outer, d | .expr v, outer, d => by simp only [normS, printS, ex_norm_norm]
  | .prt f args out, outer, d => by
    cases args with
    | nil => cases out with
      | none => rfl
      | some p => obtain ⟨r, o⟩ := p; simp only [normS, normL, printS, opx_norm_norm]
    | cons a t =>
      have := argList_norm_norm (.cons a t)
      simp only [normL] at this
      cases out with
      | none => simp only [normS, normL, printS, this]
      | some p => obtain ⟨r, o⟩ := p; simp only [normS, normL, printS, this, opx_norm_norm]
theorem printSL_norm_norm : (l : StmtL) → (outer d : Nat) → printSL outer d (normSL (normSL l)) = printSL outer d (normSL l)
  | .nil, _, _ => rfl
  | .cons s t, outer, d => by simp only [normSL, printSL, printS_norm_norm s, printSL_norm_norm t]
end

theorem openIf_normS : (s : Stmt) → openIf (normS s) = openIf s
  | .ife c t e => by simp only [normS, openIf, openIf_normS e]
  | .whl c b => by simp only [normS, openIf, openIf_normS b]
  | .for_ i t u b => by simp only [normS, openIf, openIf_normS b]
  | .forin x b => by simp only [normS, openIf, openIf_normS b]
  | .ift _ _ | .null | .blk _ _ | .dowhl _ _ | .brk | .cont | .ret _ | .exit_ _ _ | .next | .nextfile _ | .del _ | .reset _
  | .prt _ _ _ | .expr _ => rfl

theorem WFO_norm (v : Option Ast) (h : WFO v) : WFO (normO v) := by
  cases v with
  | none => trivial
  | some a => exact WFparse_norm a h

theorem grpAlone_norm (l : AstL) (h : grpAlone l) : grpAlone (normL l) := by
  cases l with
  | nil => trivial
  | cons a t =>
    cases a with
    | grp b => simp only [grpAlone] at h; subst h; simp [normL, norm, grpAlone]
    | int v t' =>
      cases t' with
      | none => simp only [normL, norm]; split <;> trivial
      | some _ => trivial
    | unr op e => simp only [normL, norm]; split <;> simp [grpAlone]
    | _ => trivial

theorem lastNotRedir_norm : (l : AstL) → lastNotRedir l → lastNotRedir (normL l)
  | .nil, _ => trivial
  | .cons a .nil, h => by
    simp only [lastNotRedir, lastArg, normL] at h ⊢
    rw [isRedirBin_norm]; exact h
  | .cons a (.cons b t), h => by
    have ih := lastNotRedir_norm (.cons b t) (by simpa only [lastNotRedir, lastArg] using h)
    simp only [normL] at ih ⊢
    simpa only [lastNotRedir, lastArg] using ih

mutual
theorem WFS_norm : (s : Stmt) → WFS s → WFS (normS s)
  | .null, _ | .brk, _ | .cont, _ | .next, _ | .nextfile _, _ => trivial
  | .blk nl body, h => by simp only [WFS, normS] at h ⊢; exact WFSL_norm body h
  | .ift c t, h | .whl c t, h | .dowhl t c, h => by simp only [WFS, normS] at h ⊢; exact ⟨WFparse_norm c h.1, WFS_norm t h.2⟩
  | .ife c t e, h => by
    simp only [WFS, normS] at h ⊢
    exact ⟨WFparse_norm c h.1, WFS_norm t h.2.1, WFS_norm e h.2.2.1, by rw [openIf_normS]; exact h.2.2.2⟩
  | .for_ i t u b, h => by
    simp only [WFS, normS] at h ⊢
    exact ⟨WFO_norm i h.1, WFO_norm t h.2.1, WFO_norm u h.2.2.1, WFS_norm b h.2.2.2⟩
  | .forin x b, h => by
    simp only [WFS, normS] at h ⊢
    exact ⟨WFparse_norm x h.1, by rw [isForinHead_norm]; exact h.2.1, WFS_norm b h.2.2⟩
  | .ret v, h | .exit_ _ v, h => by simp only [WFS, normS] at h ⊢; exact WFO_norm v h
  | .del v, h => by simp only [WFS, normS] at h ⊢; exact ⟨WFparse_norm v h.1, by rw [norm_isVar]; exact h.2⟩
  | .reset v, h => by simp only [WFS, normS] at h ⊢; obtain ⟨nm, rfl⟩ := h; exact ⟨nm, by simp [norm]⟩
  | .prt f args out, h => by
    simp only [WFS] at h
    obtain ⟨h1, h3, h4, h5⟩ := h
    simp only [WFS, normS]
    refine ⟨WFparseL_norm args h1, fun hf => normL_ne_nil args (h3 hf), grpAlone_norm args h4, ?_⟩
    cases out with
    | none => trivial
    | some p => obtain ⟨r, o⟩ := p; exact WFparse_norm o h5
  | .expr e, h => by simp only [WFS, normS] at h ⊢; exact WFparse_norm e h
theorem WFSL_norm : (l : StmtL) → WFSL l → WFSL (normSL l)
  | .nil, _ => trivial
  | .cons s t, h => by
    simp only [WFSL, normSL] at h ⊢
    exact ⟨WFS_norm s h.1, by rw [dropped_norm]; exact h.2.1, WFSL_norm t h.2.2⟩
end

mutual
theorem sz_normS : (s : Stmt) → sz (normS s) = sz s
  | .blk nl body => by simp only [normS, sz, szL_normSL body]
  | .ift _ t | .whl _ t | .dowhl t _ | .for_ _ _ _ t | .forin _ t => by simp only [normS, sz, sz_normS t]
  | .ife c t e => by simp only [normS, sz, sz_normS t, sz_normS e]
  | .null | .brk | .cont | .ret _ | .exit_ _ _ | .next | .nextfile _ | .del _ | .reset _ | .prt _ _ _ | .expr _ => rfl
theorem szL_normSL : (l : StmtL) → szL (normSL l) = szL l
  | .nil => rfl
  | .cons s t => by simp only [normSL, szL, sz_normS s, szL_normSL t]
end

/-- the name the deparser writes for variable number `i` of kind `c` (`g` global, `l` local, `p` parameter) -/
def renName (c : Char) (i : Nat) : String := "__" ++ (String.singleton c ++ toString i)

theorem renName_injective (c c' : Char) (i i' : Nat) (h : renName c i = renName c' i') : c = c' ∧ i = i' := by
  have h1 := congrArg String.toList h
  simp only [renName, String.toList_append, String.toList_singleton] at h1
  have h2 : c :: (toString i).toList = c' :: (toString i').toList := by
    have : ("__" : String).toList = ['_', '_'] := rfl
    rw [this] at h1
    simpa using h1
  injection h2 with hc hr
  refine ⟨hc, ?_⟩
  have : toString i = toString i' := String.ext hr
  exact Nat.repr_injective this

/-- the names written by `canonList "__g"`, `"__p"`, `"__l"` (the last is `lclList`) are `renName 'g'`, `'p'`, `'l'` -/
theorem canonTok_renName (c : Char) (i : Nat) : (canonTok ("__" ++ String.singleton c) i).s = renName c i :=
  String.append_assoc ..

/-- the names declared for `n` variables of kind `c` numbered from `b` (`@global __g22, __g23;`, `function f (__p0, __p1)`,
    `@local __l0, __l1;`) in declaration order -/
def declNames (c : Char) : Nat → Nat → List String
  | _, 0 => []
  | b, n + 1 => renName c b :: declNames c (b + 1) n

/-- position of a name in a declaration list (the parser's linear / hashed search, first match), counted from `i` -/
def findName (nm : String) : List String → Nat → Option Nat
  | [], _ => none
  | x :: r, i => if x = nm then some i else findName nm r (i + 1)

theorem findName_spec (c c' : Char) (x : Nat) : ∀ (n b i : Nat),
    findName (renName c' x) (declNames c b n) i = if c' = c ∧ b ≤ x ∧ x < b + n then some (i + (x - b)) else none
  | 0, b, i => by simp [declNames, findName]
  | n + 1, b, i => by
    have ih := findName_spec c c' x n (b + 1) (i + 1)
    by_cases h : renName c b = renName c' x
    · obtain ⟨rfl, rfl⟩ := renName_injective _ _ _ _ h
      simp [declNames, findName]
    · have hne : ¬ (c' = c ∧ b = x) := fun ⟨h1, h2⟩ => h (by rw [h1, h2])
      simp only [declNames, findName, h, if_false, ih]
      by_cases hc : c' = c
      · have hiff : (b + 1 ≤ x ∧ x < b + 1 + n) ↔ (b ≤ x ∧ x < b + (n + 1)) := by
          have : b ≠ x := fun e => hne ⟨hc, e⟩
          omega
        simp only [hc, true_and, hiff]
        split
        · congr 1; omega
        · rfl
      · simp [hc]

/-- name resolution of parse_primary_ident: a local first, then a parameter, then a global (each answered with kind and number) -/
def resolveName (nL nP gb nG : Nat) (nm : String) : Option (Char × Nat) :=
  match findName nm (declNames 'l' 0 nL) 0 with
  | some i => some ('l', i)
  | none =>
    match findName nm (declNames 'p' 0 nP) 0 with
    | some i => some ('p', i)
    | none =>
      match findName nm (declNames 'g' gb nG) gb with
      | some i => some ('g', i)
      | none => none

theorem resolve_local (nL nP gb nG i : Nat) (h : i < nL) : resolveName nL nP gb nG (renName 'l' i) = some ('l', i) := by
  simp [resolveName, findName_spec, h]

theorem resolve_param (nL nP gb nG i : Nat) (h : i < nP) : resolveName nL nP gb nG (renName 'p' i) = some ('p', i) := by
  simp [resolveName, findName_spec, h]

theorem resolve_global (nL nP gb nG i : Nat) (h : i < nG) : resolveName nL nP gb nG (renName 'g' (gb + i)) = some ('g', gb + i) := by
  simp [resolveName, findName_spec, h]

end Hawk.Deparse
