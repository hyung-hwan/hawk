import HawkModel.CoreLemmas
import HawkModel.Fmt
/-!
Lemmas about `HawkModel.Fmt`, organised around one specification written as flags `fl`, width `w`, precision `p` and its readings: run.c's
state at the conversion character (`headOf`), C's (`cspec`), fmt.c's (`libcState`), the text for libc (`libcSpecOf`).  `fmt_uintmax` and the
flag loops are first put in closed form (`fmtLayout`, `foldl_cflagStep_eq`) and compared with `CSpec` in that form.
-/
namespace Hawk.Fmt

theorem xdigit_lower : ∀ d, d < 16 → xdigit false d = Nat.digitChar d := by decide +kernel

theorem xdigit_upper : ∀ d, d < 16 → xdigit true d = (Nat.digitChar d).toUpper := by decide +kernel

theorem revDigits_eq (base : Nat) (upper : Bool) (v : Nat) (hb : 2 ≤ base) :
    revDigits base upper v =
      if v / base > 0 then xdigit upper (v % base) :: revDigits base upper (v / base) else [xdigit upper (v % base)] := by
  rw [revDigits]
  have : ¬ base < 2 := by omega
  simp [this]

theorem revDigits_reverse (base : Nat) (upper : Bool) (hb : 2 ≤ base) (hb16 : base ≤ 16) (v : Nat) :
    (revDigits base upper v).reverse = (Nat.toDigits base v).map (fun c => if upper then c.toUpper else c) := by
  induction v using Nat.strongRecOn with
  | _ v ih =>
    rw [revDigits_eq base upper v hb, Nat.toDigits_eq_if (by omega)]
    have hx : ∀ d, d < base → xdigit upper d = (fun c => if upper then c.toUpper else c) (Nat.digitChar d) := by
      intro d hd
      cases upper
      · simpa using xdigit_lower d (by omega)
      · simpa using xdigit_upper d (by omega)
    by_cases hlt : v < base
    · have h0 : v / base = 0 := Nat.div_eq_of_lt hlt
      have hm : v % base = v := Nat.mod_eq_of_lt hlt
      simp [hlt, h0, hm, hx v hlt]
    · have hpos : v / base > 0 := Nat.div_pos (by omega) (by omega)
      have hlt2 : v / base < v := Nat.div_lt_self (by omega) (by omega)
      have hm : v % base < base := Nat.mod_lt _ (by omega)
      simp only [hpos, hlt, if_true, if_false, List.reverse_cons, ih _ hlt2, List.map_append, List.map_cons, List.map_nil]
      rw [hx _ hm]

theorem revDigits_length_pos (base : Nat) (upper : Bool) (v : Nat) : 0 < (revDigits base upper v).length := by
  rw [revDigits]
  split
  · simp
  · split <;> simp

theorem put_fits (be : Nat) (out cs : Str) (h : out.length + cs.length ≤ be) : put be out cs = out ++ cs := by
  unfold put
  rw [List.take_of_length_le (by omega)]

theorem put_fits_twice (be : Nat) (o a b : Str) (h : o.length + a.length + b.length ≤ be) :
    put be (put be o a) b = o ++ a ++ b := by
  rw [put_fits be o a (by omega), put_fits be (o ++ a) b (by simp; omega)]

theorem put_fits_four (be : Nat) (o a b c d : Str) (h : o.length + a.length + b.length + c.length + d.length ≤ be) :
    put be (put be (put be (put be o a) b) c) d = o ++ a ++ b ++ c ++ d := by
  rw [put_fits_twice be o a b (by omega), put_fits_twice be (o ++ a ++ b) c d (by simp; omega)]

/-- the digit string (most significant first) `fmt_uintmax` emits -/
def fmtDigits (f : IFlags) (value : Nat) : Str :=
  if f.nozero ∧ value = 0 then [] else (revDigits f.base f.uppercase value).reverse

/-- number of zeros emitted in front of the digits (`preczero`) -/
def fmtPz (f : IFlags) (value : Nat) (prec : Int) : Nat :=
  if f.nozero ∧ value = 0 then (if f.zerolead then 1 else 0)
  else
    let n := (revDigits f.base f.uppercase value).length
    if prec > (n : Int) then prec.toNat - n else if f.zerolead ∧ value ≠ 0 then 1 else 0

/-- `reslen` after sign and prefix were counted -/
def fmtReslen (f : IFlags) (value : Nat) (prec : Int) (sign : Option Char) (pfx : Option Str) : Nat :=
  (optStr sign).length + (pfx.getD []).length + fmtPz f value prec + (fmtDigits f value).length

/-- what `fmt_uintmax` leaves in a buffer of `size` characters that holds the result (`fmtReslen ≤ size`) -/
def fmtLayout (f : IFlags) (value : Nat) (prec : Int) (fillc sign : Option Char) (pfx : Option Str) (size : Nat) : Str :=
  let s := optStr sign
  let p := pfx.getD []
  let z := List.replicate (fmtPz f value prec) '0'
  let d := fmtDigits f value
  let pad := size - fmtReslen f value prec sign pfx
  match fillc with
  | none => s ++ p ++ z ++ d
  | some fc =>
    if f.fillright then s ++ p ++ z ++ d ++ List.replicate pad fc
    else if f.fillcenter then s ++ p ++ List.replicate pad fc ++ z ++ d
    else List.replicate pad fc ++ s ++ p ++ z ++ d

theorem fmtLayout_length (f : IFlags) (value : Nat) (prec : Int) (fillc sign : Option Char) (pfx : Option Str) (size : Nat)
    (h : fmtReslen f value prec sign pfx ≤ size) :
    (fmtLayout f value prec fillc sign pfx size).length =
      match fillc with | none => fmtReslen f value prec sign pfx | some _ => size := by
  unfold fmtLayout fmtReslen at *
  cases fillc with
  | none => simp only [List.length_append, List.length_replicate]
  | some fc =>
    simp only [apply_ite List.length, List.length_append, List.length_replicate]
    split
    · omega
    · split <;> omega

theorem digitsPart_eq (f : IFlags) (value : Nat) (prec : Int) :
    digitsPart f value prec = ((fmtDigits f value).reverse, fmtPz f value prec + (fmtDigits f value).length, fmtPz f value prec) := by
  unfold digitsPart fmtDigits fmtPz
  by_cases h1 : f.nozero = true ∧ value = 0
  · simp only [h1, and_self, if_true]
    split <;> simp
  · simp only [h1, if_false, List.reverse_reverse, List.length_reverse]
    split
    · have := revDigits_length_pos f.base f.uppercase value
      simp; omega
    · split <;> simp [Nat.add_comm]

theorem fmtUintmax_eq (size value : Nat) (f : IFlags) (prec : Int) (fillc sign : Option Char) (pfx : Option Str)
    (hb : 2 ≤ f.base ∧ f.base ≤ 36) (hnt : f.notrunc = true) (hnn : f.nonull = true) :
    fmtUintmax size value f prec fillc sign pfx =
      if size = 0 ∨ size < fmtReslen f value prec sign pfx then (-(fmtReslen f value prec sign pfx : Int), [])
      else (((fmtLayout f value prec fillc sign pfx size).length : Int), fmtLayout f value prec fillc sign pfx size) := by
  have hb' : ¬ (f.base < 2 ∨ f.base > 36) := by omega
  unfold fmtUintmax
  simp only [hb', if_false, hnt, hnn, if_true, true_and, digitsPart_eq, List.reverse_reverse]
  have hres : ((if sign.isSome = true then fmtPz f value prec + (fmtDigits f value).length + 1 else fmtPz f value prec + (fmtDigits f value).length) +
      (pfx.getD []).length) = fmtReslen f value prec sign pfx := by
    unfold fmtReslen
    cases sign <;> simp [optStr] <;> omega
  simp only [hres]
  by_cases hsz : size = 0 ∨ size < fmtReslen f value prec sign pfx
  · rw [if_pos hsz, if_pos hsz]
  · rw [if_neg hsz, if_neg hsz]
    simp only [fill, fmtLayout, fmtReslen] at hsz ⊢
    cases fillc with
    | none => rw [put_fits_four size [] _ _ _ _ (by simp; omega), List.nil_append]
    | some fc =>
      dsimp only
      by_cases hfr : f.fillright = true
      · rw [if_pos hfr, if_pos hfr, put_fits_four size [] _ _ _ _ (by simp; omega), List.nil_append]
      · rw [if_neg hfr, if_neg hfr]
        by_cases hfc : f.fillcenter = true
        · rw [if_pos hfc, if_pos hfc, put_fits_twice size [] _ _ (by simp; omega),
            put_fits_twice size _ _ _ (by simp; omega), List.nil_append]
        · rw [if_neg hfc, if_neg hfc, put_fits_four size _ _ _ _ _ (by simp; omega), List.nil_append]

theorem retryLoop_fmtUintmax (size value : Nat) (f : IFlags) (prec : Int) (fillc sign : Option Char) (pfx : Option Str)
    (hb : 2 ≤ f.base ∧ f.base ≤ 36) (hnt : f.notrunc = true) (hnn : f.nonull = true) :
    retryLoop (fun sz => fmtUintmax sz value f prec fillc sign pfx) size =
      fmtLayout f value prec fillc sign pfx (max size (fmtReslen f value prec sign pfx)) := by
  have hlen : ∀ l : Str, ¬ ((l.length : Int) ≤ -1) := fun l => by omega
  unfold retryLoop
  simp only [fmtUintmax_eq _ _ _ _ _ _ _ hb hnt hnn]
  by_cases h1 : size = 0 ∨ size < fmtReslen f value prec sign pfx
  · simp only [h1, if_true]
    by_cases hR : fmtReslen f value prec sign pfx = 0
    · have hs : size = 0 := by omega
      have hnil : fmtLayout f value prec fillc sign pfx 0 = [] := by
        apply List.eq_nil_of_length_eq_zero
        rw [fmtLayout_length f value prec fillc sign pfx 0 (by omega)]
        cases fillc <;> simp [hR]
      simp [hR, hs, hnil]
    · have hneg : -(fmtReslen f value prec sign pfx : Int) ≤ -1 := by omega
      have hmax : max size (fmtReslen f value prec sign pfx) = fmtReslen f value prec sign pfx := by omega
      simp only [hneg, if_true, Int.neg_neg, Int.toNat_natCast, hR, Nat.lt_irrefl, or_self, if_false, hmax]
      simp [hlen]
  · simp only [h1, if_false]
    have hmax : max size (fmtReslen f value prec sign pfx) = size := by omega
    simp [hlen, hmax]

theorem digits_eq (c : Char) (m : Nat) (hb : 2 ≤ CSpec.base c ∧ CSpec.base c ≤ 16) :
    (revDigits (CSpec.base c) (c == 'X') m).reverse = CSpec.digits c m := by
  rw [revDigits_reverse _ _ hb.1 hb.2]
  unfold CSpec.digits
  by_cases h : c = 'X' <;> simp [h]

/-- C's precision for the `prec` hawk works with: negative = omitted -/
def precOpt (prec : Int) : Option Nat := if prec < 0 then none else some prec.toNat

theorem precOpt_zero_iff (prec : Int) : precOpt prec = some 0 ↔ prec = 0 := by
  unfold precOpt
  by_cases h : prec < 0
  · simp [h]; omega
  · simp [h]; omega

theorem num_eq (f : IFlags) (s : CSpec.Spec) (m : Nat) (prec : Int)
    (hbase : f.base = CSpec.base s.conv) (hb : 2 ≤ f.base ∧ f.base ≤ 16)
    (hup : f.uppercase = (s.conv == 'X'))
    (hnz : f.nozero = decide (s.prec = some 0 ∧ m = 0))
    (hzl : f.zerolead = (s.conv == 'o' && s.flags.hash))
    (hprec : s.prec = precOpt prec) :
    List.replicate (fmtPz f m prec) '0' ++ fmtDigits f m = CSpec.numOf s m := by
  have hD : (revDigits f.base f.uppercase m).reverse = CSpec.digits s.conv m := by
    rw [hbase, hup]; exact digits_eq _ _ (hbase ▸ hb)
  have hlen : (revDigits f.base f.uppercase m).length = (CSpec.digits s.conv m).length := by
    rw [← hD, List.length_reverse]
  have hpos : 0 < (CSpec.digits s.conv m).length := by
    rw [← hlen]; exact revDigits_length_pos _ _ _
  -- the first octal digit is `0` for the value 0 only
  have hhead : (s.conv == 'o' && s.flags.hash) = true → ((CSpec.digits s.conv m).head? = some '0' ↔ m = 0) := by
    intro ho
    obtain ⟨hc, -⟩ : s.conv = 'o' ∧ s.flags.hash = true := by simpa using ho
    have : CSpec.digits s.conv m = Nat.toDigits 8 m := by simp [CSpec.digits, CSpec.base, hc]
    rw [this]; exact Nat.head?_toDigits_eq_zero_iff 8 (by omega) m
  unfold fmtPz fmtDigits CSpec.numOf CSpec.digitsOf
  simp only [hnz, hzl, decide_eq_true_eq, hD, hlen, ← and_assoc, ← Bool.and_eq_true]
  generalize CSpec.digits s.conv m = D at *
  by_cases hA : s.prec = some 0 ∧ m = 0
  · -- no digit; `#o` still writes its `0`
    simp only [hA, and_self, if_true]
    cases ho : (s.conv == 'o' && s.flags.hash) <;> simp [CSpec.zeros]
  · simp only [hA, false_and, if_false]
    by_cases hgt : prec > (D.length : Int)
    · -- the precision asks for at least one `0` in front
      have hsp : s.prec = some prec.toNat := by rw [hprec, precOpt, if_neg (by omega)]
      obtain ⟨k, hk⟩ := Nat.exists_eq_add_one_of_ne_zero (Nat.sub_ne_zero_of_lt (Int.lt_toNat.mpr hgt))
      simp [hgt, hsp, CSpec.zeros, hk, List.replicate_succ]
    · have hz : s.prec.getD 1 - D.length = 0 := by
        apply Nat.sub_eq_zero_of_le
        rw [hprec, precOpt]
        split
        · exact hpos
        · exact Int.toNat_le.mpr (Int.not_lt.mp hgt)
      simp only [hgt, if_false, hz, CSpec.zeros, List.replicate_zero, List.nil_append]
      cases ho : (s.conv == 'o' && s.flags.hash)
      · simp
      · by_cases hm : m = 0 <;> simp [hhead ho, hm]

theorem fillOf_eq (flags : Flags) (width : Nat) (precGiven : Bool) (prec : Int) :
    fillOf flags width precGiven prec =
      if width = 0 then (false, false, none)
      else if flags.minus then (true, false, some ' ')
      else if flags.zero ∧ (precGiven = false ∨ prec < 0) then (false, true, some '0')
      else (false, false, some ' ') := by
  unfold fillOf
  by_cases hw : width = 0
  · simp [hw]
  · cases flags.zero <;> cases flags.minus <;> cases precGiven <;> simp [hw, Nat.pos_of_ne_zero hw]

/-- `fmt_uintmax` in the retry loop is `CSpec.render` once sign, prefix, number and fill agree with C's part by part: the hypotheses
are what `emitInt_eq_render` has at hand for either callee -/
theorem layout_render (f : IFlags) (s : CSpec.Spec) (v : Int) (prec : Int) (fillc sign : Option Char) (pfx : Option Str)
    (tmpLen : Nat) (precGiven : Bool)
    (hb : 2 ≤ f.base ∧ f.base ≤ 16) (hnt : f.notrunc = true) (hnn : f.nonull = true)
    (hsign : optStr sign = CSpec.signOf s v)
    (hpfx : pfx.getD [] = CSpec.prefixOf s (CSpec.mag s.conv v))
    (hnum : List.replicate (fmtPz f (CSpec.mag s.conv v) prec) '0' ++ fmtDigits f (CSpec.mag s.conv v)
              = CSpec.numOf s (CSpec.mag s.conv v))
    (hfill : (f.fillright, f.fillcenter, fillc) = fillOf s.flags s.width precGiven prec)
    (hprec : s.prec = precOpt prec) (hpg : precGiven = false → prec = -1) :
    retryLoop (fun sz => fmtUintmax sz (CSpec.mag s.conv v) f prec fillc sign pfx) (if s.width > 0 then s.width else tmpLen)
      = CSpec.render s v := by
  rw [retryLoop_fmtUintmax _ _ _ _ _ _ _ ⟨hb.1, by omega⟩ hnt hnn]
  have hres : fmtReslen f (CSpec.mag s.conv v) prec sign pfx
      = (CSpec.signOf s v ++ CSpec.prefixOf s (CSpec.mag s.conv v) ++ CSpec.numOf s (CSpec.mag s.conv v)).length := by
    unfold fmtReslen
    rw [← hnum, ← hsign, ← hpfx]
    simp only [List.length_append, List.length_replicate, Nat.add_assoc]
  have hnone : s.prec = none ↔ (precGiven = false ∨ prec < 0) := by
    rw [hprec, precOpt]
    cases precGiven
    · simp [hpg rfl]
    · by_cases hn : prec < 0 <;> simp [hn]
  unfold fmtLayout CSpec.render
  simp only [hres]
  rw [hsign, hpfx]
  generalize CSpec.signOf s v = S at *
  generalize CSpec.prefixOf s (CSpec.mag s.conv v) = P at *
  generalize CSpec.numOf s (CSpec.mag s.conv v) = N at *
  have hN' : ∀ X : Str, X ++ List.replicate (fmtPz f (CSpec.mag s.conv v) prec) '0' ++ fmtDigits f (CSpec.mag s.conv v) = X ++ N := by
    intro X; rw [List.append_assoc, hnum]
  -- both sides are sign ++ prefix ++ number and `width - length` pad characters; where the pad goes is the four cases of
  -- `fillOf_eq`: no width (no pad), `-`, `0` without a precision, otherwise
  rw [fillOf_eq] at hfill
  by_cases hw : s.width = 0
  · simp only [hw, if_true, Prod.mk.injEq] at hfill
    obtain ⟨-, -, rfl⟩ := hfill
    simp only [hw, Nat.zero_sub, spaces, CSpec.zeros, List.replicate_zero, List.append_nil, List.nil_append, hN', ite_self]
  · have hw' : s.width > 0 := Nat.pos_of_ne_zero hw
    simp only [hw, hw', if_false, if_true] at hfill ⊢
    by_cases hm : s.flags.minus = true
    · simp only [hm, if_true, Prod.mk.injEq] at hfill
      obtain ⟨h1, -, rfl⟩ := hfill
      simp only [h1, hm, if_true, ← Nat.sub_eq_max_sub, hN', spaces]
    · simp only [hm, Bool.false_eq_true, if_false, ← hnone] at hfill
      by_cases hz : s.flags.zero = true ∧ s.prec = none
      · simp only [if_pos hz, Prod.mk.injEq] at hfill
        obtain ⟨h1, h2, rfl⟩ := hfill
        simp only [h1, h2, hm, if_pos hz, Bool.false_eq_true, if_false, if_true, ← Nat.sub_eq_max_sub, hN', CSpec.zeros]
      · simp only [if_neg hz, Prod.mk.injEq] at hfill
        obtain ⟨h1, h2, rfl⟩ := hfill
        simp only [h1, h2, hm, if_neg hz, Bool.false_eq_true, if_false, ← Nat.sub_eq_max_sub, hN', spaces]
        simp only [List.append_assoc]

theorem fmtUintmaxTo_eq (size value : Nat) (f : IFlags) (prec : Int) (fillc : Option Char) (pfx : Option Str) :
    fmtUintmaxTo size value f prec fillc pfx = fmtUintmax size value f prec fillc
      (if f.plussign then some '+' else if f.emptysign then some ' ' else none) pfx := by
  unfold fmtUintmaxTo
  split
  · rfl
  · split <;> rfl

theorem fmtIntmaxTo_eq (size : Nat) (v : Int) (f : IFlags) (prec : Int) (fillc : Option Char) (pfx : Option Str) :
    fmtIntmaxTo size v f prec fillc pfx = fmtUintmax size v.natAbs f prec fillc
      (if v < 0 then some '-' else if f.plussign then some '+' else if f.emptysign then some ' ' else none) pfx := by
  unfold fmtIntmaxTo
  by_cases hv : v < 0
  · simp only [hv, if_true, show (-v).toNat = v.natAbs by omega]
  · simp only [hv, if_false, show v.toNat = v.natAbs by omega]
    exact fmtUintmaxTo_eq size v.natAbs f prec fillc pfx

theorem convOf_spec (flags : Flags) (c : Char) (l : Int) (width : Nat) (po : Option Nat)
    (hc : c = 'd' ∨ c = 'i' ∨ c = 'o' ∨ c = 'u' ∨ c = 'x' ∨ c = 'X')
    (hl : -9223372036854775808 ≤ l ∧ l < 9223372036854775808) :
    ∃ pfx, convOf flags c l = (CSpec.base c, c == 'X', c == 'o' && flags.hash, CSpec.signed c && flags.plus,
        CSpec.signed c && flags.space, !CSpec.signed c, pfx) ∧
      pfx.getD [] = CSpec.prefixOf ⟨flags, width, po, c⟩ (CSpec.mag c l) := by
  have hx : (l % 18446744073709551616).toNat = 0 ↔ l = 0 := by omega
  refine ⟨(convOf flags c l).2.2.2.2.2.2, ?_⟩
  rcases hc with rfl | rfl | rfl | rfl | rfl | rfl
  all_goals simp [convOf, CSpec.base, CSpec.signed, CSpec.prefixOf, CSpec.mag, hx, and_comm, apply_ite (Option.getD · [])]

/-- the integer emitter of run.c + fmt_uintmax = ISO C; `hl`: a 64-bit value -/
theorem emitInt_eq_render (tmpLen : Nat) (flags : Flags) (width : Nat) (precGiven : Bool) (prec : Int) (c : Char) (l : Int)
    (hc : c = 'd' ∨ c = 'i' ∨ c = 'o' ∨ c = 'u' ∨ c = 'x' ∨ c = 'X')
    (hpg : precGiven = false → prec = -1)
    (hl : -9223372036854775808 ≤ l ∧ l < 9223372036854775808) :
    emitInt tmpLen flags width precGiven prec c l = CSpec.render ⟨flags, width, precOpt prec, c⟩ l := by
  obtain ⟨pfx, hcv, hpfx⟩ := convOf_spec flags c l width (precOpt prec) hc hl
  have hb : 2 ≤ CSpec.base c ∧ CSpec.base c ≤ 16 := by
    rcases hc with rfl | rfl | rfl | rfl | rfl | rfl <;> decide
  have hm0 : CSpec.mag c l = 0 ↔ l = 0 := by
    unfold CSpec.mag
    split
    · exact Int.natAbs_eq_zero
    · omega
  have hnz : decide (l = 0 ∧ precGiven = true ∧ prec = 0) = decide (precOpt prec = some 0 ∧ CSpec.mag c l = 0) := by
    apply decide_eq_decide.mpr
    rw [precOpt_zero_iff prec, hm0]
    cases precGiven
    · simp [hpg rfl]
    · simp [and_comm]
  unfold emitInt
  simp only [hcv, fmtIntmaxTo_eq, fmtUintmaxTo_eq]
  -- both callees are `fmt_uintmax` on the magnitude, with a sign character that is the sign C prescribes
  cases hs : CSpec.signed c
  · have hmag : (l % 18446744073709551616).toNat = CSpec.mag c l := by simp [CSpec.mag, hs]
    simp only [Bool.not_false, if_true, Bool.false_and, Bool.false_eq_true, if_false, hmag]
    refine layout_render (s := ⟨flags, width, precOpt prec, c⟩) (precGiven := precGiven) _ _ _ _ _ _ _ hb rfl rfl
      ?_ hpfx (num_eq _ _ _ _ rfl hb rfl hnz rfl rfl) rfl rfl hpg
    simp [optStr, CSpec.signOf, hs]
  · have hmag : l.natAbs = CSpec.mag c l := by simp [CSpec.mag, hs]
    simp only [Bool.not_true, Bool.false_eq_true, if_false, Bool.true_and, hmag]
    refine layout_render (s := ⟨flags, width, precOpt prec, c⟩) (precGiven := precGiven) _ _ _ _ _ _ _ hb rfl rfl
      ?_ hpfx (num_eq _ _ _ _ rfl hb rfl hnz rfl rfl) rfl rfl hpg
    simp only [CSpec.signOf, hs, if_true, apply_ite optStr]
    rfl

theorem emitChar_eq (mbs : Bool) (flags : Flags) (width : Nat) (prec : Int) (po : Option Nat) (a : Arg) (ch : Char)
    (ha : a.chrOf mbs = (ch, 1)) :
    emitChar mbs flags width prec a = CSpec.renderChar ⟨flags, width, po, 'c'⟩ ch := by
  unfold emitChar
  simp only [ha]
  have hp : (if prec ≤ 0 ∨ prec > ((1 : Nat) : Int) then ((1 : Nat) : Int) else prec) = 1 := by
    split <;> omega
  simp only [hp]
  have hw : ((if (1 : Int) > (width : Int) then (1 : Int) else (width : Int)) - 1).toNat = width - 1 := by
    split <;> omega
  simp only [hw, CSpec.renderChar]
  cases flags.minus <;> simp

theorem emitStr_eq (flags : Flags) (width : Nat) (precGiven : Bool) (prec : Int) (a : Arg)
    (hpg : precGiven = false → prec = -1) :
    emitStr flags width precGiven prec a = CSpec.renderStr ⟨flags, width, precOpt prec, 's'⟩ a.strOf := by
  unfold emitStr CSpec.renderStr precOpt
  generalize a.strOf = s
  have hw : ∀ n : Nat, n ≤ s.length →
      ((if (n : Int) > (width : Int) then (n : Int) else (width : Int)) - n).toNat = width - (s.take n).length := by
    intro n hn
    rw [List.length_take, Nat.min_eq_left hn]
    split <;> omega
  -- `n` characters of the string are kept, by hawk's rule and by C's
  obtain ⟨n, hn, hk, ht⟩ : ∃ n : Nat, n ≤ s.length ∧
      (if (!precGiven) = true ∨ prec ≤ -1 ∨ prec > (s.length : Int) then (s.length : Int) else prec) = (n : Int) ∧
      (if prec < 0 then s else s.take prec.toNat) = s.take n := by
    by_cases hneg : prec < 0
    · exact ⟨s.length, Nat.le_refl _, by simp [show prec ≤ -1 by omega], by simp [hneg]⟩
    · have hpgt : precGiven = true := by
        cases h : precGiven
        · have := hpg h; omega
        · rfl
      by_cases hgt : prec > s.length
      · exact ⟨s.length, Nat.le_refl _, by simp [hgt],
          by simp [hneg, List.take_of_length_le (show s.length ≤ prec.toNat by omega)]⟩
      · refine ⟨prec.toNat, by omega, ?_, by simp [hneg]⟩
        rw [if_neg (by simp [hpgt]; omega)]
        omega
  simp only [hk, hw n hn, Int.toNat_natCast]
  by_cases hneg : prec < 0
  · simp only [hneg, if_true] at ht ⊢
    rw [← ht]
    cases flags.minus <;> simp
  · simp only [hneg, if_false] at ht ⊢
    rw [ht]
    cases flags.minus <;> simp

theorem scanFlags_append (fl rest : Str) (f : Flags) (hfl : ∀ c ∈ fl, isFlagChar c = true)
    (hrest : ∀ c ∈ rest.head?, isFlagChar c = false) :
    scanFlags (fl ++ rest) f = (fl.foldl Flags.add f, fl, rest) := by
  induction fl generalizing f with
  | nil =>
    cases rest with
    | nil => simp [scanFlags]
    | cons c r => simp [scanFlags, hrest c rfl]
  | cons c r ih =>
    have hc : isFlagChar c = true := hfl c (by simp)
    simp only [List.cons_append, scanFlags, hc, if_true, List.foldl_cons]
    rw [ih _ (fun d hd => hfl d (by simp [hd]))]

theorem spanDigits_append (ds rest : Str) (hds : ∀ c ∈ ds, c.isDigit = true)
    (hrest : ∀ c ∈ rest.head?, c.isDigit = false) :
    spanDigits (ds ++ rest) = (ds, rest) := by
  induction ds with
  | nil =>
    cases rest with
    | nil => simp [spanDigits]
    | cons c r => simp [spanDigits, hrest c rfl]
  | cons c r ih =>
    have hc : c.isDigit = true := hds c (by simp)
    simp only [List.cons_append, spanDigits, hc, if_true]
    rw [ih (fun d hd => hds d (by simp [hd]))]

theorem parseWP_digits (tmpLen : Nat) (isPrec : Bool) (fbu ds tail : Str) (args : List Arg)
    (hds : ∀ c ∈ ds, c.isDigit = true) (ht : ∀ t ∈ tail.head?, t.isDigit = false ∧ t ≠ '*') :
    parseWP tmpLen isPrec fbu (ds ++ tail) args =
      .ok (if ds = [] then { val := none, fbu := fbu, rest := tail, args := args, used := 0 }
           else { val := some (decVal ds : Int), fbu := fbu ++ ds, rest := tail, args := args, used := ds.length }) := by
  have hstar : ∀ r, ds ++ tail ≠ '*' :: r := by
    intro r h
    cases ds with
    | nil => exact (ht '*' (congrArg List.head? h)).2 rfl
    | cons d ds' =>
      have hd := hds d (by simp)
      simp at h
      rw [h.1] at hd
      simp at hd
  unfold parseWP
  split
  · rename_i h; exact absurd h (hstar _)
  · rename_i h; exact absurd h (hstar _)
  · rw [spanDigits_append ds tail hds (fun c h => (ht c h).1)]
    by_cases h : ds = [] <;> simp [h]

theorem parseWP_width (tmpLen : Nat) (fbu : Str) (w : WSpec) (hw : w.wf) (tail : Str) (more : List Arg)
    (ht : ∀ t ∈ tail.head?, t.isDigit = false ∧ t ≠ '*') :
    parseWP tmpLen false fbu (w.text ++ tail) (w.args ++ more) =
      .ok { val := w.val, fbu := fbu ++ w.fbuText tmpLen, rest := tail, args := more, used := w.text.length } := by
  cases w with
  | none => simpa [WSpec.text, WSpec.args, WSpec.val, WSpec.fbuText] using parseWP_digits tmpLen false fbu [] tail more (by simp) ht
  | lit ds =>
    have := parseWP_digits tmpLen false fbu ds tail more hw.2.1 ht
    simpa [WSpec.text, WSpec.args, WSpec.val, WSpec.fbuText, hw.1] using this
  | star v =>
    simp only [WSpec.text, WSpec.args, List.cons_append, List.nil_append]
    unfold parseWP
    simp [WSpec.val, WSpec.fbuText, Arg.toInt]

theorem parseWP_prec_star (tmpLen : Nat) (fbu : Str) (v : Int) (rest : Str) (more : List Arg) :
    parseWP tmpLen true (fbu ++ ['.']) ('*' :: rest) (Arg.int v :: more) =
      .ok { val := (PSpec.star v).pval, fbu := fbu ++ (PSpec.star v).fbuText tmpLen, rest := rest, args := more, used := 1 } := by
  unfold parseWP
  by_cases hv : v < 0 <;> simp [Arg.toInt, hv, PSpec.pval, PSpec.fbuText]

theorem digit_not_punct_z (d : Char) (hd : d.isDigit = true) :
    d ≠ '.' ∧ d ≠ '#' ∧ d ≠ ' ' ∧ d ≠ '+' ∧ d ≠ '-' ∧ d ≠ 'z' := by
  refine ⟨?_, ?_, ?_, ?_, ?_, ?_⟩ <;> (intro h; rw [h] at hd; simp at hd)

theorem digit_not_flag (d : Char) (hd : d.isDigit = true) (h0 : d ≠ '0') : isFlagChar d = false := by
  obtain ⟨-, h2, h1, h3, h4, -⟩ := digit_not_punct_z d hd
  simp [isFlagChar, h0, h1, h2, h3, h4]

/-- well-formedness of the parts: only flag characters; a literal width is a non-empty digit string not
starting with 0; a literal precision is a (possibly empty) digit string -/
structure SpecWF (fl : Str) (w : WSpec) (p : PSpec) : Prop where
  hfl : ∀ c ∈ fl, isFlagChar c = true
  hw : w.wf
  hp : p.wf

/-- the state in which `dispatch` is entered for a well-formed specification -/
def headOf (cfg : Cfg) (fl : Str) (w : WSpec) (p : PSpec) (tail : Str) (more : List Arg) : Head :=
  { flags := flagsOf fl, wval := w.val, precGiven := p.given, pval := p.pval,
    fbu := '%' :: fl ++ w.fbuText cfg.tmpLen ++ p.fbuText cfg.tmpLen, rest := tail, args := more,
    used := fl.length + w.text.length + p.text.length }

theorem parseHead_eq_headOf (cfg : Cfg) (fl : Str) (w : WSpec) (p : PSpec) (wf : SpecWF fl w p)
    (tail : Str) (htail : ∀ x ∈ tail.head?, isConvEnd x) (more : List Arg) :
    parseHead cfg (fl ++ w.text ++ p.text ++ tail) (w.args ++ p.args ++ more) = .ok (headOf cfg fl w p tail more) := by
  have hcsd : ∀ t ∈ tail.head?, t.isDigit = false ∧ t ≠ '*' := fun t h => ⟨(htail t h).2.1, (htail t h).2.2.2⟩
  -- behind the width stands the period or the character that ends the specification
  have hpt : ∀ x ∈ (p.text ++ tail).head?, isFlagChar x = false ∧ x.isDigit = false ∧ x ≠ '*' := by
    cases p with
    | none => exact fun x h => ⟨(htail x h).1, hcsd x h⟩
    | lit ds => simp [PSpec.text]; decide
    | star v => simp [PSpec.text]; decide
  have hnf : ∀ x ∈ (w.text ++ (p.text ++ tail)).head?, isFlagChar x = false := by
    cases w with
    | none => exact fun x h => (hpt x h).1
    | lit ds =>
      obtain ⟨hne, hds, h0⟩ := wf.hw
      obtain ⟨d, ds', rfl⟩ := List.exists_cons_of_ne_nil hne
      simp only [WSpec.text, List.cons_append, List.head?_cons, Option.mem_def, Option.some.injEq, forall_eq']
      exact digit_not_flag d (hds d (by simp)) (by intro hd0; apply h0; simp [hd0])
    | star v => simp [WSpec.text]; decide
  unfold parseHead headOf flagsOf
  rw [List.append_assoc, List.append_assoc, List.append_assoc, scanFlags_append fl _ _ wf.hfl hnf]
  simp only []
  rw [parseWP_width cfg.tmpLen _ w wf.hw _ _ (fun x h => (hpt x h).2)]
  simp only []
  cases p with
  | none =>
    simp only [PSpec.text, PSpec.args, List.nil_append]
    split
    · exact absurd rfl (htail _ rfl).2.2.1
    · simp [PSpec.given, PSpec.pval, PSpec.fbuText]
  | lit ds =>
    simp only [PSpec.text, PSpec.args, List.cons_append, List.nil_append]
    rw [parseWP_digits cfg.tmpLen true _ ds tail more wf.hp hcsd]
    by_cases h : ds = [] <;> simp [PSpec.given, PSpec.pval, PSpec.fbuText, h]
    omega
  | star v =>
    simp only [PSpec.text, PSpec.args, List.cons_append, List.nil_append]
    rw [← List.cons_append, parseWP_prec_star]
    simp [PSpec.given]

theorem decVal_nil : decVal [] = 0 := rfl

/-- the precision hawk works with and the precision C reads are the same thing -/
theorem prec_bridge (fl : Flags) (w : Option Int) (p : PSpec) (c : Char) :
    (CSpec.resolve fl w p.val c).prec = precOpt (if p.given then p.pval.getD 0 else -1) := by
  cases p with
  | none => simp [CSpec.resolve, PSpec.val, PSpec.given, precOpt]
  | lit ds =>
    by_cases h : ds = []
    · subst h; simp [CSpec.resolve, PSpec.val, PSpec.given, PSpec.pval, precOpt, decVal_nil]
    · have : ¬ ((decVal ds : Int) < 0) := by omega
      simp [CSpec.resolve, PSpec.val, PSpec.given, PSpec.pval, precOpt, h, this]
  | star v =>
    by_cases h : v < 0 <;> simp [CSpec.resolve, PSpec.val, PSpec.given, PSpec.pval, precOpt, h]

/-- width and `-` flag after the `if (wp[WP_WIDTH] < 0)` adjustment = C's reading of a negative `*` width -/
theorem width_bridge (fl : Flags) (w : Option Int) (p : Option Int) (c : Char) :
    (CSpec.resolve fl w p c).flags = (if w.getD 0 < 0 then { fl with minus := true } else fl) ∧
    (CSpec.resolve fl w p c).width = (if w.getD 0 < 0 then (-(w.getD 0)).toNat else (w.getD 0).toNat) := by
  unfold CSpec.resolve
  constructor
  · rfl
  · simp only []
    split <;> omega

theorem parseSpec_head (cfg : Cfg) (fl : Str) (w : WSpec) (p : PSpec) (wf : SpecWF fl w p)
    (tail : Str) (htail : ∀ x ∈ tail.head?, isConvEnd x) (more : List Arg) :
    parseSpec cfg (fl ++ w.text ++ p.text ++ tail) (w.args ++ p.args ++ more) =
      dispatch cfg (fl ++ w.text ++ p.text ++ tail) (headOf cfg fl w p tail more) := by
  rw [parseSpec, parseHead_eq_headOf cfg fl w p wf tail htail more]

theorem specText_append (fl : Str) (w : WSpec) (p : PSpec) (c : Char) (rest : Str) :
    specText fl w p c ++ rest = fl ++ w.text ++ p.text ++ c :: rest := by
  simp [specText]

theorem specText_length (fl : Str) (w : WSpec) (p : PSpec) (c : Char) :
    (specText fl w p c).length = fl.length + w.text.length + p.text.length + 1 := by
  simp [specText]; omega

instance (c : Char) : Decidable (isConvEnd c) := by unfold isConvEnd; infer_instance

theorem parseSpec_conv (cfg : Cfg) (fl : Str) (w : WSpec) (p : PSpec) (wf : SpecWF fl w p) (c : Char) (hce : isConvEnd c)
    (rest : Str) (more : List Arg) :
    parseSpec cfg (specText fl w p c ++ rest) (w.args ++ p.args ++ more) =
      dispatch cfg (fl ++ w.text ++ p.text ++ c :: rest) (headOf cfg fl w p (c :: rest) more) := by
  rw [specText_append]
  exact parseSpec_head cfg fl w p wf (c :: rest) (by simpa using hce) more

/-- C's reading of the specification, expressed with the quantities `dispatch` computes -/
theorem cspec_eq (fl : Str) (w : WSpec) (p : PSpec) (c : Char) :
    cspec fl w p c =
      ⟨(if w.val.getD 0 < 0 then { flagsOf fl with minus := true } else flagsOf fl),
       (if w.val.getD 0 < 0 then (-w.val.getD 0).toNat else (w.val.getD 0).toNat),
       precOpt (if p.given then p.pval.getD 0 else -1), c⟩ := by
  obtain ⟨hf, hw⟩ := width_bridge (flagsOf fl) w.val p.val c
  rw [← hf, ← hw, ← prec_bridge (flagsOf fl) w.val p c]
  rfl

theorem parseSpec_incomplete (cfg : Cfg) (fl : Str) (w : WSpec) (p : PSpec) (wf : SpecWF fl w p) (more : List Arg) :
    parseSpec cfg (fl ++ w.text ++ p.text) (w.args ++ p.args ++ more) =
      .ok ([.text ('%' :: (fl ++ w.text ++ p.text))], (fl ++ w.text ++ p.text).length, more) := by
  have := parseSpec_head cfg fl w p wf [] (by simp) more
  simp only [List.append_nil] at this
  rw [this]
  simp [dispatch, headOf]

theorem parseSpec_noarg (cfg : Cfg) (fl : Str) (w : WSpec) (p : PSpec) (wf : SpecWF fl w p) (c : Char)
    (hc : isIntConv c = true ∨ isFltConv c = true ∨ c = 'c' ∨ c = 's') (hce : isConvEnd c) (rest : Str) :
    parseSpec cfg (specText fl w p c ++ rest) (w.args ++ p.args) = .error .efmtarg := by
  rw [← List.append_nil (w.args ++ p.args), parseSpec_conv cfg fl w p wf c hce rest []]
  simp only [dispatch, headOf]
  rcases hc with h | h | h | h
  · simp [h]
  · by_cases h1 : isIntConv c = true <;> simp [h, h1]
  · subst h; simp [isIntConv, isFltConv]
  · subst h; simp [isIntConv, isFltConv]

def litPieces (s : Str) : List Piece := s.map fun c => Piece.text [c]

theorem formatGo_skip (cfg : Cfg) (xs ys : Str) (args : List Arg) :
    formatGo cfg (xs ++ ys) xs.length args = formatGo cfg ys 0 args := by
  induction xs with
  | nil => simp
  | cons x xs ih => simpa [formatGo] using ih

theorem format_lit_append (cfg : Cfg) (lit : Str) (hlit : ∀ c ∈ lit, c ≠ '%') (rest : Str) (args : List Arg) :
    format cfg (lit ++ rest) args = (format cfg rest args).map (litPieces lit ++ ·) := by
  unfold format
  induction lit with
  | nil => cases h : formatGo cfg rest 0 args <;> simp [litPieces, Except.map, h]
  | cons c r ih =>
    have hc : c ≠ '%' := hlit c (by simp)
    have hc' : (c != '%') = true := by simp [hc]
    rw [List.cons_append, formatGo, if_pos hc', ih (fun d hd => hlit d (by simp [hd]))]
    cases formatGo cfg rest 0 args <;> simp [litPieces, Except.map]

theorem format_spec_ok (cfg : Cfg) (spec rest : Str) (args args' : List Arg) (ps : List Piece)
    (h : parseSpec cfg (spec ++ rest) args = .ok (ps, spec.length, args')) :
    format cfg ('%' :: spec ++ rest) args = (format cfg rest args').map (ps ++ ·) := by
  unfold format
  rw [List.cons_append, formatGo]
  simp only [bne_self_eq_false, Bool.false_eq_true, if_false, h, formatGo_skip]

theorem format_spec_last (cfg : Cfg) (spec : Str) (args args' : List Arg) (ps : List Piece)
    (h : parseSpec cfg spec args = .ok (ps, spec.length, args')) :
    format cfg ('%' :: spec) args = .ok ps := by
  have := format_spec_ok cfg spec [] args args' ps (by rwa [List.append_nil])
  simpa [format, formatGo, Except.map] using this

theorem format_spec_err (cfg : Cfg) (spec : Str) (args : List Arg) (e : Err)
    (h : parseSpec cfg spec args = .error e) :
    format cfg ('%' :: spec) args = .error e := by
  unfold format
  rw [formatGo]
  simp only [bne_self_eq_false, Bool.false_eq_true, if_false, h]

/-- a segment of a format string: literal text without `%`, or one specification together with the arguments it takes and
what it puts out -/
inductive Seg where
  | lit (s : Str)
  | spec (text : Str) (args : List Arg) (out : List Piece)

/-- a segment behaves as it says whatever follows it -/
def Seg.Ok (cfg : Cfg) : Seg → Prop
  | .lit s => ∀ c ∈ s, c ≠ '%'
  | .spec t a o => ∀ rest more, parseSpec cfg (t ++ rest) (a ++ more) = .ok (o, t.length, more)

def Seg.text : Seg → Str
  | .lit s => s
  | .spec t _ _ => '%' :: t

def Seg.args : Seg → List Arg
  | .lit _ => []
  | .spec _ a _ => a

def Seg.out : Seg → List Piece
  | .lit s => litPieces s
  | .spec _ _ o => o

theorem format_seg_last (cfg : Cfg) (t : Str) (a : List Arg) (o : List Piece) (h : (Seg.spec t a o).Ok cfg) :
    format cfg ('%' :: t) a = .ok o :=
  format_spec_last cfg t a [] o (by simpa using h [] [])

theorem format_segments_then (cfg : Cfg) (segs : List Seg) (h : ∀ s ∈ segs, s.Ok cfg) (tf : Str) (ta : List Arg) :
    format cfg (segs.flatMap Seg.text ++ tf) (segs.flatMap Seg.args ++ ta) =
      (format cfg tf ta).map (segs.flatMap Seg.out ++ ·) := by
  induction segs with
  | nil => cases hf : format cfg tf ta <;> simpa [Except.map] using hf
  | cons s r ih =>
    have ihr := ih (fun x hx => h x (by simp [hx]))
    have hs := h s (by simp)
    cases s with
    | lit t =>
      simp only [List.flatMap_cons, Seg.text, Seg.args, Seg.out, List.nil_append, List.append_assoc]
      rw [format_lit_append cfg t hs, ihr]
      cases format cfg tf ta <;> simp [Except.map]
    | spec t a o =>
      simp only [List.flatMap_cons, Seg.text, Seg.args, Seg.out, List.append_assoc]
      rw [format_spec_ok cfg t _ _ _ o (hs _ _), ihr]
      cases format cfg tf ta <;> simp [Except.map]

theorem decimal_eq (n : Nat) : decimal n = Nat.toDigits 10 n := by
  unfold decimal
  rw [revDigits_reverse 10 false (by omega) (by omega)]
  simp

theorem decVal_eq_ofDigitChars (ds : Str) : decVal ds = Nat.ofDigitChars 10 ds 0 := by
  unfold decVal Nat.ofDigitChars
  congr 1
  funext n c
  rw [Nat.mul_comm]
  rfl

theorem decVal_decimal (n : Nat) : decVal (decimal n) = n := by
  rw [decVal_eq_ofDigitChars, decimal_eq]; exact Nat.ofDigitChars_ten_toDigits

theorem decimal_digits (n : Nat) : ∀ c ∈ decimal n, c.isDigit = true := by
  intro c hc
  rw [decimal_eq] at hc
  exact Nat.isDigit_of_mem_toDigits (by omega) (by omega) hc

theorem decimal_zero : decimal 0 = ['0'] := by
  rw [decimal_eq]; rfl

theorem intText_eq (v : Int) : intText v = if v < 0 then '-' :: decimal (-v).toNat else decimal v.toNat := rfl

theorem intText_natAbs (v : Int) : intText v = (if v < 0 then ['-'] else []) ++ decimal v.natAbs := by
  rw [intText_eq]
  by_cases hv : v < 0
  · simp [hv, show (-v).toNat = v.natAbs by omega]
  · simp [hv, show v.toNat = v.natAbs by omega]

theorem starText_eq (tmpLen : Nat) (v : Int) : starText tmpLen v = intText v := by
  -- without a fill character `fmt_uintmax` writes sign and digits, whatever the size
  have hL : ∀ size, fmtLayout { base := 10, notrunc := true, nonull := true } v.natAbs (-1) none
      (if v < 0 then some '-' else none) none size = intText v := by
    intro size
    rw [intText_natAbs]
    split <;> simp [fmtLayout, fmtDigits, fmtPz, decimal, optStr]
  have hR := fmtLayout_length { base := 10, notrunc := true, nonull := true } v.natAbs (-1) none
      (if v < 0 then some '-' else none) none _ (Nat.le_refl _)
  rw [hL] at hR
  have hpos : 0 < (intText v).length := by
    rw [intText_eq]; split <;> simp [decimal, revDigits_length_pos]
  have hU := fun size => fmtUintmax_eq size v.natAbs { base := 10, notrunc := true, nonull := true } (-1) none
    (if v < 0 then some '-' else none) none (by simp) rfl rfl
  unfold starText
  simp only [fmtIntmaxTo_eq, Bool.false_eq_true, if_false, hU, hL, ← hR]
  by_cases h1 : tmpLen = 0 ∨ tmpLen < (intText v).length
  · have h2 : ¬ (tmpLen + max (intText v).length 8192 = 0 ∨ tmpLen + max (intText v).length 8192 < (intText v).length) := by omega
    simp only [h1, if_true, show -((intText v).length : Int) ≤ -1 by omega, Int.neg_neg, Int.toNat_natCast, h2, if_false,
      List.take_length]
  · simp only [h1, if_false, show ¬ ((intText v).length : Int) ≤ -1 by omega, Int.toNat_natCast, List.take_length]

/-- one flag character in fmt.c's `reswitch` (repaired `case '0'`) -/
def cflagStep (st : CState) (c : Char) : CState :=
  if c == '#' then { st with sharp := true }
  else if c == ' ' then { st with space := true }
  else if c == '+' then { st with sign := true }
  else if c == '-' then { st with leftadj := true, zeropad := false }
  else if c == '0' then (if st.leftadj then st else { st with zeropad := true })
  else st

theorem isFlagChar_cases {c : Char} (h : isFlagChar c = true) : c = ' ' ∨ c = '#' ∨ c = '0' ∨ c = '+' ∨ c = '-' := by
  have : (((c = ' ' ∨ c = '#') ∨ c = '0') ∨ c = '+') ∨ c = '-' := by simpa [isFlagChar] using h
  rcases this with (((h | h) | h) | h) | h <;> simp [h]

theorem fmtcScan_flag (c : Char) (r : Str) (st : CState) (hd : st.dot = false) (hw : st.width = false) (hl : st.lenmod = false)
    (hc : isFlagChar c = true) : fmtcScan (c :: r) st = fmtcScan r (cflagStep st c) := by
  rw [fmtcScan]
  rcases isFlagChar_cases hc with rfl | rfl | rfl | rfl | rfl
  all_goals simp [cflagStep, hd, hw, hl]

theorem cflagStep_inv (st : CState) (c : Char) :
    (cflagStep st c).dot = st.dot ∧ (cflagStep st c).width = st.width ∧ (cflagStep st c).lenmod = st.lenmod ∧
    (cflagStep st c).precision = st.precision ∧ (cflagStep st c).w = st.w ∧ (cflagStep st c).p = st.p := by
  -- each projection moves into the `if`s, and no branch touches these fields
  simp only [cflagStep, apply_ite CState.dot, apply_ite CState.width, apply_ite CState.lenmod, apply_ite CState.precision,
    apply_ite CState.w, apply_ite CState.p, ite_self, and_self]

theorem fmtcScan_flags (fl tail : Str) (st : CState) (hd : st.dot = false) (hw : st.width = false) (hl : st.lenmod = false)
    (hfl : ∀ c ∈ fl, isFlagChar c = true) : fmtcScan (fl ++ tail) st = fmtcScan tail (fl.foldl cflagStep st) := by
  induction fl generalizing st with
  | nil => rfl
  | cons c r ih =>
    have hinv := cflagStep_inv st c
    rw [List.cons_append, fmtcScan_flag c _ st hd hw hl (hfl c (by simp)), List.foldl_cons]
    exact ih _ (by rw [hinv.1, hd]) (by rw [hinv.2.1, hw]) (by rw [hinv.2.2.1, hl]) (fun d hd' => hfl d (by simp [hd']))

/-- fmt.c's flag loop in closed form: each flag is set when its character occurs; `-` clears `0` for good -/
theorem foldl_cflagStep_eq (fl : Str) (hfl : ∀ c ∈ fl, isFlagChar c = true) (st : CState) :
    fl.foldl cflagStep st = { st with
      sharp := st.sharp || fl.contains '#', space := st.space || fl.contains ' ', sign := st.sign || fl.contains '+',
      leftadj := st.leftadj || fl.contains '-',
      zeropad := (st.zeropad || fl.contains '0' && !st.leftadj) && !fl.contains '-' } := by
  induction fl generalizing st with
  | nil => simp
  | cons c r ih =>
    rw [List.foldl_cons, ih (fun d hd => hfl d (by simp [hd]))]
    rcases isFlagChar_cases (hfl c (by simp)) with rfl | rfl | rfl | rfl | rfl
    · simp [cflagStep]
    · simp [cflagStep]
    · cases hl : st.leftadj <;> simp [cflagStep, hl]
    · simp [cflagStep]
    · simp [cflagStep]

theorem foldl_cflagStep_frame (fl : Str) (hfl : ∀ c ∈ fl, isFlagChar c = true) :
    (fl.foldl cflagStep {}).dot = false ∧ (fl.foldl cflagStep {}).width = false ∧ (fl.foldl cflagStep {}).lenmod = false ∧
    (fl.foldl cflagStep {}).precision = false := by
  rw [foldl_cflagStep_eq fl hfl]; exact ⟨rfl, rfl, rfl, rfl⟩

theorem foldl_add_eq (fl : Str) (f : Flags) :
    fl.foldl Flags.add f = ⟨f.space || fl.contains ' ', f.hash || fl.contains '#', f.zero || fl.contains '0',
      f.plus || fl.contains '+', f.minus || fl.contains '-'⟩ := by
  induction fl generalizing f with
  | nil => simp
  | cons c r ih =>
    rw [List.foldl_cons, ih]
    by_cases hf : isFlagChar c = true
    · rcases isFlagChar_cases hf with rfl | rfl | rfl | rfl | rfl
      all_goals simp [Flags.add]
    · have h : ∀ k, isFlagChar k = true → k ≠ c ∧ c ≠ k := fun k hk => ⟨fun e => hf (e ▸ hk), fun e => hf (e ▸ hk)⟩
      simp [Flags.add, h ' ' rfl, h '#' rfl, h '0' rfl, h '+' rfl, h '-' rfl]

theorem takeNum_append (ds tail : Str) (n : Nat) (hds : ∀ c ∈ ds, c.isDigit = true)
    (ht : ∀ t ∈ tail.head?, t.isDigit = false) :
    takeNum (ds ++ tail) n = (ds.foldl (fun n c => n * 10 + (c.toNat - 48)) n, tail) := by
  induction ds generalizing n with
  | nil =>
    cases tail with
    | nil => simp [takeNum]
    | cons t r => simp [takeNum, ht t rfl]
  | cons d r ih =>
    have hd : d.isDigit = true := hds d (by simp)
    simp only [List.cons_append, takeNum, hd, if_true, List.foldl_cons]
    exact ih _ (fun c hc => hds c (by simp [hc]))

theorem takeNum_lt (l : Str) (n : Nat) :
    (takeNum l n).1 < (n + 1) * 10 ^ (l.length - (takeNum l n).2.length) := by
  induction l generalizing n with
  | nil => simp [takeNum]
  | cons c r ih =>
    simp only [takeNum]
    split
    · rename_i hc
      have hd := Char.toNat_of_isDigit hc
      have hle := takeNum_length_le r (n * 10 + (c.toNat - 48))
      rw [List.length_cons, Nat.succ_sub hle, Nat.pow_succ]
      calc _ < (n * 10 + (c.toNat - 48) + 1) * 10 ^ (r.length - _) := ih _
        _ ≤ ((n + 1) * 10) * 10 ^ (r.length - _) := Nat.mul_le_mul_right _ (by omega)
        _ = _ := by rw [Nat.mul_assoc, Nat.mul_comm 10]
    · simp

/-- a digit run is written back no longer than it was read -/
theorem decimal_takeNum_length_le (c : Char) (hc : c.isDigit = true) (r : Str) :
    (decimal (takeNum r (c.toNat - 48)).1).length + (takeNum r (c.toNat - 48)).2.length ≤ r.length + 1 := by
  have hd := Char.toNat_of_isDigit hc
  have hle := takeNum_length_le r (c.toNat - 48)
  have h := takeNum_lt r (c.toNat - 48)
  have : (decimal (takeNum r (c.toNat - 48)).1).length ≤ (r.length - (takeNum r (c.toNat - 48)).2.length) + 1 := by
    rw [decimal_eq]
    apply (Nat.length_toDigits_le_iff (by omega) (by omega)).mpr
    rw [Nat.pow_succ, Nat.mul_comm]
    exact Nat.lt_of_lt_of_le h (Nat.mul_le_mul_right _ (by omega))
  omega

theorem fmtcScan_digits (d : Char) (ds tail : Str) (st : CState) (hd : d.isDigit = true) (hd0 : d = '0' → st.dot = true)
    (hds : ∀ c ∈ ds, c.isDigit = true) (ht : ∀ t ∈ tail.head?, t.isDigit = false) (hl : st.lenmod = false) :
    fmtcScan (d :: ds ++ tail) st =
      fmtcScan tail (if st.dot then { st with p := decVal (d :: ds), precision := true }
                     else { st with w := decVal (d :: ds), width := true }) := by
  obtain ⟨h1, h2, h3, h4, h5, h6⟩ := digit_not_punct_z d hd
  rw [List.cons_append, fmtcScan]
  simp only [beq_iff_eq, h1, h2, h3, h4, h5, if_false, hd, if_true, hl, Bool.false_eq_true]
  -- a leading `0` is a flag only before the period
  rw [if_neg (fun h => by simp [hd0 h.1] at h), takeNum_append ds tail _ hds ht]
  split <;> simp [decVal]

/-- a number written by `decimal` where a number can stand (a width is not 0) -/
theorem fmtcScan_decimal (n : Nat) (tail : Str) (st : CState) (hn : n = 0 → st.dot = true)
    (ht : ∀ t ∈ tail.head?, t.isDigit = false) (hl : st.lenmod = false) :
    fmtcScan (decimal n ++ tail) st =
      fmtcScan tail (if st.dot then { st with p := n, precision := true } else { st with w := n, width := true }) := by
  have hdig := decimal_digits n
  have hval := decVal_decimal n
  have hne : decimal n ≠ [] := by rw [decimal_eq]; exact Nat.toDigits_ne_nil
  obtain ⟨d, ds, hdd⟩ := List.exists_cons_of_ne_nil hne
  rw [hdd] at hdig hval ⊢
  rw [fmtcScan_digits d ds tail st (hdig d (by simp)) ?_ (fun c hc => hdig c (by simp [hc])) ht hl, hval]
  intro hd0
  exact hn ((Nat.head?_toDigits_eq_zero_iff 10 (by omega) n).mp (by rw [← decimal_eq, hdd, hd0]; rfl))

theorem fmtcScan_dot (r : Str) (st : CState) (hdot : st.dot = false) :
    fmtcScan ('.' :: r) st = fmtcScan r { st with dot := true } := by
  rw [fmtcScan]; simp [hdot]

theorem fmtcScan_end (c : Char) (hc : c = 'e' ∨ c = 'E' ∨ c = 'f' ∨ c = 'g' ∨ c = 'G') (st : CState) (hl : st.lenmod = false) :
    fmtcScan ['z', c] st = some ({ st with lenmod := true }, c) := by
  rcases hc with rfl | rfl | rfl | rfl | rfl <;> simp [fmtcScan, hl]

/-- the number of characters `recompose` writes between `%` and `L` -/
def specLen (st : CState) : Nat :=
  st.space.toNat + st.sharp.toNat + st.sign.toNat + st.leftadj.toNat + st.zeropad.toNat
    + st.width.toNat * (decimal st.w).length + st.dot.toNat + st.precision.toNat * (decimal st.p).length

theorem length_ite_nil (b : Bool) (s : Str) : (if b = true then s else []).length = b.toNat * s.length := by
  cases b <;> simp

theorem recompose_length (st : CState) (c : Char) : (recompose st c).length = specLen st + 3 := by
  simp only [recompose, specLen, List.length_append, length_ite_nil, List.length_cons, List.length_nil]
  omega

/-- `specLen` is a potential along the scanner: no step raises it by more than the characters the step consumes (a flag sets one
bit, a digit run is written back without leading zeros), and `z` with the conversion character (the 1 or 2 on the left) come back
as `L` with the conversion character.  The cases are the branches of `fmtcScan` in its order: the ten that reject; period and the
flags `# space + -`; the flag `0`; a digit run behind and before the period; `z`; the conversion character.
Each step is `Nat.le_trans` with the induction hypothesis: `omega` on the unfolded sums is slow to check. -/
theorem fmtcScan_specLen (l : Str) (st st' : CState) (c : Char) (h : fmtcScan l st = some (st', c)) :
    specLen st' + (if st.lenmod then 1 else 2) ≤ specLen st + l.length := by
  fun_induction fmtcScan l st
  case case1 | case2 | case4 | case6 | case8 | case10 | case13 | case16 | case19 | case20 => exact nomatch h
  case case3 | case5 | case7 | case9 | case11 =>
    rename_i ih
    exact Nat.le_trans (ih h) (by simp +arith only [specLen, Bool.toNat_true, Bool.toNat_false, List.length_cons])
  case case12 st _ _ _ _ _ _ _ _ ih =>
    by_cases hla : st.leftadj = true
    · simp only [dif_pos hla, if_pos hla] at ih h
      exact Nat.le_trans (ih h) (by simp +arith only [List.length_cons])
    · simp only [dif_neg hla, if_neg hla] at ih h
      exact Nat.le_trans (ih h) (by simp +arith only [specLen, Bool.toNat_true, List.length_cons])
  case case14 | case15 =>
    rename_i c r _ _ _ _ _ _ hd _ nr _ ih
    refine Nat.le_trans (ih h) (Nat.le_trans ?_ (Nat.add_le_add_left (decimal_takeNum_length_le c hd r) _))
    simp +arith only [specLen, Bool.toNat_true, nr, Nat.one_mul]
  case case17 hl ih =>
    have := ih h
    simp only [hl, if_true, if_false, Bool.false_eq_true, List.length_cons] at this ⊢
    exact Nat.succ_le_succ this
  case case18 =>
    cases h
    rename_i hg _ _ _ _ _ _ _ _ _
    simp [hg.1]

/-- fmt.c alone: whatever specifier its scanner accepts is written back no longer than it was read -/
theorem fmtcScan_recompose_length (body : Str) (st : CState) (c : Char) (h : fmtcScan body {} = some (st, c)) :
    (recompose st c).length ≤ body.length + 1 := by
  have := fmtcScan_specLen body {} st c h
  rw [recompose_length]
  generalize specLen st = n at *
  simp only [specLen, Bool.toNat_false, Nat.zero_mul, Bool.false_eq_true, if_false] at this
  omega

/-- fmt.c's state after the width text run.c wrote into fbu (`WSpec.fbuText`; `pState`: the precision text). A `*` width arrives as
the decimal text of its argument: fmt.c reads a negative one as the flag `-` and a number, and 0 as the flag `0`. -/
def wState (st : CState) : WSpec → CState
  | .none => st
  | .lit ds => { st with w := decVal ds, width := true }
  | .star v =>
    if v < 0 then { cflagStep st '-' with w := (-v).toNat, width := true }
    else if v = 0 then cflagStep st '0'
    else { st with w := v.toNat, width := true }

theorem wState_inv (st : CState) (w : WSpec) :
    (wState st w).dot = st.dot ∧ (wState st w).lenmod = st.lenmod ∧ (wState st w).precision = st.precision := by
  cases w <;> simp [wState, apply_ite CState.dot, apply_ite CState.lenmod, apply_ite CState.precision, cflagStep_inv]

def pState (st : CState) : PSpec → CState
  | .none => st
  | .lit ds => if ds = [] then { st with dot := true } else { st with dot := true, p := decVal ds, precision := true }
  | .star v => if v < 0 then st else { st with dot := true, p := v.toNat, precision := true }

theorem pState_lenmod (st : CState) (p : PSpec) : (pState st p).lenmod = st.lenmod := by
  cases p <;> simp [pState, apply_ite CState.lenmod]

/-- fmt.c's state when it reaches the conversion character of a float specifier built by run.c -/
def libcState (fl : Str) (w : WSpec) (p : PSpec) : CState :=
  { pState (wState (fl.foldl cflagStep {}) w) p with lenmod := true }

theorem fmtcScan_wpart (tmpLen : Nat) (w : WSpec) (hw : w.wf) (tail : Str) (st : CState)
    (ht : ∀ t ∈ tail.head?, t.isDigit = false)
    (hdot : st.dot = false) (hwd : st.width = false) (hl : st.lenmod = false) :
    fmtcScan (w.fbuText tmpLen ++ tail) st = fmtcScan tail (wState st w) := by
  cases w with
  | none => rfl
  | lit ds =>
    obtain ⟨hne, hds, h0⟩ := hw
    obtain ⟨d, ds', rfl⟩ := List.exists_cons_of_ne_nil hne
    rw [WSpec.fbuText, fmtcScan_digits d ds' tail st (hds d (by simp)) (fun h => absurd (by simp [h]) h0)
      (fun c hc => hds c (by simp [hc])) ht hl, if_neg (by simp [hdot])]
    rfl
  | star v =>
    simp only [WSpec.fbuText, wState, starText_eq, intText_eq]
    by_cases hv : v < 0
    · obtain ⟨i1, -, i3, -⟩ := cflagStep_inv st '-'
      simp only [hv, if_true]
      rw [List.cons_append, fmtcScan_flag '-' _ st hdot hwd hl rfl,
        fmtcScan_decimal _ tail _ (fun h => by omega) ht (i3.trans hl), if_neg (by simp [i1, hdot])]
    · simp only [hv, if_false]
      by_cases h0 : v = 0
      · subst h0
        simp only [Int.toNat_zero, decimal_zero, if_true]
        exact fmtcScan_flag '0' _ st hdot hwd hl rfl
      · simp only [h0, if_false]
        rw [fmtcScan_decimal _ tail st (fun h => by omega) ht hl, if_neg (by simp [hdot])]

theorem fmtcScan_ppart (tmpLen : Nat) (p : PSpec) (hp : p.wf) (c : Char) (st : CState)
    (hdot : st.dot = false) (hl : st.lenmod = false) :
    fmtcScan (p.fbuText tmpLen ++ ['z', c]) st = fmtcScan ['z', c] (pState st p) := by
  have htz : ∀ t ∈ ['z', c].head?, t.isDigit = false := by simp
  cases p with
  | none => rfl
  | lit ds =>
    simp only [PSpec.fbuText, pState, List.cons_append]
    rw [fmtcScan_dot _ st hdot]
    cases ds with
    | nil => simp
    | cons d ds' =>
      exact fmtcScan_digits d ds' _ { st with dot := true } (hp d (by simp)) (fun _ => rfl) (fun x hx => hp x (by simp [hx])) htz hl
  | star v =>
    simp only [PSpec.fbuText, pState]
    by_cases hv : v < 0
    · simp [hv]
    · simp only [hv, if_false, List.cons_append, starText_eq, intText_eq]
      rw [fmtcScan_dot _ st hdot]
      exact fmtcScan_decimal _ _ { st with dot := true } (fun _ => rfl) htz hl

theorem fmtcScan_fbu (tmpLen : Nat) (fl : Str) (w : WSpec) (p : PSpec) (wf : SpecWF fl w p) (c : Char)
    (hc : c = 'e' ∨ c = 'E' ∨ c = 'f' ∨ c = 'g' ∨ c = 'G') :
    fmtcScan (fl ++ w.fbuText tmpLen ++ p.fbuText tmpLen ++ ['z', c]) {} = some (libcState fl w p, c) := by
  obtain ⟨g1, g2, g3, -⟩ := foldl_cflagStep_frame fl wf.hfl
  obtain ⟨h1, h2, -⟩ := wState_inv (fl.foldl cflagStep {}) w
  rw [List.append_assoc, List.append_assoc, fmtcScan_flags fl _ {} rfl rfl rfl wf.hfl,
    fmtcScan_wpart tmpLen w wf.hw _ _ ?_ g1 g2 g3,
    fmtcScan_ppart tmpLen p wf.hp c _ (h1.trans g1) (h2.trans g3),
    fmtcScan_end c hc _ (by rw [pState_lenmod]; exact h2.trans g3)]
  · rfl
  · -- behind the width stands the period or the `z`
    cases p with
    | none => simp [PSpec.fbuText]
    | lit ds => simp [PSpec.fbuText]
    | star v => by_cases hv : v < 0 <;> simp [PSpec.fbuText, hv]

/-- the specifier libc `snprintf` receives for a float conversion: the flags of the user's specifier in a fixed order
(`0` dropped when `-` is present or the `*` width is negative), the width as a number (`*` substituted, a negative one as
`-` flag plus its absolute value, 0 as the flag `0` and no width), the precision as a number (a negative `*` precision omitted), `L`, the conversion -/
def libcSpecOf (fl : Str) (w : WSpec) (p : PSpec) (c : Char) : Str :=
  let neg : Bool := match w with | .star v => decide (v < 0) | _ => false
  let wzero : Bool := match w with | .star v => decide (v = 0) | _ => false
  let minus := fl.contains '-' || neg
  let zero := (fl.contains '0' || wzero) && !minus
  ['%'] ++ (if fl.contains ' ' then [' '] else []) ++ (if fl.contains '#' then ['#'] else [])
    ++ (if fl.contains '+' then ['+'] else []) ++ (if minus then ['-'] else []) ++ (if zero then ['0'] else [])
    ++ (match w with
        | .none => []
        | .lit ds => decimal (decVal ds)
        | .star v => if v = 0 then [] else decimal v.natAbs)
    ++ (match p with
        | .none => []
        | .lit ds => '.' :: (if ds = [] then [] else decimal (decVal ds))
        | .star v => if v < 0 then [] else '.' :: decimal v.toNat)
    ++ ['L', c]

/-- flags and width of the specifier handed to libc -/
def wHead (fl : Str) (w : WSpec) : Str :=
  let neg : Bool := match w with | .star v => decide (v < 0) | _ => false
  let wzero : Bool := match w with | .star v => decide (v = 0) | _ => false
  let minus := fl.contains '-' || neg
  let zero := (fl.contains '0' || wzero) && !minus
  ['%'] ++ (if fl.contains ' ' then [' '] else []) ++ (if fl.contains '#' then ['#'] else [])
    ++ (if fl.contains '+' then ['+'] else []) ++ (if minus then ['-'] else []) ++ (if zero then ['0'] else [])
    ++ (match w with
        | .none => []
        | .lit ds => decimal (decVal ds)
        | .star v => if v = 0 then [] else decimal v.natAbs)

def pPart (p : PSpec) : Str :=
  match p with
  | .none => []
  | .lit ds => '.' :: (if ds = [] then [] else decimal (decVal ds))
  | .star v => if v < 0 then [] else '.' :: decimal v.toNat

/-- the cut at the period, for proofs that treat the two sides apart.  Also the way to evaluate a concrete `libcSpecOf …`: unfold
`wHead`, `pPart` and rewrite by `decimal_eq` before `decide` (`decimal` is by well-founded recursion and does not reduce) -/
theorem libcSpecOf_split (fl : Str) (w : WSpec) (p : PSpec) (c : Char) :
    libcSpecOf fl w p c = wHead fl w ++ pPart p ++ ['L', c] := rfl

/-- what `recompose` writes before the period -/
def recomposeHead (st : CState) : Str :=
  ['%'] ++ (if st.space then [' '] else []) ++ (if st.sharp then ['#'] else []) ++ (if st.sign then ['+'] else [])
    ++ (if st.leftadj then ['-'] else []) ++ (if st.zeropad then ['0'] else []) ++ (if st.width then decimal st.w else [])

theorem recompose_pState (st : CState) (p : PSpec) (c : Char) (hd : st.dot = false) (hp : st.precision = false) :
    recompose { pState st p with lenmod := true } c = recomposeHead st ++ pPart p ++ ['L', c] := by
  cases p with
  | none =>
    dsimp only [pState, recompose, recomposeHead, pPart]
    simp [hd, hp]
  | lit ds =>
    dsimp only [pState, recompose, recomposeHead, pPart]
    by_cases hds : ds = [] <;> simp [hp, hds]
  | star v =>
    dsimp only [pState, recompose, recomposeHead, pPart]
    by_cases hv : v < 0 <;> simp [hd, hp, hv]

theorem recomposeHead_wState (fl : Str) (hfl : ∀ c ∈ fl, isFlagChar c = true) (w : WSpec) :
    recomposeHead (wState (fl.foldl cflagStep {}) w) = wHead fl w := by
  rw [foldl_cflagStep_eq fl hfl]
  cases w with
  | none => simp [wState, recomposeHead, wHead]
  | lit ds => simp [wState, recomposeHead, wHead]
  | star v =>
    by_cases hv : v < 0
    · have hna : (-v).toNat = v.natAbs := by omega
      have hv0 : v ≠ 0 := by omega
      simp [wState, cflagStep, recomposeHead, wHead, hv, hv0, hna]
    · by_cases hv0 : v = 0
      · by_cases hm : '-' ∈ fl <;> simp [wState, cflagStep, recomposeHead, wHead, hv0, hm]
      · have hna : v.toNat = v.natAbs := by omega
        simp [wState, recomposeHead, wHead, hv, hv0, hna]

theorem recompose_libcState (fl : Str) (w : WSpec) (p : PSpec) (wf : SpecWF fl w p) (c : Char) :
    recompose (libcState fl w p) c = libcSpecOf fl w p c := by
  obtain ⟨g1, -, -, g4⟩ := foldl_cflagStep_frame fl wf.hfl
  obtain ⟨h1, -, h3⟩ := wState_inv (fl.foldl cflagStep {}) w
  rw [libcState, recompose_pState _ p c (h1.trans g1) (h3.trans g4), recomposeHead_wState fl wf.hfl, libcSpecOf_split]

/-- the float branch: the specifier run.c builds is accepted by fmt.c and re-composed for libc -/
theorem emitFloat_spec (cfg : Cfg) (fl : Str) (w : WSpec) (p : PSpec) (wf : SpecWF fl w p) (c : Char)
    (hc : c = 'e' ∨ c = 'E' ∨ c = 'f' ∨ c = 'g' ∨ c = 'G') (a : Arg) :
    emitFloat ('%' :: fl ++ w.fbuText cfg.tmpLen ++ p.fbuText cfg.tmpLen) c a = .libc (libcSpecOf fl w p c) a := by
  unfold emitFloat fmtcFloat
  simp only [List.cons_append, fmtcScan_fbu cfg.tmpLen fl w p wf c hc, Option.map_some, recompose_libcState fl w p wf c]

def isKnownConv (c : Char) : Bool := isIntConv c || isFltConv c || c == 'c' || c == 's' || isExtConv c || c == '%'

/-- what a complete specification `specText fl w p c` does: the arguments it takes for the conversion itself (after those for `*`)
and what it puts out -/
inductive SpecOut (cfg : Cfg) (fl : Str) (w : WSpec) (p : PSpec) : Char → List Arg → List Piece → Prop
  | int (c : Char) (hc : c = 'd' ∨ c = 'i' ∨ c = 'o' ∨ c = 'u' ∨ c = 'x' ∨ c = 'X') (a : Arg)
      (ha : -9223372036854775808 ≤ a.toInt ∧ a.toInt < 9223372036854775808) :
      SpecOut cfg fl w p c [a] [.text (CSpec.render (cspec fl w p c) a.toInt)]
  | char (a : Arg) (ch : Char) (ha : a.chrOf cfg.mbs = (ch, 1)) :
      SpecOut cfg fl w p 'c' [a] [.text (CSpec.renderChar (cspec fl w p 'c') ch)]
  | str (hv : cfg.valMode = false) (a : Arg) : SpecOut cfg fl w p 's' [a] [.text (CSpec.renderStr (cspec fl w p 's') a.strOf)]
  | float (c : Char) (hc : c = 'e' ∨ c = 'E' ∨ c = 'f' ∨ c = 'g' ∨ c = 'G') (a : Arg) :
      SpecOut cfg fl w p c [a] [.libc (libcSpecOf fl w p c) a]
  | strVal (hv : cfg.valMode = true) (a : Arg) : SpecOut cfg fl w p 's' [a] [.libc (libcSpecOf fl w p 'g') a]
  | percent : SpecOut cfg fl w p '%' [] [.text ['%']]
  | unknown (c : Char) (hce : isConvEnd c) (hk : isKnownConv c = false) : SpecOut cfg fl w p c [] [.text ('%' :: specText fl w p c)]

theorem SpecOut.convEnd {cfg : Cfg} {fl : Str} {w : WSpec} {p : PSpec} {c : Char} {as : List Arg} {out : List Piece}
    (h : SpecOut cfg fl w p c as out) : isConvEnd c := by
  cases h with
  | int c hc => rcases hc with rfl | rfl | rfl | rfl | rfl | rfl <;> decide
  | float c hc => rcases hc with rfl | rfl | rfl | rfl | rfl <;> decide
  | unknown c hce => exact hce
  | _ => decide

theorem specOut_ok {cfg : Cfg} {fl : Str} {w : WSpec} {p : PSpec} (wf : SpecWF fl w p) {c : Char} {as : List Arg} {out : List Piece}
    (h : SpecOut cfg fl w p c as out) : (Seg.spec (specText fl w p c) (w.args ++ p.args ++ as) out).Ok cfg := by
  intro rest more
  have hb2 : p.given = false → (if p.given then p.pval.getD 0 else -1) = -1 := fun h => by simp [h]
  rw [List.append_assoc (w.args ++ p.args), parseSpec_conv cfg fl w p wf c h.convEnd rest (as ++ more), specText_length]
  cases h with
  | int c hc a ha =>
    have hic : isIntConv c = true := by rcases hc with rfl | rfl | rfl | rfl | rfl | rfl <;> rfl
    simp only [dispatch, headOf, hic, if_true, List.singleton_append]
    rw [cspec_eq]
    exact congrArg (fun t => Except.ok ([Piece.text t], _, more)) (emitInt_eq_render _ _ _ _ _ _ _ hc hb2 ha)
  | char a ch ha =>
    simp only [dispatch, headOf, show isIntConv 'c' = false from rfl, show isFltConv 'c' = false from rfl,
      Bool.false_eq_true, if_false, beq_self_eq_true, if_true, List.singleton_append]
    rw [cspec_eq]
    exact congrArg (fun t => Except.ok ([Piece.text t], _, more)) (emitChar_eq _ _ _ _ _ a ch ha)
  | str hv a =>
    simp only [dispatch, headOf, show isIntConv 's' = false from rfl, show isFltConv 's' = false from rfl,
      show ('s' == 'c') = false from rfl, Bool.false_eq_true, if_false, beq_self_eq_true, true_or, if_true, hv,
      List.singleton_append]
    rw [cspec_eq]
    exact congrArg (fun t => Except.ok ([Piece.text t], _, more)) (emitStr_eq _ _ _ _ a hb2)
  | float c hc a =>
    obtain ⟨h1, h2⟩ : isIntConv c = false ∧ isFltConv c = true := by
      rcases hc with rfl | rfl | rfl | rfl | rfl <;> decide
    simp only [dispatch, headOf, h1, h2, Bool.false_eq_true, if_false, if_true, List.singleton_append]
    rw [emitFloat_spec cfg fl w p wf c hc a]
  | strVal hv a =>
    simp only [dispatch, headOf, show isIntConv 's' = false from rfl, show isFltConv 's' = false from rfl,
      show ('s' == 'c') = false from rfl, Bool.false_eq_true, if_false, beq_self_eq_true, true_or, if_true, hv,
      List.singleton_append]
    rw [emitFloat_spec cfg fl w p wf 'g' (by simp) a]
  | percent =>
    simp only [dispatch, headOf, show isIntConv '%' = false from rfl, show isFltConv '%' = false from rfl,
      show ('%' == 'c') = false from rfl, show ('%' == 's') = false from rfl, show isExtConv '%' = false from rfl,
      Bool.false_eq_true, if_false, or_self, beq_self_eq_true, if_true, List.nil_append]
  | unknown c hce hk =>
    simp only [isKnownConv, Bool.or_eq_false_iff] at hk
    obtain ⟨⟨⟨⟨⟨h1, h2⟩, h3⟩, h4⟩, h5⟩, h6⟩ := hk
    simp only [dispatch, headOf, h1, h2, h3, h4, h5, h6, Bool.false_eq_true, if_false, or_self, List.nil_append]
    rw [← specText_append, ← specText_length, List.take_left' rfl]

theorem parseSpec_str (cfg : Cfg) (hv : cfg.valMode = false) (fl : Str) (w : WSpec) (p : PSpec) (wf : SpecWF fl w p)
    (a : Arg) (rest : Str) (more : List Arg) :
    parseSpec cfg (specText fl w p 's' ++ rest) (w.args ++ p.args ++ a :: more) =
      .ok ([.text (CSpec.renderStr (cspec fl w p 's') a.strOf)], (specText fl w p 's').length, more) := by
  simpa using specOut_ok wf (.str hv a) rest more

theorem filterMap_ite_cons {α β : Type} (g : α → Bool) (h : α → β) (a : α) (l : List α) :
    (a :: l).filterMap (fun r => if g r then some (h r) else none) =
      (if g a then [h a] else []) ++ l.filterMap (fun r => if g r then some (h r) else none) := by
  cases hg : g a <;> simp [hg]

theorem countDigits_eq (t : Nat) (ht : 0 < t) : countDigits t = (revDigits 10 false t).length := by
  induction t using Nat.strongRecOn with
  | _ t ih =>
    rw [countDigits, revDigits_eq 10 false t (by omega)]
    simp only [ht, dif_pos]
    by_cases h : t / 10 > 0
    · simp only [h, if_true, List.length_cons]
      rw [ih (t / 10) (Nat.div_lt_self ht (by omega)) h]
    · have h0 : t / 10 = 0 := by omega
      simp only [h0]
      rw [countDigits]; simp

theorem intRlen_exact (v : Int) : intRlen v = (intText v).length := by
  rw [intText_natAbs, intRlen]
  by_cases h0 : v = 0
  · subst h0; simp [decimal_zero]
  · simp only [h0, if_false]
    rw [countDigits_eq _ (by omega)]
    split <;> simp [decimal]
    omega

theorem intCells_eq (v : Int) : intCells v (intRlen v) = intText v := by
  rw [intRlen_exact, intText_natAbs, intCells]
  by_cases h0 : v = 0
  · subst h0; simp [decimal_zero]
  · simp [h0, decimal]

/-- val_int_to_str delivers the text of the integer through the five output kinds exactly as val_flt_to_str delivers a float text -/
theorem valIntToStr_eq (v : Int) (kind : OutKind) (buflen : Nat) (pre : Str) :
    valIntToStr v kind buflen pre = deliverFlt (intText v) kind buflen pre := by
  have hc := intCells_eq v
  rw [intRlen_exact] at hc
  cases kind <;> simp only [valIntToStr, deliverFlt, intRlen_exact, hc, ge_iff_le]

theorem intText_eq_render (v : Int) : intText v = CSpec.render (cspec [] .none .none 'd') v := by
  have hd : CSpec.digits 'd' v.natAbs = decimal v.natAbs := by
    rw [decimal_eq]; simp [CSpec.digits, CSpec.base]
  have hz : CSpec.zeros (1 - (decimal v.natAbs).length) = [] := by
    have : 0 < (decimal v.natAbs).length := by rw [decimal_eq]; exact Nat.length_toDigits_pos
    simp [CSpec.zeros]; omega
  rw [intText_natAbs]
  simp [CSpec.render, cspec, CSpec.resolve, flagsOf, WSpec.val, PSpec.val, CSpec.signOf, CSpec.prefixOf, CSpec.numOf,
    CSpec.digitsOf, CSpec.mag, CSpec.signed, hd, hz, spaces]

end Hawk.Fmt
