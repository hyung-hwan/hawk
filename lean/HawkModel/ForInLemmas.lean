import HawkModel.ForIn
namespace Hawk.ForIn

variable {σ κ : Type}

/-- said of what a statement does to the state (a `Loop.body`, an `exec st`): it leaves the snapshot stack as it found it -/
def Bal (body : St σ κ → St σ κ × Exit) : Prop := ∀ s, (body s).1.stack = s.stack

/-- the loop that reads `ptr[i]` and re-reads the size on every iteration is the plain recursion over the stack from `i` on,
    given fuel for every entry from `i` on -/
theorem iter_eq_loopSpec (L : Loop σ κ) (hb : Bal L.body) :
    ∀ (fuel i : Nat) (s : St σ κ) (acc : List κ), s.stack.length ≤ i + fuel →
      iter L fuel i s acc = loopSpec L (s.stack.drop i) s acc := by
  intro fuel
  induction fuel with
  | zero =>
    intro i s acc hf
    rw [List.drop_eq_nil_of_le (show s.stack.length ≤ i from hf)]; rfl
  | succ f ih =>
    intro i s acc hf
    cases hget : s.stack[i]? with
    | none => simp only [iter, hget, List.drop_eq_nil_of_le (List.getElem?_eq_none_iff.1 hget), loopSpec]
    | some k =>
      obtain ⟨hi, rfl⟩ := List.getElem?_eq_some_iff.1 hget
      simp only [iter, hget, List.drop_eq_getElem_cons hi, loopSpec]
      cases L.assign s.stack[i] s.user with
      | none => rfl
      | some u =>
        -- the body hands back the stack it was given, so the next iteration reads the same stack one place further on
        have hst : (L.body { s with user := u }).1.stack = s.stack := hb _
        have hih := ih (i + 1) (L.body { s with user := u }).1 (s.stack[i] :: acc) (by rw [hst]; omega)
        rw [hst] at hih
        simp only [hih]

end Hawk.ForIn
