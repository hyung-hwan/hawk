import HawkModel.Htb
/-! The specification the hash table is measured against: the ideal dictionary (a function from keys to values), what it
    does and answers for each call, and histories of calls on the dictionary: `specRun`, and the relation `SpecRun`, in
    which an allocating call may also be refused.  On calm histories (no refusal in any oracle) the relation is the function
    (`SpecRun.eq_of_calm`), so exactness of the table is a fact about the specification alone. -/
namespace Hawk.Htb

abbrev Dict := Nat → Option Nat

def Dict.empty : Dict := fun _ => none
def Dict.set (d : Dict) (k v : Nat) : Dict := fun x => if x = k then some v else d x
def Dict.erase (d : Dict) (k : Nat) : Dict := fun x => if x = k then none else d x

theorem Dict.set_same {d : Dict} {k v : Nat} (h : d k = some v) : d.set k v = d := by
  funext x
  by_cases hx : x = k
  · rw [Dict.set, if_pos hx, hx, h]
  · rw [Dict.set, if_neg hx]

def specIns (d : Dict) (k v : Nat) : Opt → Dict × Except Err Pair
  | .upsert => (d.set k v, .ok (k, v))
  | .update => match d k with
    | some _ => (d.set k v, .ok (k, v))
    | none => (d, .error .enoent)
  | .ensert => match d k with
    | some w => (d, .ok (k, w))
    | none => (d.set k v, .ok (k, v))
  | .insert => match d k with
    | some _ => (d, .error .eexist)
    | none => (d.set k v, .ok (k, v))

def specCb (d : Dict) (k : Nat) (f : Option Nat → CbAns) : Dict × Except Err Pair :=
  match d k with
  | some w =>
    match f (some w) with
    | .fail => (d, .error .ecb)
    | .keep => (d, .ok (k, w))
    | .fresh v => (d.set k v, .ok (k, v))
  | none =>
    match f none with
    | .fresh v => (d.set k v, .ok (k, v))
    | _ => (d, .error .ecb)

def specDel (d : Dict) (k : Nat) : Dict × Except Err Unit :=
  match d k with
  | some _ => (d.erase k, .ok ())
  | none => (d, .error .enoent)

def specSearch (d : Dict) (k : Nat) : Except Err Pair :=
  match d k with
  | some v => .ok (k, v)
  | none => .error .enoent

inductive Op where
  | ins (opt : Opt) (k v : Nat) (o : Oracle)
  | cbsert (k : Nat) (f : Option Nat → CbAns) (o : Oracle)
  | delete (k : Nat)
  | search (k : Nat)
  | clear

/-- what the refinement compares of a call: its return value (the callback events are not compared) -/
inductive Ret where
  | pair (r : Except Err Pair)
  | code (r : Except Err Unit)

def specStep (d : Dict) : Op → Dict × Ret
  | .ins opt k v _ => let r := specIns d k v opt; (r.1, .pair r.2)
  | .cbsert k f _ => let r := specCb d k f; (r.1, .pair r.2)
  | .delete k => let r := specDel d k; (r.1, .code r.2)
  | .search k => (d, .pair (specSearch d k))
  | .clear => (Dict.empty, .code (.ok ()))

def specRun (d : Dict) : List Op → Dict × List Ret
  | [] => (d, [])
  | op :: ops => let s := specStep d op; let r := specRun s.1 ops; (r.1, s.2 :: r.2)

/-- one step of the ideal dictionary, which may also refuse an allocating call (ENOMEM, dictionary kept) if the call's
    oracle holds a refusal anywhere, consumed by the C or not -/
inductive SpecStep : Dict → Op → Ret → Dict → Prop
  | ideal (d : Dict) (op : Op) : SpecStep d op (specStep d op).2 (specStep d op).1
  | refused (d : Dict) (opt : Opt) (k v : Nat) (o : Oracle) :
      false ∈ o → SpecStep d (.ins opt k v o) (.pair (.error .enomem)) d
  | refusedCb (d : Dict) (k : Nat) (f : Option Nat → CbAns) (o : Oracle) :
      false ∈ o → SpecStep d (.cbsert k f o) (.pair (.error .enomem)) d

inductive SpecRun : Dict → List Op → List Ret → Dict → Prop
  | nil (d : Dict) : SpecRun d [] [] d
  | cons {d d' d'' : Dict} {op : Op} {r : Ret} {ops : List Op} {rs : List Ret} :
      SpecStep d op r d' → SpecRun d' ops rs d'' → SpecRun d (op :: ops) (r :: rs) d''

def Op.calm : Op → Prop
  | .ins _ _ _ o => false ∉ o
  | .cbsert _ _ o => false ∉ o
  | _ => True

theorem SpecStep.of_eq {d d' : Dict} {op : Op} {r : Ret} (e : (d', r) = specStep d op) : SpecStep d op r d' := by
  have := SpecStep.ideal d op
  rwa [← e] at this

theorem SpecStep.eq_of_calm {d d' : Dict} {op : Op} {r : Ret} (h : SpecStep d op r d') (hc : op.calm) :
    (d', r) = specStep d op := by
  cases h with
  | ideal => rfl
  | refused _ _ _ _ ho | refusedCb _ _ _ ho => exact absurd ho hc

theorem SpecRun.eq_of_calm {d d' : Dict} {ops : List Op} {rs : List Ret} (h : SpecRun d ops rs d')
    (hc : ∀ op ∈ ops, op.calm) : (d', rs) = specRun d ops := by
  induction h with
  | nil => rfl
  | cons hs _ ih =>
    rw [specRun, ← hs.eq_of_calm (hc _ List.mem_cons_self), ← ih fun op hop => hc op (List.mem_cons_of_mem _ hop)]

end Hawk.Htb
