import HawkModel.Rbt
/-!
# C16 (rbt): the stateful iterator read through `posAll`, the pairs still to come: it enumerates the in-order list

`posAll` and the inductions over `descend` / `ascend` / `resume` (`descend_all` .. `getNext_posAll`, `cur_eq_head`) stand in
`Rbt.lean`, where the termination of `walkItr` needs them; this module adds `ItrOk` and reads `nextN` and the walks off them.
-/
namespace Hawk.Rbt
open Color T

variable {V : Type}

/-- states of the iterator that `getFirst` / `getNext` produce: `_state` is 1 or 2 while a pair is held -/
def ItrOk (it : Itr V) : Prop := it.state = 0 → it.pair = none

theorem resume_state (dir : Bool) (t : T V) (p : Path V) : (resume dir t p).2 = 0 → (resume dir t p).1 = none := by
  cases t with
  | nil => exact fun _ => rfl
  | node c l k v r => rw [resume]; split <;> nofun

theorem getFirst_ok (t : T V) (dir : Bool) : ItrOk (getFirst t dir) := by
  fun_cases getFirst t dir with
  | case1 q hq => nofun
  | case2 => exact fun _ => rfl

theorem getNext_ok (it : Itr V) : ItrOk (getNext it) := by
  fun_cases getNext it with
  | case1 | case2 | case4 => exact fun _ => rfl
  | case3 _ t p q st _ hq =>
    have := resume_state it.dir t p
    rw [hq] at this
    exact this

theorem getFirst_dir (t : T V) (dir : Bool) : (getFirst t dir).dir = dir := by
  fun_cases getFirst t dir <;> rfl

theorem getFirst_posAll (t : T V) (dir : Bool) :
    posAll dir (getFirst t dir).pair = listDir dir t := by
  have h := descend_all dir t []
  rw [pathRest, List.append_nil] at h
  fun_cases getFirst t dir with
  | case1 q hq | case2 hq =>
    rw [hq] at h
    rw [h]
    cases t <;> simp [isNil, listDir]

theorem getNext_tail (it : Itr V) (h : ItrOk it) : posAll it.dir (getNext it).pair = (posAll it.dir it.pair).tail := by
  rw [getNext_posAll]
  split
  · rename_i hs; rw [h hs]; rfl
  · rfl

/-- `i` calls of `hawk_rbt_getnextpair` -/
def nextN : Nat → Itr V → Itr V
  | 0, it => it
  | i + 1, it => nextN i (getNext it)

theorem nextN_cur (it : Itr V) (h : ItrOk it) (i : Nat) :
    (nextN i it).cur = (posAll it.dir it.pair)[i]? := by
  induction i generalizing it with
  | zero => simp [nextN, cur_eq_head it, List.head?_eq_getElem?]
  | succ i ih =>
    simp only [nextN]
    rw [ih _ (getNext_ok it), getNext_dir, getNext_tail it h]
    simp

theorem walkItr_eq (it : Itr V) (h : ItrOk it) : walkItr it = posAll it.dir it.pair := by
  fun_induction walkItr it with
  | case1 it hcur =>
    rw [cur_eq_head it] at hcur
    exact (List.head?_eq_none_iff.1 hcur).symm
  | case2 it kv hcur ih =>
    rw [ih (getNext_ok it), getNext_dir, getNext_tail it h]
    rw [cur_eq_head it] at hcur
    cases hp : posAll it.dir it.pair with
    | nil => rw [hp] at hcur; cases hcur
    | cons a as => rw [hp] at hcur; cases hcur; rfl

theorem walkItr_getFirst (t : T V) (dir : Bool) : walkItr (getFirst t dir) = listDir dir t := by
  rw [walkItr_eq _ (getFirst_ok _ _), getFirst_dir, getFirst_posAll]

end Hawk.Rbt
