import HawkModel.CoreLemmas
import HawkModel.GcVal
/-! # C07 — the accounting invariant of the leaf-value allocators (model: HawkModel/GcVal.lean) -/
namespace Hawk.Gc

def leafCount (p : Leaf → Bool) (t : List (Option Leaf)) : Nat :=
  t.countP fun x => match x with | some l => p l | none => false

def isInt : Leaf → Bool | .int => true | _ => false
def isFlt : Leaf → Bool | .flt => true | _ => false
def isStr : Leaf → Bool | .str _ => true | _ => false

theorem leafCount_append (p : Leaf → Bool) (t : List (Option Leaf)) (l : Leaf) :
    leafCount p (t ++ [some l]) = leafCount p t + (if p l then 1 else 0) := by
  unfold leafCount
  rw [List.countP_append]
  by_cases h : p l <;> simp [h]

theorem leafCount_set_none (p : Leaf → Bool) (t : List (Option Leaf)) (k : Nat) (l : Leaf)
    (h : (t[k]?).getD none = some l) :
    leafCount p (t.set k none) + (if p l then 1 else 0) = leafCount p t := by
  unfold leafCount
  induction t generalizing k with
  | nil => simp at h
  | cons a r ih =>
    cases k with
    | zero =>
      simp at h; subst h
      by_cases hp : p l <;> simp [hp]
    | succ n =>
      have := ih n (by simpa using h)
      simp only [List.set_cons_succ, List.countP_cons]
      omega

theorem sum_set (l : List Nat) (i a : Nat) (hi : i < l.length) : (l.set i a).sum + l.getD i 0 = l.sum + a := by
  simpa [List.getD_eq_getElem?_getD, hi] using List.sum_map_set id hi a

/-- **cache blocks + live blocks + chunk (free-list) blocks = blocks obtained from the host**, and the slot and
table bookkeeping behind it -/
structure VInv (v : VSt) : Prop where
  blocks : v.host = v.ichunks + v.fchunks + v.slive + v.scache.sum
  ints : v.ilive + v.ifree = CHUNKSIZE * v.ichunks
  flts : v.flive + v.ffree = CHUNKSIZE * v.fchunks
  icnt : v.ilive = leafCount isInt v.tab
  fcnt : v.flive = leafCount isFlt v.tab
  scnt : v.slive = leafCount isStr v.tab
  clen : v.scache.length = STR_CACHE_NUM

theorem vinv_init : VInv {} := ⟨rfl, rfl, rfl, rfl, rfl, rfl, rfl⟩

theorem VInv.tab_append {v : VSt} (h : VInv v) (l : Leaf) :
    v.ilive + (if isInt l then 1 else 0) = leafCount isInt (v.tab ++ [some l]) ∧
    v.flive + (if isFlt l then 1 else 0) = leafCount isFlt (v.tab ++ [some l]) ∧
    v.slive + (if isStr l then 1 else 0) = leafCount isStr (v.tab ++ [some l]) := by
  simp only [leafCount_append, ← h.icnt, ← h.fcnt, ← h.scnt, and_self]

theorem VInv.tab_release {v : VSt} (h : VInv v) {k : Nat} {l : Leaf} (hk : (v.tab[k]?).getD none = some l) :
    leafCount isInt (v.tab.set k none) + (if isInt l then 1 else 0) = v.ilive ∧
    leafCount isFlt (v.tab.set k none) + (if isFlt l then 1 else 0) = v.flive ∧
    leafCount isStr (v.tab.set k none) + (if isStr l then 1 else 0) = v.slive := by
  rw [h.icnt, h.fcnt, h.scnt]
  exact ⟨leafCount_set_none _ _ k l hk, leafCount_set_none _ _ k l hk, leafCount_set_none _ _ k l hk⟩

/-- taking a slot: from the free list, or from a new chunk when the list is empty -/
theorem chunk_take {live free chunks : Nat} (h : live + free = CHUNKSIZE * chunks) :
    (free = 0 → live + 1 + (CHUNKSIZE - 1) = CHUNKSIZE * (chunks + 1)) ∧
    (free ≠ 0 → live + 1 + (free - 1) = CHUNKSIZE * chunks) := by
  simp only [CHUNKSIZE] at h ⊢
  omega

theorem vinv_mkInt (v : VSt) (h : VInv v) : VInv (mkInt v) := by
  obtain ⟨ti, tf, ts⟩ := h.tab_append .int
  obtain ⟨new, old⟩ := chunk_take h.ints
  have hb := h.blocks
  unfold mkInt
  split
  · rename_i hz
    refine ⟨?_, new hz, h.flts, ti, tf, ts, h.clen⟩
    show v.host + 1 = v.ichunks + 1 + v.fchunks + v.slive + v.scache.sum
    omega
  · rename_i hz
    exact ⟨hb, old hz, h.flts, ti, tf, ts, h.clen⟩

theorem vinv_mkFlt (v : VSt) (h : VInv v) : VInv (mkFlt v) := by
  obtain ⟨ti, tf, ts⟩ := h.tab_append .flt
  obtain ⟨new, old⟩ := chunk_take h.flts
  have hb := h.blocks
  unfold mkFlt
  split
  · rename_i hz
    refine ⟨?_, h.ints, new hz, ti, tf, ts, h.clen⟩
    show v.host + 1 = v.ichunks + (v.fchunks + 1) + v.slive + v.scache.sum
    omega
  · rename_i hz
    exact ⟨hb, h.ints, old hz, ti, tf, ts, h.clen⟩

theorem vinv_mkStr (v : VSt) (len : Nat) (h : VInv v) : VInv (mkStr v len) := by
  have hb := h.blocks
  simp only [mkStr]
  split
  · rename_i hc
    have hs := sum_set v.scache (strClass len) (v.scache.getD (strClass len) 0 - 1) (h.clen ▸ hc.1)
    have blocks : v.host = v.ichunks + v.fchunks + (v.slive + 1) +
        (v.scache.set (strClass len) (v.scache.getD (strClass len) 0 - 1)).sum := by omega
    obtain ⟨ti, tf, ts⟩ := h.tab_append (.str (strClass len))
    exact ⟨blocks, h.ints, h.flts, ti, tf, ts, by simp [h.clen]⟩
  · have blocks : v.host + 1 = v.ichunks + v.fchunks + (v.slive + 1) + v.scache.sum := by omega
    obtain ⟨ti, tf, ts⟩ := h.tab_append (.str (strClass len))
    exact ⟨blocks, h.ints, h.flts, ti, tf, ts, h.clen⟩

/-- giving a slot back puts it on the free list -/
theorem chunk_give {live free chunks n : Nat} (h : live + free = CHUNKSIZE * chunks) (hn : n + 1 = live) :
    live - 1 + (free + 1) = CHUNKSIZE * chunks ∧ live - 1 = n := by
  omega

theorem vinv_rel (v : VSt) (k : Nat) (v' : VSt) (h : VInv v) (hr : rel v k = some v') : VInv v' := by
  unfold rel at hr
  cases ht : (v.tab[k]?).getD none with
  | none => rw [ht] at hr; cases hr
  | some l =>
    obtain ⟨ti, tf, ts⟩ := h.tab_release ht
    rw [ht] at hr
    cases l with
    | int =>
      cases hr
      obtain ⟨slots, cnt⟩ := chunk_give h.ints ti
      exact ⟨h.blocks, slots, h.flts, cnt, tf.symm, ts.symm, h.clen⟩
    | flt =>
      cases hr
      obtain ⟨slots, cnt⟩ := chunk_give h.flts tf
      exact ⟨h.blocks, h.ints, slots, ti.symm, cnt, ts.symm, h.clen⟩
    | str c =>
      have hb := h.blocks
      have ts : leafCount isStr (v.tab.set k none) + 1 = v.slive := ts
      have scnt := Nat.sub_eq_of_eq_add ts.symm
      clear ti tf
      simp only at hr
      split at hr
      · rename_i hc
        cases hr
        have hs := sum_set v.scache c (v.scache.getD c 0 + 1) (h.clen ▸ hc.1)
        have blocks : v.host = v.ichunks + v.fchunks + (v.slive - 1) +
            (v.scache.set c (v.scache.getD c 0 + 1)).sum := by omega
        obtain ⟨ti, tf, _⟩ := h.tab_release ht
        exact ⟨blocks, h.ints, h.flts, ti.symm, tf.symm, scnt, by simp [h.clen]⟩
      · cases hr
        have blocks : v.host - 1 = v.ichunks + v.fchunks + (v.slive - 1) + v.scache.sum := by omega
        obtain ⟨ti, tf, _⟩ := h.tab_release ht
        exact ⟨blocks, h.ints, h.flts, ti.symm, tf.symm, scnt, h.clen⟩

theorem vinv_step (v : VSt) (op : VOp) (h : VInv v) : VInv (vstep v op) := by
  cases op with
  | int => exact vinv_mkInt v h
  | flt => exact vinv_mkFlt v h
  | str len => exact vinv_mkStr v len h
  | rel k =>
    show VInv ((rel v k).getD v)
    cases hr : rel v k with
    | none => exact h
    | some v' => exact vinv_rel v k v' h hr

theorem vinv_run (ops : List VOp) : VInv (vrun ops) :=
  List.foldlRecOn ops vstep vinv_init fun v h op _ => vinv_step v op h

theorem flush_host {v : VSt} (h : VInv v) (h0 : v.slive = 0) : (flush v).host = 0 := by
  have hb := h.blocks
  show v.host - v.scache.sum - v.ichunks - v.fchunks = 0
  omega

end Hawk.Gc
