import HawkModel.CtxRc
/-! For C09, the private state of a run: `Run c ok c'`, what code that enters and leaves its frames in pairs does to a
context (frame bookkeeping restored, ledger balanced, one of a few end states).  It holds of a statement and of a
call from entry to exit, hence of a body (`runBody_run`), and gives each API entry point its specification, up to
`stepCtx_rest`: every operation hands the context back at rest. -/
namespace Hawk.Ctx

/-- how a body can end, relative to where it started.  Completed: the exit level is what it was (statements run at
    NONE only), or was set by `return` / `exit`.  Failed: with a real error and the exit level at NONE, or unwound by
    `exit` (error number cleared, exit level latched). -/
def EndState (c : Ctx) (ok : Bool) (c' : Ctx) : Prop :=
  (ok = true → c'.exitLevel = c.exitLevel ∨ c'.exitLevel = xlFunction ∨ c'.exitLevel = xlGlobal) ∧
  (ok = false → (c'.err ≠ .enoerr ∧ c'.exitLevel = xlNone) ∨ (c'.err = .enoerr ∧ xlGlobal ≤ c'.exitLevel))

/-- leaving a frame consumes FUNCTION: of the levels a completed body can end at, only GLOBAL survives -/
theorem xl_consumed {x : Nat} (hi : x = xlNone ∨ x = xlFunction ∨ x = xlGlobal) (hg : x ≠ xlGlobal) :
    (if x = xlFunction then xlNone else x) = xlNone := by
  rcases hi with rfl | rfl | e
  · rfl
  · rfl
  · exact absurd e hg

theorem EndState.trans {a b c : Ctx} {ok : Bool} (h1 : EndState a true b) (h2 : EndState b ok c) : EndState a ok c := by
  refine ⟨fun hok => ?_, h2.2⟩
  rcases h2.1 hok with e2 | e2
  · rw [e2]; exact h1.1 rfl
  · exact .inr e2

theorem EndState.congr {c c' d d' : Ctx} {ok : Bool} (h : EndState c ok c') (e : d.ee = c.ee) (e' : d'.ee = c'.ee) :
    EndState d ok d' := by
  unfold EndState at h ⊢
  rw [xl_of_ee e, xl_of_ee e', err_of_ee e']
  exact h

/-- what a piece of code that enters and leaves its frames in pairs does to a context: the frame bookkeeping is as
    before, the ledger stays balanced whatever is in flight, and it ends in one of the ways a body can end -/
structure Run (c : Ctx) (ok : Bool) (c' : Ctx) : Prop where
  skel : c'.skel = c.skel
  inv : ∀ vs, Inv c vs → Inv c' vs
  fin : EndState c ok c'

theorem Run.done {c c' : Ctx} (hs : c'.skel = c.skel) (hi : ∀ vs, Inv c vs → Inv c' vs)
    (hx : c'.exitLevel = c.exitLevel ∨ c'.exitLevel = xlFunction ∨ c'.exitLevel = xlGlobal) : Run c true c' :=
  ⟨hs, hi, fun _ => hx, nofun⟩

theorem Run.err {c : Ctx} {e : Err} (hx : c.exitLevel = xlNone) (he : e ≠ .enoerr) : Run c false (c.setErr e) :=
  ⟨rfl, fun _ h => h, nofun, fun _ => .inl ⟨he, hx⟩⟩

theorem Run.refl (c : Ctx) : Run c true c := .done rfl (fun _ h => h) (.inl rfl)

theorem Run.trans {a b c : Ctx} {ok : Bool} (h1 : Run a true b) (h2 : Run b ok c) : Run a ok c :=
  ⟨h2.skel.trans h1.skel, fun vs h => h2.inv vs (h1.inv vs h), h1.fin.trans h2.fin⟩

/-- only `fail` needs the exit level: the failed clause of `EndState` asks for NONE -/
theorem run_stepSimple {c : Ctx} (hx : c.exitLevel = xlNone) (a : Action) : Run c (stepSimple c a).1 (stepSimple c a).2 := by
  cases a with
  | setg n e | setl n e | seta n e =>
    simp only [stepSimple]
    exact .done (skel_doAssign ..) (fun _ h => inv_doAssign h _ e _) (.inl (xl_of_ee (ee_doAssign ..)))
  | print e =>
    simp only [stepSimple]
    exact .done (skel_evalOwned c e) (fun _ h => inv_refdown (inv_congr (c := (evalOwned c e).1) rfl rfl rfl rfl rfl (inv_evalOwned h e)))
      (.inl (xl_of_ee (ee_evalOwned c e)))
  | printf k e =>
    simp only [stepSimple]
    split <;> exact .done (skel_evalOwned c e)
      (fun _ h => inv_refdown (inv_congr (c := (evalOwned c e).1) rfl rfl rfl rfl rfl (inv_evalOwned h e)))
      (.inl (xl_of_ee (c' := (evalOwned c e).1) (ee_evalOwned c e)))
  | closef k =>
    simp only [stepSimple]
    split <;> exact .done rfl (fun _ h => h) (.inl rfl)
  | getline =>
    simp only [stepSimple]
    split
    · exact .refl c
    · next r rest hin => exact .done rfl (fun _ h => inv_congr rfl rfl rfl rfl rfl (inv_newRec0 h r)) (.inl rfl)
  | fail => exact .err hx (by decide)
  | exit e | ret e =>
    cases e with
    | none => exact .done rfl (fun _ h => h) (by simp [stepSimple])
    | some e =>
      simp only [stepSimple]
      exact .done ((skel_replaceOwned (evalOwned c e).1 _ (evalOwned c e).2).trans (skel_evalOwned c e))
        (fun _ h => inv_congr (c := (evalOwned c e).1.replaceOwned _ (evalOwned c e).2) rfl rfl rfl rfl rfl
          (inv_replaceOwned _ (inv_evalOwned h e))) (by simp)
  | call dst site args => exact .refl c
  | mapset n key e =>
    simp only [stepSimple]
    split
    · next id rc kv hm =>
      -- the map is updated in place: the cell's data changes and its count stays, which no `inv_*` rule speaks of
      refine .done rfl (fun vs h => ?_) (.inl rfl)
      have hc := mapCellOf_spec hm
      refine ⟨upd_ok h.1 (live_lt_next h.1 hc) _ (fun c' h' => by cases h'; exact h.1.pos id ⟨rc, .map kv⟩ hc), fun j => ?_⟩
      have := h.2 j
      simp only [Ctx.refs] at this ⊢
      rw [rc_upd]
      split
      · next heq => subst heq; simp only [Heap.rc, hc] at this; exact this
      · exact this
    · split
      · next hnone hv =>
        -- from the `refdown` to the `setSlot` the slot still holds the reference just dropped, so `Inv` holds of no state in
        -- between, and the `alloc` keeps `setSlot_refdown_comm` (the way out in `inv_assign`) from applying: the three steps are added up
        refine .done (by simp) (fun vs h => ?_) (.inl (xl_of_ee (c := c) (by simp)))
        have e1 := refdown_ok h.1 (c.slot (c.argIdx n)) (fun _ hj => h.live (slot_counted hj))
        have e2 := alloc_ok e1.1 (.map [(key, textOf c e)])
        have hv' : ((c.refdown (c.slot (c.argIdx n))).alloc (.map [(key, textOf c e)])).1.isVal (c.argIdx n) = true := hv
        have e3 := fun id => refs_setSlot hv' ((c.refdown (c.slot (c.argIdx n))).alloc (.map [(key, textOf c e)])).2 id
        refine ⟨by unfold Ctx.setSlot; simp only [hv', ↓reduceIte]; exact e2.1, fun id => ?_⟩
        have a1 := e1.2 id
        have a2 := e2.2.2.2 id
        have a3 := h.2 id
        have a4 := e3 id
        have hh : (((c.refdown (c.slot (c.argIdx n))).alloc (.map [(key, textOf c e)])).1.setSlot (c.argIdx n)
            ((c.refdown (c.slot (c.argIdx n))).alloc (.map [(key, textOf c e)])).2).heap
            = ((c.refdown (c.slot (c.argIdx n))).alloc (.map [(key, textOf c e)])).1.heap := by
          unfold Ctx.setSlot; simp only [hv', ↓reduceIte]
        rw [hh]
        simp only [Ctx.refs, Ctx.alloc, Ctx.refdown, Ctx.slot] at a1 a2 a3 a4 ⊢
        omega
      · exact .refl c

/-- the value copied back is held by the parameter slot, so assigning it cannot free it -/
theorem copyBackOne_spec (c : Ctx) (e : Expr) (av : Val) :
    (copyBackOne c e av).2.skel = c.skel ∧
    (∀ vs, Inv c vs → (∀ j, av = .ref j → 1 ≤ c.refs j + occL j vs) → Inv (copyBackOne c e av).2 vs) ∧
    (copyBackOne c e av).2.exitLevel = c.exitLevel ∧
    ((copyBackOne c e av).1 = false → (copyBackOne c e av).2.err = .enonscatopos ∧ c.exitLevel < xlGlobal) := by
  cases e with
  | glob j | arg j | loc j =>
    simp only [copyBackOne]
    exact ⟨skel_assignGbl c _ av, fun _ h hv => inv_assignGbl_live _ h hv, xl_of_ee (ee_assignGbl c _ av), nofun⟩
  | rec0 =>
    simp only [copyBackOne]
    split
    · exact ⟨rfl, fun _ h _ => h, rfl, nofun⟩
    · next hx =>
      split
      · exact ⟨rfl, fun _ h _ => h, rfl, nofun⟩
      · split
        · exact ⟨rfl, fun _ h _ => h, rfl, fun _ => ⟨rfl, by omega⟩⟩
        · exact ⟨skel_setRec0 c _, fun _ h _ => inv_setRec0 h _, xl_of_ee (ee_setRec0 c _), nofun⟩
  | nr | lit s | app e s | cat a b | mlen n => exact ⟨rfl, fun _ h _ => h, rfl, nofun⟩

theorem copyBack_spec (c : Ctx) (bs : List Bool) (es : List Expr) (i : Nat) :
    (copyBack c bs es i).2.skel = c.skel ∧ (∀ vs, Inv c vs → Inv (copyBack c bs es i).2 vs) ∧
    (copyBack c bs es i).2.exitLevel = c.exitLevel ∧
    ((copyBack c bs es i).1 = false → (copyBack c bs es i).2.err = .enonscatopos ∧ c.exitLevel < xlGlobal) := by
  fun_induction copyBack c bs es i with
  | case1 c bs e es i c1 h1 ih =>
    have h0 := copyBackOne_spec c e (c.slot (c.argIdx i))
    rw [h1] at h0
    exact ⟨ih.1.trans h0.1, fun vs h => ih.2.1 vs (h0.2.1 vs h (fun _ hj => slot_counted hj)), ih.2.2.1.trans h0.2.2.1,
      fun hf => h0.2.2.1 ▸ ih.2.2.2 hf⟩
  | case2 c bs e es i c1 h1 =>
    have h0 := copyBackOne_spec c e (c.slot (c.argIdx i))
    rw [h1] at h0
    exact ⟨h0.1, fun vs h => h0.2.1 vs h (fun _ hj => slot_counted hj), h0.2.2.1, fun _ => h0.2.2.2 rfl⟩
  | case3 c b bs e es i hb ih => exact ih
  | case4 => exact ⟨rfl, fun _ h => h, rfl, nofun⟩

/-- the state `afterCall` hands to `leaveFrame`: locals popped, by-reference parameters copied back if the body completed -/
def copied (c3 : Ctx) (ok : Bool) (nl : Nat) (spec : List Bool) (args : List Expr) : Bool × Ctx :=
  if ok then copyBack (popVals c3 nl) spec args 0 else (false, popVals c3 nl)

theorem afterCall_eq (c3 : Ctx) (ok : Bool) (nl dst : Nat) (spec : List Bool) (args : List Expr) :
    afterCall c3 ok nl dst spec args =
      let cb := copied c3 ok nl spec args
      let l := leaveFrame cb.2 cb.1 false
      match l.2.1 with
      | none => (false, l.1)
      | some v =>
        if xlGlobal ≤ l.1.exitLevel then (false, (l.1.refdown v).setErr .enoerr)
        else (true, (l.1.assign (l.1.lclIdx dst) v).refdown v) := by
  rfl

theorem copied_spec {c c3 : Ctx} {n nl : Nat} (hs : c3.skel = frameSkel c n (n + nl)) (ok : Bool) (spec : List Bool)
    (args : List Expr) :
    (copied c3 ok nl spec args).2.skel = frameSkel c n n ∧ (∀ vs, Inv c3 vs → Inv (copied c3 ok nl spec args).2 vs) ∧
    (copied c3 ok nl spec args).2.exitLevel = c3.exitLevel ∧
    ((copied c3 ok nl spec args).1 = true → ok = true) ∧
    ((copied c3 ok nl spec args).1 = false → ok = true →
      (copied c3 ok nl spec args).2.err = .enonscatopos ∧ c3.exitLevel < xlGlobal) ∧
    (ok = false → (copied c3 ok nl spec args).2.err = c3.err) := by
  have hp := skel_popVals_frameSkel hs
  have hx : (popVals c3 nl).exitLevel = c3.exitLevel := xl_of_ee (by simp)
  cases ok with
  | false => exact ⟨hp, fun vs h => inv_popVals h nl, hx, nofun, nofun, fun _ => err_of_ee (by simp [copied])⟩
  | true =>
    have hb := copyBack_spec (popVals c3 nl) spec args 0
    rw [hx] at hb
    exact ⟨hb.1.trans hp, fun vs h => hb.2.1 vs (inv_popVals h nl), hb.2.2.1, fun _ => rfl, fun h _ => hb.2.2.2 h, nofun⟩

theorem run_afterCall {c c3 : Ctx} {f : Fun} {args : List Expr} {nl : Nat} {ok : Bool} (dst : Nat)
    (hx : c.exitLevel = xlNone) (hle : args.length ≤ f.nargs) (h : Run (pushNils (enterCall c f args) nl) ok c3) :
    Run c (afterCall c3 ok nl dst f.spec args).1 (afterCall c3 ok nl dst f.spec args).2 := by
  have hs := h.skel
  rw [skel_enterCall c f args nl hle] at hs
  have hi : ∀ vs, Inv c vs → Inv c3 vs := fun vs hi => h.inv vs (inv_pushNils (inv_enterCall hi f args) nl)
  have hx2 : (pushNils (enterCall c f args) nl).exitLevel = xlNone := (xl_of_ee (c := c) (by simp)).trans hx
  obtain ⟨hcs, hci, hcx, hok1, hfail, hsame⟩ := copied_spec hs ok f.spec args
  rw [afterCall_eq]
  extract_lets cb l
  have hleft : LeftFrame cb.2 c cb.1 false l := leaveFrame_spec hcs cb.1 false
  have hlx := hleft.xl
  rw [hcx] at hlx
  have hcap : l.2.2 = none := by simpa using hleft.cap
  cases hr : l.2.1 with
  | none =>
    have hok1f : cb.1 = false := by rw [← hleft.res, hr]; rfl
    refine ⟨hleft.skel, fun vs hv => by simpa [hr, hcap] using hleft.inv vs (hci vs (hi vs hv)), nofun, fun _ => ?_⟩
    show (l.1.err ≠ _ ∧ l.1.exitLevel = _) ∨ _
    rw [hleft.err, hlx]
    cases hok : ok with
    | true =>
      -- the body completed but a copy-back was rejected
      have hf := hfail hok1f hok
      have hi := h.fin.1 hok
      rw [hx2] at hi
      exact .inl ⟨by rw [hf.1]; decide, xl_consumed hi (Nat.ne_of_lt hf.2)⟩
    | false =>
      rw [hsame hok]
      rcases h.fin.2 hok with ⟨h1, h2⟩ | ⟨h1, h2⟩
      · exact .inl ⟨h1, by rw [h2]; rfl⟩
      · refine .inr ⟨h1, ?_⟩
        have : ¬ c3.exitLevel = xlFunction := by simp [xlGlobal, xlFunction] at h2 ⊢; omega
        simp [this]; exact h2
  | some v =>
    have hok := hok1 (by rw [← hleft.res, hr]; rfl)
    have hi' := h.fin.1 hok
    rw [hx2] at hi'
    have hlv : ∀ vs, Inv c vs → Inv l.1 (v :: vs) := fun vs hv => by simpa [hr, hcap] using hleft.inv vs (hci vs (hi vs hv))
    simp only
    split
    · next hg =>
      exact ⟨by simp [hleft.skel], fun vs hv => inv_congr (c := l.1.refdown v) rfl rfl rfl rfl rfl (inv_refdown (hlv vs hv)),
        nofun, fun _ => .inr ⟨rfl, hg⟩⟩
    · next hg =>
      refine ⟨by simp [hleft.skel], fun vs hv => inv_refdown (inv_assign _ (hlv vs hv)), fun _ => .inl ?_, nofun⟩
      have e4 : ((l.1.assign (l.1.lclIdx dst) v).refdown v).exitLevel = l.1.exitLevel := xl_of_ee (by simp)
      rw [e4, hlx, hx]
      exact xl_consumed hi' (fun e => hg (by rw [hlx, e]; decide))

theorem runBody_run (p : Prog) (avail : Nat) (c : Ctx) (k : Cache) (body : List Action) :
    Run c (runBody p avail c k body).1 (runBody p avail c k body).2.1 := by
  fun_induction runBody p avail c k body with
  | case1 avail c k | case2 avail c k => exact .refl c
  | case3 avail c k rest hx | case4 avail c k rest hx | case5 avail c k rest hx =>
    exact .err (by simpa using hx) (by decide)
  | case6 avail c k rest hx dst site args k1 fid? hres f hfun hlt hst c2 hl c4 hac =>
    have hx' : c.exitLevel = xlNone := by simpa using hx
    -- no room for the locals: the frame is left again at once
    have := run_afterCall (nl := 0) (c3 := c2.setErr .estack) dst hx' (by omega)
      (.err (e := .estack) ((xl_of_ee (ee_enterCall c f args)).trans hx') (by decide))
    rw [hac] at this; exact this
  | case7 avail c k rest hx dst site args k1 fid? hres f hfun hlt hst c2 hl c5 hac ih =>
    have hx' : c.exitLevel = xlNone := by simpa using hx
    have := run_afterCall (nl := 0) (c3 := c2.setErr .estack) dst hx' (by omega)
      (.err (e := .estack) ((xl_of_ee (ee_enterCall c f args)).trans hx') (by decide))
    rw [hac] at this; exact this.trans ih
  | case8 avail c k rest hx dst site args k1 fid? hres f hfun hlt hst c2 hl ok c3 k2 hrun c4 hac ih =>
    rw [hrun] at ih
    have := run_afterCall dst (by simpa using hx) (by omega) ih
    rw [hac] at this; exact this
  | case9 avail c k rest hx dst site args k1 fid? hres f hfun hlt hst c2 hl ok c3 k2 hrun c5 hac ih1 ih2 =>
    rw [hrun] at ih1
    have := run_afterCall dst (by simpa using hx) (by omega) ih1
    rw [hac] at this; exact this.trans ih2
  | case10 avail c k rest hx a hna c1 hs ih =>
    have := run_stepSimple (by simpa using hx) a
    rw [hs] at this; exact this.trans ih
  | case11 avail c k rest hx a hna c1 hs =>
    have := run_stepSimple (by simpa using hx) a
    rw [hs] at this; exact this

/-- a block is also entered at other exit levels than NONE (`callFun` admits all below GLOBAL), where its refusal for
    lack of stack is no end state of a body: the third conjunct asks for NONE -/
theorem run_runBlock (p : Prog) (c : Ctx) (k : Cache) (nl : Nat) (body : List Action) :
    (runBlock p c k nl body).2.1.skel = c.skel ∧ (∀ vs, Inv c vs → Inv (runBlock p c k nl body).2.1 vs) ∧
    (c.exitLevel = xlNone → EndState c (runBlock p c k nl body).1 (runBlock p c k nl body).2.1) := by
  unfold runBlock
  split
  · exact ⟨rfl, fun _ h => h, fun hx => (Run.err hx (by decide)).fin⟩
  · have h := runBody_run p (c.avail - nl) (pushNils c nl) k body
    refine ⟨?_, fun vs hi => inv_popVals (h.inv vs (inv_pushNils hi nl)) nl,
      fun _ => h.fin.congr (ee_pushNils c nl).symm (ee_popVals _ nl)⟩
    simp only
    rw [skel_popVals, h.skel, skel_pushNils]
    apply Skel.ext <;> try rfl
    simp

theorem callFun_spec (p : Prog) (c : Ctx) (k : Cache) (f : Fun) (args : List Val) :
    (callFun p c k f args).1.skel = c.skel ∧
    (∀ vs, Inv c vs → Held c args → Inv (callFun p c k f args).1 ((callFun p c k f args).2.2.toList ++ vs)) ∧
    (c.exitLevel = xlNone → (callFun p c k f args).2.2 = none → (callFun p c k f args).1.exitLevel = xlNone) := by
  rcases callFun_cases p c f args with ⟨e, h⟩ | ⟨hle, h⟩ <;> rw [h k]
  · exact ⟨rfl, fun _ h _ => h, fun hx _ => hx⟩
  · extract_lets r l
    obtain ⟨hrs, hri, hrf⟩ : r.2.1.skel = (callFrame c f args).skel ∧ (∀ vs, Inv (callFrame c f args) vs → Inv r.2.1 vs) ∧
        ((callFrame c f args).exitLevel = xlNone → EndState (callFrame c f args) r.1 r.2.1) := run_runBlock p _ k _ _
    have hleft : LeftFrame r.2.1 c r.1 true l := leaveFrame_spec (hrs.trans (skel_callFrame c f args hle)) r.1 true
    refine ⟨hleft.skel, fun vs hi ha => ?_, fun hx hf => ?_⟩
    · have hl := hleft.inv vs (hri vs (inv_enterFrame (inv_pushNils (inv_pushArgsFromVals (inv_pushPrologue hi) args ha) _) _ _))
      -- a result and a captured value never come together
      cases hr : l.2.1 with
      | none => simpa [hr] using hl
      | some v =>
        have hres := hleft.res
        rw [hr] at hres
        simpa [hr, show l.2.2 = none by simpa [← hres] using hleft.cap] using hl
    · -- no result and nothing captured: the body failed with a real error, at exit level NONE
      have hx2 : (callFrame c f args).exitLevel = xlNone := (xl_of_ee (c := c) (by simp [callFrame])).trans hx
      cases hr : l.2.1 with
      | some v => simp [hr] at hf
      | none =>
        simp only [hr, Option.none_or] at hf
        have hok : r.1 = false := by simpa [hr] using hleft.res.symm
        have hcap := hleft.cap
        rw [hf] at hcap
        simp [hok] at hcap
        rcases (hrf hx2).2 hok with ⟨h1, h2⟩ | ⟨h1, h2⟩
        · rw [hleft.xl, h2]; rfl
        · exact absurd h1 hcap

theorem callByName_spec (p : Prog) (c : Ctx) (k : Cache) (name : String) (args : List Val) :
    (callByName p c k name args).1.skel = c.skel ∧
    (∀ vs, Inv c vs → Held c args → Inv (callByName p c k name args).1 ((callByName p c k name args).2.2.toList ++ vs)) ∧
    (c.exitLevel = xlNone → (callByName p c k name args).2.2 = none → (callByName p c k name args).1.exitLevel = xlNone) := by
  unfold callByName
  split
  · exact ⟨rfl, fun _ h _ => h, fun hx _ => hx⟩
  · exact callFun_spec p c k _ args

theorem run_runOpt (p : Prog) (blk : Option Block) (go : Prop) [Decidable go] (ok : Bool) (c : Ctx) (k : Cache) :
    (runOpt p blk go ok c k).2.1.skel = c.skel ∧ ∀ vs, Inv c vs → Inv (runOpt p blk go ok c k).2.1 vs := by
  unfold runOpt
  split
  · split
    · exact ⟨(run_runBlock p _ k _ _).1, fun vs h => (run_runBlock p _ k _ _).2.1 vs h⟩
    · exact ⟨rfl, fun _ h => h⟩
  · exact ⟨rfl, fun _ h => h⟩

theorem loop_spec (p : Prog) (c : Ctx) (k : Cache) :
    (loop p c k).1.skel = c.skel ∧ ∀ vs, Inv c vs → Inv (loop p c k).1 ((loop p c k).2.2.toList ++ vs) := by
  rcases loop_cases p c with hl | hl <;> rw [hl k]
  · exact ⟨rfl, fun _ h => h⟩
  · extract_lets b ok1 c3 e f
    have hb : b.2.1.skel = (loopFrame c).skel ∧ ∀ vs, Inv (loopFrame c) vs → Inv b.2.1 vs := run_runOpt p _ _ _ _ k
    have h3 : c3.skel = b.2.1.skel ∧ ∀ vs, Inv b.2.1 vs → Inv c3 vs := by
      unfold c3
      split
      · exact ⟨skel_consumeInput _, fun _ => inv_consumeInput⟩
      · exact ⟨rfl, fun _ h => h⟩
    have hn : e.2.1.skel = c3.skel ∧ ∀ vs, Inv c3 vs → Inv e.2.1 vs := run_runOpt p _ _ _ _ _
    have hs := hn.1.trans (h3.1.trans (hb.1.trans (skel_loopFrame c)))
    -- the frame has no arguments and nothing is captured
    have hleft := leaveFrame_spec hs (e.1 || e.2.1.err == .enoerr) false
    have hf : f = _ := finishLoop_eq (frame_facts hs).2.1 _
    rw [hf]
    refine ⟨hleft.skel, fun vs h => inv_congr (c := (leaveFrame e.2.1 _ false).1) rfl rfl rfl rfl rfl ?_⟩
    have := hleft.inv vs (hn.2 vs (h3.2 vs (hb.2 vs (inv_enterFrame (inv_pushPrologue (c := { c with exitLevel := xlNone }) h) _ _))))
    simpa [show (leaveFrame e.2.1 _ false).2.2 = none by simpa using hleft.cap] using this


theorem callArgs_rest (p : Prog) (k : Cache) (c : Ctx) (fname : String) (as : List Arg) :
    (callArgs p k c fname as).1.core = c.core ∧ (callArgs p k c fname as).1.handles = c.handles ∧
    (Inv c [] → Inv (callArgs p k c fname as).1 ((callArgs p k c fname as).2.2.toList ++ [])) := by
  unfold callArgs
  obtain ⟨hs, hi, _⟩ := callByName_spec p (mkArgs c as).1 k fname (mkArgs c as).2
  refine ⟨(core_of_skel hs).trans (mkArgs_fields c as).1, (handles_of_skel hs).trans (mkArgs_fields c as).2.1, fun h => ?_⟩
  obtain ⟨h1, _, h4⟩ := mkArgs_spec c as h
  exact hi [] h1 h4

/-- the handle an operation stores into, if it stores into one -/
def Op.handle? : Op → Option Nat
  | .mkstr h _ | .mkmap h | .drop h => some h
  | _ => none

theorem rest_intro {c c' : Ctx} {op : Op} (hcore : c'.core = c.core) (ht : c.tmps = [] → c'.tmps = [])
    (hh : c'.handles = c.handles) (hi : Inv c [] → Inv c' []) :
    c'.core = c.core ∧ (c.tmps = [] → c'.tmps = []) ∧ (Sound c → Sound c') ∧ (op.handle? = none → c'.handles = c.handles) :=
  ⟨hcore, ht, fun h => ⟨hi h.inv, (congrArg List.length hh).trans h.hlen⟩, fun _ => hh⟩

theorem stepCtx_rest (p : Prog) (k : Cache) (c : Ctx) (op : Op) :
    (stepCtx p k c op).1.core = c.core ∧ (c.tmps = [] → (stepCtx p k c op).1.tmps = []) ∧
    (Sound c → Sound (stepCtx p k c op).1) ∧ (op.handle? = none → (stepCtx p k c op).1.handles = c.handles) := by
  cases op with
  | call fname args =>
    rw [stepCtx_call_fst]
    obtain ⟨hcore, hh, hi⟩ := callArgs_rest p k c fname args
    -- the caller drops the result once, then its temporaries
    exact rest_intro ((dropTmps_fields _ _).1.trans ((dropRes_fields _ _).1.trans hcore)) (fun _ => (dropTmps_fields _ _).2.1)
      (by rw [(dropTmps_fields _ _).2.2.1, (dropRes_fields _ _).2.2.1, hh]) (fun h => inv_dropTmps (inv_dropRes (hi h)))
  | calls fname texts =>
    obtain ⟨hcore, hh, hi⟩ := callArgs_rest p k c fname (texts.map Arg.tmp)
    simp only [stepCtx]
    -- the API drops the temporaries it made, then the caller the result
    exact rest_intro (c' := (dropTmps (callArgs p k c fname (texts.map Arg.tmp)).1 _).dropRes _)
      ((dropRes_fields _ _).1.trans ((dropTmps_fields _ _).1.trans hcore))
      (fun _ => (dropRes_fields _ _).2.1.trans (dropTmps_fields _ _).2.1)
      (by rw [(dropRes_fields _ _).2.2.1, (dropTmps_fields _ _).2.2.1, hh]) (fun h => inv_dropRes (inv_dropTmps (hi h)))
  | loop | exec =>
    obtain ⟨hs, hi⟩ := loop_spec p c k
    simp only [stepCtx]
    exact rest_intro (c' := (loop p c k).1.dropRes (loop p c k).2.2) ((dropRes_fields _ _).1.trans (core_of_skel hs))
      (fun ht => (dropRes_fields _ _).2.1.trans ((congrArg Skel.tmps hs).trans ht))
      (by rw [(dropRes_fields _ _).2.2.1, handles_of_skel hs]) (fun h => inv_dropRes (hi [] h))
  | setgbl n a =>
    simp only [stepCtx]
    split
    · exact ⟨rfl, id, id, fun _ => rfl⟩
    · have hm := fun h : Inv c [] => mkArgs_spec c [a] h
      have hr := mkArgs_fields c [a]
      generalize mkArgs c [a] = r1 at hm hr
      obtain ⟨c1, vs⟩ := r1
      simp only at hm hr ⊢
      have h2 : (c1.assignGbl n (vs.headD .nil)).skel = c1.skel := by simp
      have hd := dropTmps_fields (c1.assignGbl n (vs.headD .nil)) (c1.assignGbl n (vs.headD .nil)).tmps
      refine rest_intro (hd.1.trans ((core_of_skel h2).trans hr.1)) (fun _ => hd.2.1)
        (by rw [hd.2.2.1, handles_of_skel h2, hr.2.1]) (fun h => inv_dropTmps ?_)
      obtain ⟨h1, _, h4⟩ := hm h
      -- the application holds the value it stores
      refine inv_assignGbl_live n h1 (fun j hj => ?_)
      cases vs with
      | nil => simp at hj
      | cons w ws =>
        have := h4 w List.mem_cons_self j (by simpa using hj)
        simp only [Ctx.refs]; omega
  | getgbl n | showh n => simp only [stepCtx]; split <;> exact ⟨rfl, id, id, fun _ => rfl⟩
  | halt => exact ⟨rfl, id, fun h => ⟨h.inv, h.hlen⟩, fun _ => rfl⟩
  | mkstr hd _ | mkmap hd =>
    simp only [stepCtx]; split
    · exact ⟨rfl, id, id, nofun⟩
    · next hlt => exact ⟨rfl, id, fun h => sound_setHandle (inv_alloc h.inv _) h.hlen hlt, nofun⟩
  | drop hd =>
    simp only [stepCtx]; split
    · exact ⟨rfl, id, id, nofun⟩
    · next hlt => exact ⟨rfl, id, fun h => sound_setHandle (inv_nil_intro h.inv) h.hlen hlt, nofun⟩

theorem stepCtx_clean (p : Prog) (k : Cache) (c : Ctx) (op : Op) (hc : Clean c) :
    Clean (stepCtx p k c op).1 :=
  clean_of_core (stepCtx_rest p k c op).1 ((stepCtx_rest p k c op).2.1 hc.tmps) hc

theorem stepCtx_sound (p : Prog) (k : Cache) (c : Ctx) (op : Op) (h : Sound c) :
    Sound (stepCtx p k c op).1 :=
  (stepCtx_rest p k c op).2.2.1 h

/-- a failed `call` leaves the exit level at NONE: the context is callable as before -/
theorem stepCtx_call_failed_xl (p : Prog) (k : Cache) (c : Ctx) (fname : String) (args : List Arg)
    (hx : c.exitLevel = xlNone)
    (hf : (stepCtx p k c (.call fname args)).2.2.failed = true) :
    (stepCtx p k c (.call fname args)).1.exitLevel = xlNone := by
  have hr : (callArgs p k c fname args).2.2 = none := by
    simp only [stepCtx] at hf
    exact Option.isNone_iff_eq_none.mp hf
  have hx1 : (mkArgs c args).1.exitLevel = xlNone := (mkArgs_fields c args).2.2.trans hx
  rw [stepCtx_call_fst, (dropTmps_fields _ _).2.2.2, (dropRes_fields _ _).2.2.2]
  exact (callByName_spec p _ k fname _).2.2 hx1 hr

/-- the invariant of a context between API calls -/
structure CtxOK (c : Ctx) : Prop where
  clean : Clean c          -- only the globals on the stack, base 0, no temporaries outstanding
  sound : Sound c          -- every reference count is exact, no fault

def WorldOK (w : World) : Prop :=
  Consistent w.interp.prog w.interp.cache ∧ ∀ cid c, w.ctxs cid = some c → CtxOK c

/-- what `Ctx.snap` shows of a context at rest -/
theorem CtxOK.snap {c : Ctx} (h : CtxOK c) : c.stack.length - c.ng = 0 ∧ c.base = 0 ∧ c.heap.fault = false :=
  ⟨by rw [h.clean.len, Nat.sub_self], h.clean.base, h.sound.inv.1.nofault⟩

/-- what an operation shows of the stack and the heap is their state in the context it leaves (or nothing) -/
theorem stepCtx_obs (p : Prog) (k : Cache) (c : Ctx) (op : Op) (h : CtxOK (stepCtx p k c op).1) :
    (stepCtx p k c op).2.2.top = 0 ∧ (stepCtx p k c op).2.2.base = 0 ∧ (stepCtx p k c op).2.2.fault = false := by
  cases op with
  | call _ _ | calls _ _ | loop | exec => simp only [stepCtx] at h ⊢; exact h.snap
  | halt => exact h.snap
  | setgbl n a | getgbl n =>
    simp only [stepCtx] at h ⊢
    split
    · exact ⟨rfl, rfl, rfl⟩
    · next hn => rw [if_neg hn] at h; exact h.snap
  | mkstr h _ | mkmap h | drop h => simp only [stepCtx]; split <;> exact ⟨rfl, rfl, rfl⟩
  | showh h => simp only [stepCtx]; split <;> (try split) <;> exact ⟨rfl, rfl, rfl⟩

theorem step_ok_obs (w : World) (o : WOp) (h : WorldOK w) :
    WorldOK (w.step o).1 ∧ (w.step o).2.2.top = 0 ∧ (w.step o).2.2.base = 0 ∧ (w.step o).2.2.fault = false := by
  -- the context the call is made on is the only one that changes
  suffices hs : (∀ c, (w.step o).1.ctxs o.cid = some c → CtxOK c) ∧
      (w.step o).2.2.top = 0 ∧ (w.step o).2.2.base = 0 ∧ (w.step o).2.2.fault = false by
    refine ⟨⟨by rw [step_prog]; exact step_consistent w o h.1, fun cid c hc => ?_⟩, hs.2⟩
    by_cases hne : o.cid = cid
    · subst hne; exact hs.1 c hc
    · rw [step_other w o cid hne] at hc; exact h.2 cid c hc
  cases o with
  | «open» c0 =>
    simp only [World.step, WOp.cid]
    split
    · exact ⟨h.2 c0, rfl, rfl, rfl⟩
    · have hf : CtxOK (Ctx.fresh w.interp.prog c0) := ⟨fresh_clean _ _, fresh_sound _ _⟩
      exact ⟨fun c hc => by simp only [World.setCtx, if_pos, Option.some.injEq] at hc; exact hc ▸ hf, hf.snap⟩
  | close c0 =>
    simp only [World.step, WOp.cid]
    split
    · exact ⟨h.2 c0, rfl, rfl, rfl⟩
    · next cx hcx =>
      have hx := h.2 c0 cx hcx
      exact ⟨fun c hc => by simp [World.setCtx] at hc, rfl, rfl, (releaseAll_empty hx.sound.inv hx.clean.tmps).1⟩
  | op c0 op =>
    simp only [World.step, WOp.cid]
    split
    · exact ⟨h.2 c0, rfl, rfl, rfl⟩
    · next cx hcx =>
      have hx := h.2 c0 cx hcx
      have hok : CtxOK (stepCtx w.interp.prog w.interp.cache cx op).1 :=
        ⟨stepCtx_clean _ _ cx op hx.clean, stepCtx_sound _ _ cx op hx.sound⟩
      exact ⟨fun c hc => by simp only [World.setCtx, if_pos, Option.some.injEq] at hc; exact hc ▸ hok, stepCtx_obs _ _ cx op hok⟩

end Hawk.Ctx
