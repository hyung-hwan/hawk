import HawkModel.DeparseTables
import HawkModel.DeparseGlue
/-!
  The round trip `parse (print a) = norm a`, by recursion on the tree: a tree in operand position (`OpndRT`), a bare tree
  (`ExprRT`) and a comma list in front of its closing token (`ListRT`) are read back in front of any text the levels concerned
  leave alone (`opOK`).  An operand is read in one of two ways: by parse_primary_nopipe from its first token (`IsOpnd.noPipe`),
  or as `( inner )` with the inside read by parse_expr (`IsOpnd.paren`).
-/
namespace Hawk.Deparse
open Hawk.Gen.Precedence

theorem skipNl_id (sk : Bool) (ts : List Tok) (h : k1 ts ≠ some .NEWLINE) : skipNl sk ts = ts := by
  unfold skipNl
  split
  · cases ts with
    | nil => rfl
    | cons t r =>
      have : (t.k == TK.NEWLINE) = false := by simpa [k1] using h
      simp [List.dropWhile, this]
  · rfl

theorem foldBinInt_none (op : BinOp) (a b : Int) (h : foldable op = false) : foldBinInt op a b = FoldRes.none := by
  cases op <;> simp [foldable] at h <;> simp [foldBinInt]

theorem mkBin_nofold (op : BinOp) (l r : Ast)
    (h : ¬ (foldable op = true ∧ l.isNum = true ∧ r.isNum = true)) : mkBin op l r = .ok (.bin op l r) := by
  by_cases hf : foldable op = true
  · have hn : ¬ (l.isNum = true ∧ r.isNum = true) := fun hh => h ⟨hf, hh⟩
    unfold mkBin
    split
    · exact absurd ⟨by simp [Ast.isNum, Ast.isInt], by simp [Ast.isNum, Ast.isInt]⟩ hn
    · simp only [hf, Bool.true_and]
      split
      · next hh => simp only [Bool.and_eq_true] at hh; exact absurd hh hn
      · rfl
  · have hf' : foldable op = false := by simpa using hf
    unfold mkBin
    split
    · next a _ b _ => simp [foldBinInt_none op a b hf']
    · simp [hf']

/-- one iteration of the loop of the level that handles the operator of `( l op r )` -/
theorem binLevel {n : Nat} {L : Level} {below : List Level} {op : BinOp} {t f : Tok} {tsl tsr rest : List Tok} {xl xr : Ast}
    (hh : handlesK L t.k op = true)
    (hl : parseLv ladder (n + 1) below (tsl ++ t :: (tsr ++ f :: rest)) = .ok (xl, t :: (tsr ++ f :: rest)))
    (hr : parseLv ladder n (rightLevels L below) (tsr ++ f :: rest) = .ok (xr, f :: rest))
    (hnl : k1 (tsr ++ f :: rest) ≠ some .NEWLINE)
    (hm : mkBin op xl xr = .ok (.bin op xl xr))
    (hin : op = .IN → xr.isVar = true)
    (hstop : noContK L (some f.k) (k1 rest) = true) :
    parseLv ladder (n + 1) (L :: below) (tsl ++ t :: (tsr ++ f :: rest)) = .ok (.bin op xl xr, f :: rest) := by
  cases L with
  | binary fn sk ra map =>
    have hk : map.lookup t.k = some op := by simpa [handlesK] using hh
    have hs : map.lookup f.k = none := by simpa [noContK] using hstop
    rw [parseLv, hl]; simp only []
    rw [binLoop]; simp only [hk, skipNl_id sk _ hnl]
    have hr' : parseLv ladder n (if ra = true then Level.binary fn sk ra map :: below else below) (tsr ++ f :: rest)
        = .ok (xr, f :: rest) := hr
    rw [hr']; simp only [hm]
    rw [binLoop]; simp only [hs]
  | inLv =>
    have hk : t.k = .IN ∧ op = .IN := by simpa [handlesK] using hh
    have hs : f.k ≠ .IN := by simpa [noContK] using hstop
    simp only [rightLevels, isRassoc, Bool.false_eq_true, if_false] at hr
    rw [parseLv, hl]; simp only []
    rw [inLoop.eq_def]; simp only [hk.1, hr, hin hk.2]
    rw [inLoop.eq_def]; simp [hs, hk.2]
  | concatLv =>
    have hk : t.k = concatTok ∧ op = .CONCAT := by simpa [handlesK] using hh
    have hs : (f.k == concatTok || isStarterK f.k) = false := by simpa [noContK] using hstop
    have hs' : (f.k == concatTok) = false ∧ isStarter f = false := by simpa [isStarter] using hs
    simp only [rightLevels, isRassoc, Bool.false_eq_true, if_false] at hr
    rw [parseLv, hl]; simp only []
    rw [concatLoop.eq_def]; simp only [hk.1, hr, beq_self_eq_true, if_true]
    rw [concatLoop.eq_def]; cases n <;> simp [hs'.1, hs'.2, hk.2]
  | assLv => simp [handlesK] at hh
  | cndLv => simp [handlesK] at hh
  | unaryLv => simp [handlesK] at hh
  | unaryExpLv => simp [handlesK] at hh
  | incLv => simp [handlesK] at hh
  | primLv => simp [handlesK] at hh

/-- the tokens `ts` are read as the operand `x` by parse_increment under any levels `pre` that leave an operand alone in front
    of what follows (`opOK`) -/
def IsOpnd (ts : List Tok) (x : Ast) : Prop := ∀ (n : Nat) (pre : List Level) (rest : List Tok),
  ts.length ≤ n → opOK pre (k1 rest) (k2 rest) = true →
  parseLv ladder n (pre ++ [.incLv, .primLv]) (ts ++ rest) = .ok (x, rest)

def OpndRT (a : Ast) : Prop := IsOpnd (opnd a) (norm a)

def ExprRT (a : Ast) : Prop := ∀ (n : Nat) (rest : List Tok),
  (print a).length ≤ n → opOK ladderPre (k1 rest) (k2 rest) = true →
  parseLv ladder n ladder (print a ++ rest) = .ok (norm a, rest)

def ListRT (l : AstL) : Prop := ∀ (n : Nat) (sk : Bool) (c : Tok) (rest : List Tok),
  (printLT l).length ≤ n → l ≠ .nil → c.k ≠ .COMMA → opOK ladderPre (some c.k) (k1 rest) = true →
  parseList ladder n sk (printLT l ++ c :: rest) = .ok (normL l, c :: rest)

/-- an operand is read by the two bottom levels from its first token, which no level above takes for a prefix operator -/
theorem IsOpnd.base {t : Tok} {ts : List Tok} {x : Ast} (hk : t.k ∈ startKs)
    (hb : ∀ (n : Nat) (rest : List Tok), (t :: ts).length ≤ n → noContK .incLv (k1 rest) (k2 rest) = true →
      noContK .primLv (k1 rest) (k2 rest) = true →
      parseLv ladder n [.incLv, .primLv] (t :: (ts ++ rest)) = .ok (x, rest)) : IsOpnd (t :: ts) x :=
  fun n pre rest hn hok =>
    climb ladder n pre [.incLv, .primLv] _ rest x (hb n rest hn (opOK_inc hok) (opOK_prim hok)) (opOK_pass hok hk)

theorem E_of_O (a : Ast) (h : a.isAss = false) (ho : OpndRT a) : ExprRT a := by
  intro n rest hn hok
  have := ho n ladderPre rest (by rw [opnd_nonass a h]; exact hn) hok
  rw [opnd_nonass a h, ← ladder_split] at this
  exact this

theorem k2_cons (t : Tok) (r : List Tok) : k2 (t :: r) = k1 r := by cases r <;> rfl
theorem k1_cons (t : Tok) (r : List Tok) : k1 (t :: r) = some t.k := rfl

theorem start_ne {s k : TK} (hs : s ∈ startKs) (hk : k ∉ startKs) : (s == k) = false :=
  beq_false_of_ne fun e => hk (e ▸ hs)

theorem start_not_newline (s : TK) (h : s ∈ startKs) : s ≠ .NEWLINE :=
  ne_of_beq_false (start_ne h (by decide))

/-- a stop fact for the kind of `c`, in the shape `OpndRT` / `ExprRT` ask for -/
theorem stop_cons {pre : List Level} {c : Tok} {k : TK} (hk : c.k = k) (h : ∀ b, opOK pre (some k) b = true) (rest : List Tok) :
    opOK pre (k1 (c :: rest)) (k2 (c :: rest)) = true := by
  rw [k1_cons, k2_cons, hk]; exact h _

theorem rp_stop (rest : List Tok) : opOK ladderPre (k1 (tRP :: rest)) (k2 (tRP :: rest)) = true := stop_cons tRP_k stop_RPAREN rest

theorem IsOpnd.noPipe {t : Tok} {ts : List Tok} {x : Ast} (hk : t.k ∈ startKs) (hi : incToks.lookup t.k = none)
    (h : ∀ (m : Nat) (rest : List Tok), ts.length ≤ m → noContK .primLv (k1 rest) (k2 rest) = true →
      primNoPipe ladder m t.k t (ts ++ rest) = .ok (x, rest)) : IsOpnd (t :: ts) x :=
  .base hk fun n rest hn hi' hp' => by
    obtain ⟨m, rfl⟩ := Nat.exists_eq_add_of_le' (show 1 ≤ n by simp at hn; omega)
    -- parse_increment sees neither a prefix operator nor, behind the operand, a postfix one
    apply climb ladder (m + 1) [.incLv] [.primLv] _ rest x (prim_of_noPipe m t _ rest _ (h m rest (by simp at hn; omega) hp') hp')
    show passK [.incLv] (some t.k) _ _ = true
    simp [passK, noPrefixK, hi, hi']

theorem IsOpnd.paren {inner : List Tok} {x : Ast}
    (h : ∀ (m : Nat) (rest : List Tok), inner.length + 1 ≤ m →
      parseLv ladder m ladder (inner ++ tRP :: rest) = .ok (x, tRP :: rest)) : IsOpnd (tLP :: (inner ++ [tRP])) x :=
  .noPipe (by rw [tLP_k]; decide) lp_not_inc fun m rest hm _ => by
    have := noPipe_paren m tLP inner rest _ tLP_k (h m rest (by simpa using hm))
    simpa using this

theorem ExprRT.paren {e : Ast} (he : ExprRT e) : IsOpnd (tLP :: (print e ++ [tRP])) (norm e) :=
  .paren fun m rest hm => he m (tRP :: rest) (by omega) (rp_stop rest)

theorem O_of_noPipe {a : Ast} {t : Tok} {ts : List Tok} (hp : opnd a = t :: ts) (hk : t.k ∈ startKs)
    (hi : incToks.lookup t.k = none)
    (h : ∀ (m : Nat) (rest : List Tok), ts.length ≤ m → noContK .primLv (k1 rest) (k2 rest) = true →
      primNoPipe ladder m t.k t (ts ++ rest) = .ok (norm a, rest)) : OpndRT a := by
  unfold OpndRT; rw [hp]; exact .noPipe hk hi h

theorem O_of_paren {a : Ast} {inner : List Tok} (hp : opnd a = tLP :: (inner ++ [tRP]))
    (h : ∀ (m : Nat) (rest : List Tok), inner.length + 1 ≤ m →
      parseLv ladder m ladder (inner ++ tRP :: rest) = .ok (norm a, tRP :: rest)) : OpndRT a := by
  unfold OpndRT; rw [hp]; exact .paren h

theorem case_int_some (v : Int) (t : String) (h : 0 ≤ v) : OpndRT (.int v (some t)) :=
  O_of_noPipe (print_int_some v t) (by decide : TK.INT ∈ startKs) rfl fun m rest _ _ => by
    show primNoPipe ladder m TK.INT _ _ = _
    rw [primNoPipe]; simp [norm, Int.toNat_of_nonneg h]

theorem opnd_nat (k : Nat) : IsOpnd [natTok k] (.int (Int.ofNat k) (some (toString k))) :=
  .noPipe (t := natTok k) (by decide : TK.INT ∈ startKs) rfl fun m rest _ _ => by
    show primNoPipe ladder m TK.INT _ _ = _
    rw [primNoPipe]; rfl

theorem noPipe_lit (n : Nat) (t : Tok) (ts : List Tok) (h : t.k ∈ litKinds) :
    primNoPipe ladder n t.k t ts = .ok (.lit t.k t.s, ts) := by
  simp only [litKinds, List.mem_cons, List.not_mem_nil, or_false] at h
  rcases h with h | h | h | h | h | h <;> rw [h, primNoPipe]

theorem case_lit (k : TK) (s : String) (h : k ∈ litKinds) : OpndRT (.lit k s) :=
  have := Bool.and_eq_true_iff.mp
    (List.all_eq_true.mp (by decide : litKinds.all (fun k => startKs.contains k && (incToks.lookup k).isNone) = true) k h)
  O_of_noPipe (print_lit k s) (by simpa using this.1) (by simpa using this.2) fun m rest _ _ => noPipe_lit m _ _ h

theorem noPipe_var (m : Nat) (nm : String) (rest : List Tok) (hp : noContK .primLv (k1 rest) (k2 rest) = true) :
    primNoPipe ladder m .IDENT { k := .IDENT, s := nm } rest = .ok (.var nm, rest) := by
  have := headIs_LBRACK_false _ hp
  cases rest with
  | nil => rw [primNoPipe.eq_def]
  | cons u r =>
    simp only [headIs] at this
    rw [primNoPipe.eq_def]; simp [this]

theorem noPipe_idx (m : Nat) (nm : String) (ix : AstL) (hl : ListRT ix) (hne : ix ≠ .nil) (rest : List Tok)
    (hp : noContK .primLv (k1 rest) (k2 rest) = true) (hm : (printLT ix).length ≤ m) :
    primNoPipe ladder m .IDENT { k := .IDENT, s := nm } (tLB :: (printLT ix ++ tRB :: rest)) = .ok (.idx nm (normL ix), rest) := by
  have h1 := hl m false tRB rest hm hne (by rw [tRB_k]; decide) (by rw [tRB_k]; exact stop_RBRACK _)
  rw [primNoPipe.eq_def]
  simp [tLB_k, h1, tRB_k, headIs_LBRACK_false rest hp]

theorem case_var (nm : String) : OpndRT (.var nm) :=
  O_of_noPipe (print_var nm) (by decide : TK.IDENT ∈ startKs) rfl fun m rest _ hp => noPipe_var m nm rest hp

/-- `op X )` read by parse_expr, where `X` is an operand: parse_unary applies (folds) the operator -/
theorem unary_apply (op : UnrOp) {ts : List Tok} {x y : Ast} (hop : IsOpnd ts x) (hy : mkUnr op x = .ok y)
    (m : Nat) (rest : List Tok) (hm : ts.length ≤ m) :
    parseLv ladder (m + 1) ladder (unrTok op :: (ts ++ tRP :: rest)) = .ok (y, tRP :: rest) := by
  rw [ladder_split, ladderPre_unary, List.append_assoc]
  apply climb ladder (m + 1) unPre
  · show parseLv ladder (m + 1) (.unaryLv :: (unBelowPre ++ [.incLv, .primLv])) _ = _
    rw [parseLv]; simp only [unary_lookup op]
    rw [show Level.unaryLv :: (unBelowPre ++ [.incLv, .primLv]) = (.unaryLv :: unBelowPre) ++ [.incLv, .primLv] from rfl,
      hop m _ (tRP :: rest) hm (stop_cons tRP_k stop_unary_RPAREN rest)]
    simp only [hy]
  · rw [k1_cons, k1_cons, k2_cons, tRP_k, passK_snd _ _ _ _ none]; exact unPre_pass op

theorem case_int_none (v : Int) (hw : WFparse (.int v none)) : OpndRT (.int v none) := by
  by_cases hv : v < 0
  · refine O_of_paren (inner := [tMINUS, natTok v.natAbs]) (by rw [opnd_nonass _ rfl, print_int_neg v hv]; rfl) fun m rest hm => ?_
    obtain ⟨m, rfl⟩ := Nat.exists_eq_add_of_le' (show 1 ≤ m by omega)
    rw [show norm (.int v none) = .int v none by simp [norm, hv]]
    refine unary_apply .MINUS (opnd_nat v.natAbs) ?_ m rest (by simp at hm ⊢; omega)
    simp only [WFparse] at hw
    simp only [mkUnr, foldUnrInt, wrap64, Int.ofNat_eq_natCast]
    congr 2; omega
  · refine O_of_noPipe (print_int_nonneg v hv) (by decide : TK.INT ∈ startKs) rfl fun m rest _ _ => ?_
    show primNoPipe ladder m TK.INT _ _ = _
    rw [primNoPipe]; simp [norm, hv, natTok, Int.toNat_of_nonneg (Int.not_lt.mp hv)]

theorem case_pos (e : Ast) (he : ExprRT e) : OpndRT (.pos e) :=
  O_of_noPipe (a := .pos e) (print_pos e) (by rw [tDOLLAR_k]; decide) (by rw [tDOLLAR_k]; decide) fun m rest hm hp => by
    simp at hm
    obtain ⟨m, rfl⟩ := Nat.exists_eq_add_of_le' (show 2 ≤ m by omega)
    have := prim_paren (m + 1) (print e) rest (norm e) (he (m + 1) (tRP :: rest) (by omega) (rp_stop rest)) hp
    rw [tDOLLAR_k, primNoPipe.eq_def]
    simp [this, norm]

theorem mkUnr_norm (op : UnrOp) (e : Ast) (hf : e.isFlt = false) : mkUnr op (norm e) = .ok (norm (.unr op e)) := by
  have hf' : (norm e).isFlt = false := by rw [norm_isFlt]; exact hf
  simp only [norm]
  generalize norm e = x at hf' ⊢
  unfold mkUnr
  split
  · rfl
  · simp [Ast.isFlt] at hf'
  · split <;> simp_all

theorem case_unr (op : UnrOp) (e : Ast) (hf : e.isFlt = false) (he : ExprRT e) : OpndRT (.unr op e) :=
  O_of_paren (a := .unr op e) (inner := unrTok op :: (tLP :: (print e ++ [tRP])))
    (by rw [opnd_nonass _ rfl, print_unr]) fun m rest hm => by
    obtain ⟨m, rfl⟩ := Nat.exists_eq_add_of_le' (show 1 ≤ m by omega)
    exact unary_apply op he.paren (mkUnr_norm op e hf) m rest (by simp at hm ⊢; omega)

theorem isAss_of_var (l : Ast) (h : (l.isVar || l.isPos) = true) : l.isAss = false := by
  cases l <;> simp_all [Ast.isVar, Ast.isPos, Ast.isAss]

theorem case_incpre (op : IncOp) (e : Ast) (hv : (e.isVar || e.isPos) = true) (he : ExprRT e) :
    OpndRT (.incpre op e) := by
  unfold OpndRT
  rw [opnd_nonass _ rfl, print_incpre]
  refine .base (incTok_start op) fun n rest hn hi hp => ?_
  simp at hn
  obtain ⟨m, rfl⟩ := Nat.exists_eq_add_of_le' (show 3 ≤ n by omega)
  simp only [List.cons_append, List.append_assoc, List.nil_append]
  have this : parseLv ladder (m + 2) [.primLv] (tLP :: (print e ++ tRP :: rest)) = .ok (norm e, rest) :=
    prim_paren (m + 1) (print e) rest (norm e) (he (m + 1) (tRP :: rest) (by omega) (rp_stop rest)) hp
  rw [parseLv]; simp only [inc_lookup op]
  rw [this]
  simp [blankconcat, norm_varpos e hv, norm]

theorem case_incpst (op : IncOp) (e : Ast) (hv : (e.isVar || e.isPos) = true) (he : ExprRT e) :
    OpndRT (.incpst op e) := by
  unfold OpndRT
  rw [opnd_nonass _ rfl, print_incpst]
  refine .base (by rw [tLP_k]; decide) fun n rest hn hi hp => ?_
  simp at hn
  obtain ⟨m, rfl⟩ := Nat.exists_eq_add_of_le' (show 3 ≤ n by omega)
  simp only [List.cons_append, List.append_assoc, List.nil_append]
  have hp' : noContK .primLv (k1 (incTok op :: rest)) (k2 (incTok op :: rest)) = true := by
    rw [k1_cons, k2_cons]; exact stop_inc op _
  have this : parseLv ladder (m + 3) [.primLv] (tLP :: (print e ++ tRP :: incTok op :: rest)) = .ok (norm e, incTok op :: rest) :=
    prim_paren (m + 2) (print e) (incTok op :: rest) (norm e)
      (he (m + 2) (tRP :: incTok op :: rest) (by omega) (rp_stop _)) hp'
  rw [parseLv]; simp only [lp_not_inc]
  rw [this]
  simp [inc_lookup op, norm_varpos e hv, norm]

theorem case_cnd (c l r : Ast) (hc : ExprRT c) (hl : ExprRT l) (hr : ExprRT r) : OpndRT (.cnd c l r) :=
  O_of_paren (a := .cnd c l r) (inner := tLP :: (print c ++ tRP :: tQUEST :: (print l ++ tCOLON :: print r)))
    (by rw [opnd_nonass _ rfl, print_cnd]) fun m rest hm => by
    simp at hm
    obtain ⟨m, rfl⟩ := Nat.exists_eq_add_of_le' (show 5 ≤ m by omega)
    rw [ladder_split, ladderPre_ass, tailPre_cnd]
    simp only [List.cons_append, List.append_assoc]
    -- the test `( c )` is an operand below parse_expr_basic, followed by `?`
    have h1 := hc.paren (m + 5) cndPre (tQUEST :: (print l ++ tCOLON :: (print r ++ tRP :: rest))) (by simp; omega)
      (stop_cons tQUEST_k stop_QUEST _)
    simp only [List.cons_append, List.append_assoc, List.nil_append] at h1
    have h2 := hl (m + 4) _ (show (print l).length ≤ m + 4 by omega) (stop_cons (rest := print r ++ tRP :: rest) tCOLON_k stop_COLON)
    have h3 := hr (m + 4) _ (show (print r).length ≤ m + 4 by omega) (rp_stop rest)
    -- parse_expr_basic itself; parse_expr above it sees no assignment operator behind `)`
    apply climb ladder (m + 5) [.assLv]
    · rw [parseLv, h1]
      simp only [tQUEST_k, bne_self_eq_false, Bool.false_eq_true, if_false]
      rw [h2]
      simp only [tCOLON_k, bne_self_eq_false, Bool.false_eq_true, if_false]
      rw [h3]; simp [norm]
    · rw [k1_cons, tLP_k, k1_cons, tRP_k, passK_snd _ _ _ _ none]; decide

theorem case_ass (op : AssOp) (l r : Ast) (hv : (l.isVar || l.isPos) = true)
    (ol : OpndRT l) (er : ExprRT r) : ExprRT (.ass op l r) := by
  intro n rest hn hok
  rw [print_ass] at hn ⊢
  simp at hn
  obtain ⟨m, rfl⟩ := Nat.exists_eq_add_of_le' (show 1 ≤ n by omega)
  rw [show parseLv ladder (m + 1) ladder = parseLv ladder (m + 1) (.assLv :: (tailPre ++ [.incLv, .primLv])) from rfl]
  simp only [List.cons_append, List.append_assoc]
  have h1 := ol (m + 1) tailPre (assTok op :: (print r ++ rest)) (by rw [opnd_nonass l (isAss_of_var l hv)]; omega)
    (stop_cons rfl (stop_ass op) _)
  rw [opnd_nonass l (isAss_of_var l hv)] at h1
  have h2 := er m rest (by omega) hok
  have hv' := norm_varpos l hv
  rw [parseLv, h1]
  simp only [assign_lookup op, hv', Bool.not_true, Bool.false_eq_true, if_false, h2, norm]

/-- the inside of a printed binary node followed by a token `c` that stops every level (`)` between the node's parentheses;
    the statement level has `for (k in a)`, printed without parentheses of its own around the `in` node's, and `print a > b;`) -/
theorem bin_read (op : BinOp) (l r : Ast) (hwl : WFparse l) (hwr : WFparse r)
    (hnf : ¬ (foldable op = true ∧ (norm l).isNum = true ∧ (norm r).isNum = true)) (hin : op = .IN → r.isVar = true)
    (ol : OpndRT l) (or : OpndRT r) (c : Tok) (hc : ∀ b, opOK ladderPre (some c.k) b = true)
    (m : Nat) (rest : List Tok) (hll : (opnd l).length ≤ m + 1) (hlr : (opnd r).length ≤ m) :
    parseLv ladder (m + 1) ladder ((opnd l ++ binTok op :: opnd r) ++ c :: rest) = .ok (.bin op (norm l) (norm r), c :: rest) := by
  obtain ⟨tl, rl, el, hkl⟩ := opnd_head l hwl
  obtain ⟨tr, rr, er, hkr⟩ := opnd_head r hwr
  obtain ⟨pre, L, bp, hs, hb1, hb2, hb3, hb4⟩ := bin_spec (hc (k1 rest)) op
  obtain ⟨hsplit, hh⟩ := splitAtOp_eq _ _ _ _ _ _ hs
  have e : ladder = pre ++ L :: (bp ++ [.incLv, .primLv]) := by rw [ladder_split, hsplit]; simp
  rw [show parseLv ladder (m + 1) ladder = parseLv ladder (m + 1) (pre ++ L :: (bp ++ [.incLv, .primLv])) by rw [← e]]
  simp only [List.cons_append, List.append_assoc]
  apply climb ladder (m + 1) pre
  · apply binLevel hh
    · exact ol (m + 1) bp _ hll (by rw [k1_cons, k2_cons, er, List.cons_append, k1_cons]; exact hb2 tr.k hkr)
    · have e2 : rightLevels L bp ++ [Level.incLv, Level.primLv] = rightLevels L (bp ++ [Level.incLv, Level.primLv]) := by
        simp only [rightLevels]; split <;> rfl
      rw [← e2]
      exact or m (rightLevels L bp) _ hlr (by rw [k1_cons, k2_cons]; exact hb3)
    · rw [er, List.cons_append, k1_cons]; intro h; exact start_not_newline _ hkr (by simpa using h)
    · exact mkBin_nofold op _ _ hnf
    · intro h; rw [norm_isVar]; exact hin h
    · exact hb4
  · rw [el, List.cons_append, k1_cons, k1_cons, k2_cons]
    exact hb1 tl.k hkl

theorem case_bin (op : BinOp) (l r : Ast) (hwl : WFparse l) (hwr : WFparse r)
    (hnf : ¬ (foldable op = true ∧ (norm l).isNum = true ∧ (norm r).isNum = true)) (hin : op = .IN → r.isVar = true)
    (ol : OpndRT l) (or : OpndRT r) : OpndRT (.bin op l r) :=
  O_of_paren (a := .bin op l r) (inner := opnd l ++ binTok op :: opnd r)
    (by rw [opnd_nonass _ rfl, print_bin]) fun m rest hm => by
    simp at hm
    obtain ⟨m, rfl⟩ := Nat.exists_eq_add_of_le' (show 1 ≤ m by omega)
    exact bin_read op l r hwl hwr hnf hin ol or tRP (by rw [tRP_k]; exact stop_RPAREN) m rest (by omega) (by omega)

theorem case_list_one (a : Ast) (he : ExprRT a) : ListRT (.cons a .nil) := by
  intro n sk c rest hn _ hck hok
  rw [printLT_one] at hn ⊢
  have hck' : (c.k != TK.COMMA) = true := by simpa using hck
  rw [parseList, he n (c :: rest) hn (by rw [k1_cons, k2_cons]; exact hok)]
  simp [hck', normL]

theorem case_list_cons (a b : Ast) (t : AstL) (hw : WFparseL (.cons b t)) (he : ExprRT a) (hl : ListRT (.cons b t)) :
    ListRT (.cons a (.cons b t)) := by
  intro n sk c rest hn _ hck hok
  rw [printLT_cons] at hn ⊢
  simp at hn
  obtain ⟨m, rfl⟩ := Nat.exists_eq_add_of_le' (show 1 ≤ n by omega)
  obtain ⟨t0, r0, e, hk⟩ := printLT_head (.cons b t) hw (by simp)
  simp only [List.cons_append, List.append_assoc]
  have h1 := he (m + 1) (tCOMMA :: (printLT (.cons b t) ++ c :: rest)) (by omega)
    (stop_cons tCOMMA_k stop_COMMA _)
  have h2 := hl m sk c rest (by omega) (by simp) hck hok
  have h3 : skipNl sk (printLT (.cons b t) ++ c :: rest) = printLT (.cons b t) ++ c :: rest := by
    apply skipNl_id; rw [e, List.cons_append, k1_cons]; intro h; exact start_not_newline _ hk (by simpa using h)
  rw [parseList, h1]
  simp only [tCOMMA_k, bne_self_eq_false, Bool.false_eq_true, if_false, h3, h2, normL]

theorem case_idx (nm : String) (ix : AstL) (hne : ix ≠ .nil) (hl : ListRT ix) : OpndRT (.idx nm ix) :=
  O_of_noPipe (a := .idx nm ix) (print_idx nm ix) (by decide : TK.IDENT ∈ startKs) rfl fun m rest hm hp => by
    simpa [norm] using noPipe_idx m nm ix hl hne rest hp (by simp at hm; omega)

theorem case_call (nm : String) (args : AstL) (hw : WFparseL args) (hl : ListRT args) : OpndRT (.call nm args) :=
  O_of_noPipe (a := .call nm args) (print_call nm args) (by decide : TK.IDENT ∈ startKs) rfl fun m rest hm hp => by
    show primNoPipe ladder m TK.IDENT _ _ = _
    by_cases hne : args = .nil
    · subst hne
      rw [primNoPipe.eq_def]
      simp [printLT_nil, tLP_k, tRP_k, norm, normL]
    · obtain ⟨t0, r0, e, hk⟩ := printLT_head args hw hne
      have h1 := hl m true tRP rest (by simp at hm; omega) hne (by rw [tRP_k]; decide) (by rw [tRP_k]; exact stop_RPAREN _)
      have h0 : (t0.k == TK.RPAREN) = false := start_ne hk (by decide)
      rw [e] at h1 ⊢
      rw [primNoPipe.eq_def]
      simp only [List.cons_append, List.append_assoc, List.nil_append] at h1 ⊢
      simp [tLP_k, h0, h1, tRP_k, norm]

theorem case_grp (b : AstL) (h2 : 2 ≤ b.length) (hl : ListRT b) : OpndRT (.grp b) :=
  O_of_noPipe (a := .grp b) (print_grp b) (by rw [tLP_k]; decide) lp_not_inc fun m rest hm hp => by
    have hne : b ≠ .nil := by intro h; subst h; simp [AstL.length] at h2
    have h1 := hl m true tRP rest (by simp at hm; omega) hne (by rw [tRP_k]; decide) (by rw [tRP_k]; exact stop_RPAREN _)
    rw [tLP_k, primNoPipe.eq_def]
    match b, h2 with
    | .cons x (.cons y t), _ =>
      simp only [List.append_assoc, List.cons_append, List.nil_append, h1]
      simp [tRP_k, normL, tolerant, norm]

theorem O_and_E (a : Ast) (h : a.isAss = false) (o : OpndRT a) : OpndRT a ∧ ExprRT a := ⟨o, E_of_O a h o⟩

mutual
theorem rtA : (a : Ast) → WFparse a → OpndRT a ∧ ExprRT a
  | .int v (some t), h => by
    simp only [WFparse] at h
    exact O_and_E _ rfl (case_int_some v t h.1)
  | .int v none, h => O_and_E _ rfl (case_int_none v h)
  | .lit k s, h => O_and_E _ rfl (case_lit k s (by simpa [WFparse] using h))
  | .var nm, _ => O_and_E _ rfl (case_var nm)
  | .idx nm ix, h => by
    simp only [WFparse] at h
    exact O_and_E _ rfl (case_idx nm ix h.2 (rtAL ix h.1))
  | .call nm args, h => by
    simp only [WFparse] at h
    exact O_and_E _ rfl (case_call nm args h (rtAL args h))
  | .grp b, h => by
    simp only [WFparse] at h
    exact O_and_E _ rfl (case_grp b h.2 (rtAL b h.1))
  | .pos e, h => by
    simp only [WFparse] at h
    exact O_and_E _ rfl (case_pos e (rtA e h).2)
  | .bin op l r, h => by
    simp only [WFparse] at h
    exact O_and_E _ rfl (case_bin op l r h.1 h.2.1 h.2.2.1 h.2.2.2 (rtA l h.1).1 (rtA r h.2.1).1)
  | .unr op e, h => by
    simp only [WFparse] at h
    exact O_and_E _ rfl (case_unr op e h.2 (rtA e h.1).2)
  | .incpre op e, h => by
    simp only [WFparse] at h
    exact O_and_E _ rfl (case_incpre op e h.2 (rtA e h.1).2)
  | .incpst op e, h => by
    simp only [WFparse] at h
    exact O_and_E _ rfl (case_incpst op e h.2 (rtA e h.1).2)
  | .cnd c l r, h => by
    simp only [WFparse] at h
    exact O_and_E _ rfl (case_cnd c l r (rtA c h.1).2 (rtA l h.2.1).2 (rtA r h.2.2).2)
  | .ass op l r, h => by
    simp only [WFparse] at h
    have e := case_ass op l r h.2.2 (rtA l h.1).1 (rtA r h.2.1).2
    exact ⟨e.paren, e⟩
theorem rtAL : (l : AstL) → WFparseL l → ListRT l
  | .nil, _ => by intro n sk c rest _ hne; exact absurd rfl hne
  | .cons a .nil, h => by
    simp only [WFparseL] at h
    exact case_list_one a (rtA a h.1).2
  | .cons a (.cons b t), h => by
    have h' := h
    simp only [WFparseL] at h'
    exact case_list_cons a b t (by simp only [WFparseL]; exact h'.2) (rtA a h'.1).2 (rtAL (.cons b t) (by simp only [WFparseL]; exact h'.2))
end

theorem parse_print (a : Ast) (h : WFparse a) : parse (print a) = .ok (norm a) := by
  have := (rtA a h).2 ((print a).length + 1) [] (by omega) (by simpa [k1, k2] using stop_end)
  simp only [List.append_nil] at this
  simp [parse, this]

end Hawk.Deparse
