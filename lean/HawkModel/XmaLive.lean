import HawkModel.XmaLemmas
import HawkModel.XmaClass
/-!
  What every operation does to the live blocks (offset, size, payload), and that no call on a well-formed state with a live
  pointer ends in `Err`.

  An `Effect` (XmaLemmas.lean) replaces a stretch of `liveOffs` in place (`LiveStep`); as live offsets are distinct, that
  determines membership in the new list, and the `*_spec` lemmas state the result of a call in that form.
-/
namespace Hawk.Xma

theorem mem_erase_mid {α β : Type} (f : α → β) {r : α} {L1 L2 : List α} (nd : ((L1 ++ r :: L2).map f).Nodup) (x : α) :
    x ∈ L1 ++ L2 ↔ x ∈ L1 ++ r :: L2 ∧ f x ≠ f r := by
  simp only [List.map_append, List.map_cons, List.nodup_append, List.nodup_cons, List.mem_map, List.mem_cons,
    forall_exists_index, and_imp] at nd
  obtain ⟨-, ⟨n2, -⟩, n1⟩ := nd
  simp only [List.mem_append, List.mem_cons]
  constructor
  · rintro (h | h)
    · exact ⟨Or.inl h, fun e => n1 _ x h rfl _ (Or.inl e) rfl⟩
    · exact ⟨Or.inr (Or.inr h), fun e => n2 ⟨x, h, e⟩⟩
  · rintro ⟨h | rfl | h, hne⟩
    · exact Or.inl h
    · exact absurd rfl hne
    · exact Or.inr h

theorem liveStep_add {blks blks' : List Blk} {a : Nat × Nat × List Nat} (h : LiveStep blks blks' [] [a]) :
    (∀ x, x ∈ liveOffs 0 blks' ↔ x ∈ liveOffs 0 blks ∨ x = a) ∧ (∀ x ∈ liveOffs 0 blks, x.1 ≠ a.1) := by
  obtain ⟨L1, L2, h1, h2⟩ := h
  simp only [List.singleton_append, List.nil_append] at h1 h2
  have nd := liveOffs_fst_nodup 0 blks'
  rw [h2] at nd
  rw [h1, h2]
  refine ⟨fun x => ?_, fun x hx => ((mem_erase_mid _ nd x).1 hx).2⟩
  simp only [List.mem_append, List.mem_cons, or_left_comm, or_comm]

theorem liveStep_del {blks blks' : List Blk} {r : Nat × Nat × List Nat} (h : LiveStep blks blks' [r] []) :
    r ∈ liveOffs 0 blks ∧ ∀ x, x ∈ liveOffs 0 blks' ↔ x ∈ liveOffs 0 blks ∧ x.1 ≠ r.1 := by
  obtain ⟨L1, L2, h1, h2⟩ := h
  simp only [List.singleton_append, List.nil_append] at h1 h2
  have nd := liveOffs_fst_nodup 0 blks
  rw [h1] at nd
  rw [h1, h2]
  exact ⟨by simp, mem_erase_mid _ nd⟩

theorem liveStep_repl {blks blks' : List Blk} {r a : Nat × Nat × List Nat} (h : LiveStep blks blks' [r] [a]) :
    r ∈ liveOffs 0 blks ∧ ∀ x, x ∈ liveOffs 0 blks' ↔ (x ∈ liveOffs 0 blks ∧ x.1 ≠ r.1) ∨ x = a := by
  obtain ⟨L1, L2, h1, h2⟩ := h
  simp only [List.singleton_append] at h1 h2
  have nd := liveOffs_fst_nodup 0 blks
  rw [h1] at nd
  rw [h1, h2]
  refine ⟨by simp, fun x => ?_⟩
  rw [← mem_erase_mid _ nd x]
  simp only [List.mem_append, List.mem_cons, or_left_comm, or_comm]

theorem setData_spec {s : Xma} {o sz : Nat} {d0 d : List Nat} (hl : (o, sz, d0) ∈ liveOffs 0 s.blks) :
    ∀ x, x ∈ liveOffs 0 (setData s o d).blks ↔ (x ∈ liveOffs 0 s.blks ∧ x.1 ≠ o) ∨ x = (o, sz, d) := by
  obtain ⟨rp, b, q, hf, hbf, rfl, rfl⟩ := findBlk_of_live hl
  obtain ⟨hb, ho⟩ := findBlk_split hf
  refine (liveStep_repl (r := (o, b.size, b.data)) (a := (o, b.size, d))
    ⟨liveOffs 0 rp.reverse, liveOffs (o + HDR + b.size) q, ?_, ?_⟩).2
  · rw [hb]; simp [liveOffs_append, liveOffs_cons, hbf, ho]
  · unfold setData; rw [hf]; simp [plug, liveOffs_append, liveOffs_cons, hbf, ho]

theorem setData_fresh {s s1 : Xma} {o sz : Nat} {d : List Nat}
    (m1 : ∀ x, x ∈ liveOffs 0 s1.blks ↔ x ∈ liveOffs 0 s.blks ∨ x = (o, sz, [])) (m2 : ∀ x ∈ liveOffs 0 s.blks, x.1 ≠ o) :
    ∀ x, x ∈ liveOffs 0 (setData s1 o d).blks ↔ x ∈ liveOffs 0 s.blks ∨ x = (o, sz, d) := by
  intro x
  rw [setData_spec ((m1 _).2 (Or.inr rfl)), m1]
  constructor
  · rintro (⟨hx | rfl, hne⟩ | hx)
    · exact Or.inl hx
    · exact absurd rfl hne
    · exact Or.inr hx
  · rintro (hx | hx)
    · exact Or.inl ⟨Or.inl hx, m2 x hx⟩
    · exact Or.inr hx

theorem blkAt_live {s : Xma} {o sz : Nat} {d : List Nat} (hl : (o, sz, d) ∈ liveOffs 0 s.blks) :
    ∃ b, blkAt s o = some b ∧ b.free = false ∧ b.size = sz ∧ b.data = d := by
  obtain ⟨rp, b, q, hf, hb⟩ := findBlk_of_live hl
  exact ⟨b, by unfold blkAt; rw [hf], hb⟩

theorem wf_live_facts {s : Xma} (h : WF s) {o sz : Nat} {d : List Nat} (hx : (o, sz, d) ∈ liveOffs 0 s.blks) :
    (o + HDR) % ALIGN = 0 ∧ MINALLOC ≤ sz ∧ o + HDR + sz ≤ s.zone ∧ (sz % ALIGN = 0 ∨ o + HDR + sz = s.zone) := by
  obtain ⟨p, b, q, e, rfl, -, rfl, -⟩ := liveOffs_mem_iff.1 hx
  have ht := h.tile
  have a := chainOK_sizes h.chain p b q e
  rw [e] at ht
  have ho : (0 + total p + HDR) % ALIGN = 0 := (Nat.add_mod_right _ ALIGN).trans a.1
  refine ⟨ho, a.2, by simp at ht ⊢; omega, ?_⟩
  cases q with
  | nil => right; simp at ht ⊢; omega
  | cons b' q =>
    left
    have := (chainOK_sizes h.chain (p ++ [b]) b' q (by simp [e])).1
    exact Nat.mod_eq_zero_of_dvd ((Nat.dvd_add_right (Nat.dvd_of_mod_eq_zero ho)).1
      (Nat.dvd_of_mod_eq_zero (by simpa [Nat.add_assoc] using this)))

theorem wf_all_free {s : Xma} (h : WF s) (hz : FBLKMIN ≤ s.zone) (hl : liveOffs 0 s.blks = []) :
    ∃ b, s.blks = [b] ∧ b.free = true ∧ b.size = s.zone - HDR ∧ b.prev = 0 ∧
      fl s.xfree (getxfi b.size) = [0] ∧ ∀ i, i ≠ getxfi b.size → fl s.xfree i = [] := by
  have ht := h.tile
  rcases all_free_single h.chain hl with hb | ⟨b, hb, hbf⟩
  · rw [hb] at ht; dsimp only [total, FBLKMIN, HDR, MINALLOC] at ht hz; omega
  · have hfl := ((WF_iff s).1 h).2.2
    rw [hb] at ht hfl
    exact ⟨b, hb, hbf, by simp at ht; omega, (hb ▸ h.chain : ChainOK 0 0 false [b]).1,
      FLInv.single hfl (fun o sz => by simp [freeOffs, hbf])⟩

/-- the best-fit branch knows the size of the block it hands out only from its class (`fixed_class_ge`); a request of a
    word or more is rounded on the word and may come out smaller, hence `n < WORD`, a premise of the last part only:
    `realloc_total` uses the others for any `n` -/
theorem alloc_spec {s s' : Xma} {n o : Nat} (h : WF s) (ha : alloc s n = .ok (some o, s')) :
    ∃ sz, (∀ x, x ∈ liveOffs 0 s'.blks ↔ x ∈ liveOffs 0 s.blks ∨ x = (o, sz, [])) ∧ (∀ x ∈ liveOffs 0 s.blks, x.1 ≠ o) ∧
      (n < WORD → n ≤ sz) := by
  rcases alloc_eff h ha with ⟨hnone, _⟩ | ⟨_, sz, ho, hsz, e, hsize⟩
  · cases hnone
  · cases ho
    obtain ⟨m1, m2⟩ := liveStep_add e.live
    refine ⟨sz, m1, m2, fun hn => ?_⟩
    have hf := wf_live_facts (e.wf h) ((m1 (o, sz, [])).2 (Or.inr rfl))
    have hr := roundReq_ok hsz
    have hge := roundReq_ge hn hsz
    rcases hsize with hle | ⟨hc1, hc2⟩
    · omega
    · have := fixed_class_ge hf.2.1 hr.1 hr.2 (by unfold roundReq; simp only [WORD, BITS, ALIGN]; omega) hc1 hc2
      omega

theorem free_spec {s s' : Xma} {o : Nat} (hf : free s o = .ok s') :
    ∃ sz d, (o, sz, d) ∈ liveOffs 0 s.blks ∧ ∀ x, x ∈ liveOffs 0 s'.blks ↔ x ∈ liveOffs 0 s.blks ∧ x.1 ≠ o := by
  obtain ⟨sz, d, e⟩ := free_eff hf
  exact ⟨sz, d, liveStep_del e.live⟩

theorem free_total {s : Xma} {o sz : Nat} {d : List Nat} (hl : (o, sz, d) ∈ liveOffs 0 s.blks) : ∃ s', free s o = .ok s' := by
  obtain ⟨rp, b, q, hf, hbf, -⟩ := findBlk_of_live hl
  unfold free
  rw [hf]
  simp [hbf]

/-- on a well-formed state hawk_xma_alloc never follows a dangling free-list entry -/
theorem alloc_total {s : Xma} (h : WF s) (n : Nat) : ∃ r s', alloc s n = .ok (r, s') := by
  fun_cases alloc s n with
  | case3 _ _ _ _ o _ hl hf => exact absurd hf (wf_entry_found h (by rw [hl]; simp))
  | case5 _ _ _ _ _ _ hx => exact (Found.wf h (allocFrom_found hx)).elim
  | case8 _ _ _ _ _ _ hx => exact (Found.wf h (allocFirst_found hx)).elim
  | case10 _ _ _ _ _ _ _ _ hx => exact (Found.wf h (sweep_found _ hx)).elim
  | _ => exact ⟨_, _, rfl⟩

theorem reallocMerge_total {s : Xma} {o sz n : Nat} {d : List Nat} {e : Err} (hl : (o, sz, d) ∈ liveOffs 0 s.blks) :
    reallocMerge s o n ≠ .error e := by
  obtain ⟨rp, b, q, hf, hbf, -⟩ := findBlk_of_live hl
  -- only the two paths that miss the block or find it free end in an error
  fun_cases reallocMerge s o n with
  | case1 h => cases hf.symm.trans h
  | case2 _ _ _ h hb =>
    cases hf.symm.trans h
    cases hbf.symm.trans hb
  | _ => nofun

theorem take_prefix {d d' : List Nat} {m k : Nat} (h : d' = d ∨ d' = d.take m) (hk : k ≤ m) : d'.take k = d.take k := by
  rcases h with rfl | rfl
  · rfl
  · rw [List.take_take]; congr 1; omega

theorem realloc_spec {s s' : Xma} {o n sz o' : Nat} {d : List Nat} (h : WF s) (hn : n < WORD)
    (hl : (o, sz, d) ∈ liveOffs 0 s.blks) (hr : realloc s o n = .ok (some o', s')) :
    ∃ sz' d', n ≤ sz' ∧ (∀ k, k ≤ n → k ≤ sz → d'.take k = d.take k) ∧
      (∀ x, x ∈ liveOffs 0 s'.blks ↔ (x ∈ liveOffs 0 s.blks ∧ x.1 ≠ o) ∨ x = (o', sz', d')) ∧
      (o' ≠ o → ∀ x ∈ liveOffs 0 s.blks, x.1 ≠ o') := by
  rcases realloc_cases hr with ⟨ho, hm⟩ | ⟨hnone, _⟩ | ⟨_, s1, ob, ho, ha, hob, hfr⟩
  · cases ho
    obtain ⟨rp, b, q, hf, hsz, sz', d', e, hle, hd⟩ := reallocMerge_eff hm
    obtain ⟨_, _, _, hf', _, rfl, rfl⟩ := findBlk_of_live hl
    cases hf.symm.trans hf'
    have hge := roundReq_ge hn hsz
    exact ⟨sz', d', by omega, fun k hk _ => take_prefix hd (by omega), (liveStep_repl e.live).2, fun hne => absurd rfl hne⟩
  · cases hnone
  · cases ho
    obtain ⟨sz', m1, m2, hle⟩ := alloc_spec h ha
    have hne : o ≠ o' := m2 _ hl
    -- the old block is still there in s1, the fresh one receives the copy
    obtain ⟨b1, hb1, _, rfl, rfl⟩ := blkAt_live ((m1 _).2 (Or.inl hl))
    cases hob.symm.trans hb1
    obtain ⟨_, _, _, m3⟩ := free_spec hfr
    refine ⟨sz', ob.data.take (copyLen n ob.size), hle hn, fun k hk1 hk2 => ?_, fun x => ?_, fun _ => m2⟩
    · rw [List.take_take]; congr 1; unfold copyLen; split <;> omega
    · rw [m3, setData_fresh m1 m2]
      constructor
      · rintro ⟨hx | hx, hxo⟩
        · exact Or.inl ⟨hx, hxo⟩
        · exact Or.inr hx
      · rintro (⟨hx, hxo⟩ | rfl)
        · exact ⟨Or.inl hx, hxo⟩
        · exact ⟨Or.inr rfl, fun e => hne e.symm⟩

theorem realloc_total {s : Xma} {o sz n : Nat} {d : List Nat} (h : WF s) (hl : (o, sz, d) ∈ liveOffs 0 s.blks) :
    ∃ r s', realloc s o n = .ok (r, s') := by
  fun_cases realloc s o n with
  | case1 _ hm => exact absurd hm (reallocMerge_total hl)
  | case3 _ _ ha =>
    obtain ⟨_, _, e⟩ := alloc_total h n
    cases ha.symm.trans e
  | case5 _ o' s1 ha hob =>
    -- the old block is still live after the allocation
    obtain ⟨_, m1, _⟩ := alloc_spec h ha
    obtain ⟨_, hb1, _⟩ := blkAt_live ((m1 _).2 (Or.inl hl))
    cases hob.symm.trans hb1
  | case6 _ o' s1 ha ob _ _ _ hfr =>
    -- and after the copy into the fresh block, which lies elsewhere
    obtain ⟨_, m1, m2, _⟩ := alloc_spec h ha
    obtain ⟨_, e⟩ := free_total ((setData_fresh (d := ob.data.take (copyLen n ob.size)) m1 m2 _).2 (Or.inl hl))
    cases hfr.symm.trans e
  | _ => exact ⟨_, _, rfl⟩

theorem calloc_spec {s s' : Xma} {n o : Nat} (h : WF s) (hn : n < WORD)
    (hc : calloc s n = .ok (some o, s')) :
    ∃ sz, n ≤ sz ∧ (∀ x, x ∈ liveOffs 0 s'.blks ↔ x ∈ liveOffs 0 s.blks ∨ x = (o, sz, List.replicate n 0)) ∧
      (∀ x ∈ liveOffs 0 s.blks, x.1 ≠ o) := by
  rcases calloc_cases hc with ⟨hnone, _⟩ | ⟨_, s1, ho, ha, rfl⟩
  · cases hnone
  · cases ho
    obtain ⟨sz, m1, m2, hle⟩ := alloc_spec h ha
    exact ⟨sz, hle hn, setData_fresh m1 m2, m2⟩

theorem alloc_zone {s s' : Xma} {n : Nat} {r : Option Nat} (ha : alloc s n = .ok (r, s')) : s'.zone = s.zone := by
  rcases alloc_cases ha with ⟨_, e⟩ | ⟨o, _, _, ht⟩
  · rw [e]
  · cases ht with
    | scanned => unfold takeBlk; split <;> rfl
    | bestFit => rfl

theorem free_zone {s s' : Xma} {o : Nat} (hf : free s o = .ok s') : s'.zone = s.zone :=
  let ⟨_, _, e⟩ := free_eff hf; e.zone

theorem setData_zone (s : Xma) (o : Nat) (d : List Nat) : (setData s o d).zone = s.zone := by
  unfold setData; split <;> rfl

theorem reallocMerge_zone {s s' : Xma} {o n : Nat} (hr : reallocMerge s o n = .ok (some s')) : s'.zone = s.zone :=
  let ⟨_, _, _, _, _, _, _, e, _⟩ := reallocMerge_eff hr; e.zone

theorem realloc_zone {s s' : Xma} {o n : Nat} {r : Option Nat} (hr : realloc s o n = .ok (r, s')) : s'.zone = s.zone := by
  rcases realloc_cases hr with ⟨_, hm⟩ | ⟨_, ha⟩ | ⟨o', s1, ob, _, ha, _, hfr⟩
  · exact reallocMerge_zone hm
  · exact alloc_zone ha
  · rw [free_zone hfr, setData_zone, alloc_zone ha]

theorem calloc_zone {s s' : Xma} {n : Nat} {r : Option Nat} (hc : calloc s n = .ok (r, s')) : s'.zone = s.zone := by
  rcases calloc_cases hc with ⟨_, ha⟩ | ⟨o, s1, _, ha, rfl⟩
  · exact alloc_zone ha
  · rw [setData_zone, alloc_zone ha]

theorem step_zone (s : Xma) (op : Op) : (step s op).zone = s.zone :=
  step_cases (P := fun t => t.zone = s.zone) rfl alloc_zone calloc_zone realloc_zone free_zone (setData_zone s) op

theorem run_zone (s : Xma) (ops : List Op) : (run s ops).zone = s.zone :=
  List.foldlRecOn ops step (motive := fun t => t.zone = s.zone) rfl fun t h op _ => (step_zone t op).trans h

end Hawk.Xma
