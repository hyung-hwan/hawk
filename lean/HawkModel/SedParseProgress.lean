import HawkModel.ExceptSat
import HawkModel.CoreLemmas
import HawkModel.SedParseLemmas
/-!
  One statement per reader of the script compiler, `Reads post x`: `x` is a success with `post` (the rest is at most as long
  as the text given; for the command-level readers also, in the same walk, what hawk_sed_comp guarantees about the addresses)
  or an error of the C compiler, never `PErr.internal`.  `Script tr s cs` is what the loop of hawk_sed_comp reads, group level
  and label table aside; `compLoop_reads` and its converse `compLoop_of_script` say what `compLoop` is without its progress guards.
-/
namespace Hawk.Sed

theorem skipSpaces_len (s : Str) : (skipSpaces s).length ≤ s.length := by
  induction s with
  | nil => simp [skipSpaces]
  | cons c r ih => unfold skipSpaces; split <;> simp <;> omega

theorem skipSpaces_tail_len {s r : Str} {c : Char} (h : skipSpaces s = c :: r) : r.length < s.length := by
  have hs := skipSpaces_len s
  rwa [h] at hs

theorem skipComment_len (s : Str) : (skipComment s).length ≤ s.length := by
  induction s with
  | nil => simp [skipComment]
  | cons c r ih => unfold skipComment; split <;> simp <;> omega

theorem bangs_len (s : Str) (n : Bool) : (bangs s n).2.length ≤ s.length := by
  induction s generalizing n with
  | nil => simp [bangs]
  | cons c r ih => unfold bangs; split <;> simp; have := ih (!n); omega

/-- what a reader delivers: a result with `post` or an error of the C compiler (never `PErr.internal`) -/
abbrev Reads {α : Type} (post : α → Prop) : Except PErr α → Prop :=
  Except.Sat post (· ≠ .internal)

theorem terminate_reads (s : Str) : Reads (·.length ≤ s.length) (terminate s) := by
  fun_cases terminate s
  case case1 => exact Nat.zero_le _
  case case2 => simp
  case case3 h _ _ => exact h ▸ skipSpaces_len s
  case case4 h _ _ => exact Nat.le_of_lt (skipSpaces_tail_len h)

theorem pickupRex_reads (rxend : Char) (repl : Bool) (err : PErr) (herr : err ≠ .internal) (s : Str) (skip bs cfob : Nat)
    (acc : Str) : Reads (·.2.length ≤ s.length) (pickupRex rxend repl err s skip bs cfob acc) := by
  fun_induction pickupRex rxend repl err s skip bs cfob acc
  all_goals first | exact herr | exact Nat.le_succ _ | exact Except.Sat.mono_len ‹_› (by simp <;> omega)

theorem textLoop_len (s acc : Str) : (textLoop s acc).2.2.length ≤ s.length := by
  fun_induction textLoop s acc <;> simp <;> omega

theorem fileLoop_reads (s acc : Str) (tsp : Nat) : Reads (·.2.2.length ≤ s.length) (fileLoop s acc tsp) := by
  fun_induction fileLoop s acc tsp
  all_goals first | exact Except.Sat.mono_len ‹_› (by simp <;> omega) | simp

theorem transLoop_reads (delim : Char) (limit : Option Nat) (s : Str) (skip : Nat) (acc : Str) :
    Reads (·.2.length ≤ s.length) (transLoop delim limit s skip acc) := by
  fun_induction transLoop delim limit s skip acc
  all_goals first | exact Except.Sat.mono_len ‹_› (by simp <;> omega) | simp

theorem rexAddress_len (rxend : Char) (s : Str) (a : PAddr) (r : Str) (h : rexAddress rxend s = some (a, r)) :
    r.length ≤ s.length := by
  have key := pickupRex_reads rxend false .EREXIC (by decide) s 0 0 0 []
  revert h
  fun_cases rexAddress rxend s
  all_goals
    intro h
    cases h
  case case2 hp | case4 hp _ => exact key.ok hp
  case case3 hp => exact Nat.le_of_succ_le (key.ok hp)

theorem getAddress_len (s : Str) (a : PAddr) (r : Str) (h : getAddress s = some (a, r)) : r.length ≤ s.length := by
  revert h
  fun_cases getAddress s
  all_goals intro h
  case case3 => cases h; exact List.length_dropWhile_le _ _
  case case4 => exact Nat.le_succ_of_le (rexAddress_len _ _ _ _ h)
  case case7 => exact Nat.le_succ_of_le (Nat.le_succ_of_le (rexAddress_len _ _ _ _ h))
  all_goals cases h
  all_goals simp

theorem getAddr2_reads (s : Str) : Reads (·.2.length ≤ s.length) (getAddr2 s) := by
  fun_cases getAddr2 s
  case case3 hr _ _ hg _ =>
    exact Nat.le_trans (getAddress_len _ _ _ hg)
      (Nat.le_trans (skipSpaces_len _) (Nat.le_of_lt (skipSpaces_tail_len hr)))
  case case4 => exact skipSpaces_len s
  all_goals simp

theorem parseAddrs_reads (s : Str) :
    Reads (fun p => p.2.2.length ≤ s.length ∧ p.1 ≠ .line 0 ∧ (p.1 = .none → p.2.1 = .none)) (parseAddrs s) := by
  fun_cases parseAddrs s
  case case2 h =>
    split at h
    · cases h
    · exact (getAddr2_reads _).error h
  case case4 a1 _ h1 _ _ h h0 =>
    refine ⟨Nat.le_trans ?_ (getAddress_len _ _ _ h1), h0, fun (e : a1 = .none) => ?_⟩
    · split at h
      · cases h
        exact Nat.le_refl _
      · exact (getAddr2_reads _).ok h
    · rw [if_pos e] at h
      cases h
      rfl
  all_goals simp

theorem getText_len (tr : Traits) (s : Str) : (getText tr s).2.length ≤ s.length := by
  simp only [getText]; exact textLoop_len s []

theorem getTextCmd_reads (tr : Traits) (c : Char) (s : Str) :
    Reads (fun p => p.2.length ≤ s.length ∧ p.1.isMark = false) (getTextCmd tr c s) := by
  have fin (t : Str) (h : t.length ≤ s.length) :
      Reads (fun p => p.2.length ≤ s.length ∧ p.1.isMark = false) (.ok (POp.text c (getText tr t).1, (getText tr t).2)) :=
    ⟨Nat.le_trans (getText_len tr t) h, rfl⟩
  fun_cases getTextCmd tr c s
  case case1 => exact fin [] (Nat.zero_le _)
  case case2 h1 _ h2 =>
    exact fin _ (Nat.le_of_lt (Nat.lt_trans (skipSpaces_tail_len h2) (skipSpaces_tail_len h1)))
  case case3 h1 _ _ h2 _ _ =>
    exact fin _ (Nat.le_trans (h2 ▸ skipSpaces_len _) (Nat.le_of_lt (skipSpaces_tail_len h1)))
  case case6 h _ => exact fin _ (h ▸ skipSpaces_len s)
  all_goals simp

theorem getLabel_reads (tr : Traits) (s : Str) : Reads (·.2.length ≤ s.length) (getLabel tr s) := by
  simp only [getLabel, labelRun]
  by_cases hc : List.takeWhile isLabChar (skipSpaces s) = [] ∧ tr.strict = true
  · simp [hc]
  · simp only [hc, ↓reduceIte, Except.Sat.ok_iff]
    have h1 := skipSpaces_len s
    have h2 := List.length_dropWhile_le isLabChar (skipSpaces s)
    have h3 := skipSpaces_len ((skipSpaces s).dropWhile isLabChar)
    split
    · simp [skipSpaces]
    · rename_i c t heq
      rw [heq] at h3
      split
      · have := skipSpaces_len t; simp at h3; omega
      · have := skipSpaces_len (c :: t); omega

theorem getBranchTarget_reads (s : Str) : Reads (·.2.length ≤ s.length) (getBranchTarget s) := by
  fun_cases getBranchTarget s
  case case1 h | case3 h => exact (terminate_reads _).error h
  case case2 h => exact Nat.le_trans ((terminate_reads _).ok h) (skipSpaces_len s)
  case case4 hl _ h =>
    cases hl
    exact Nat.le_trans ((terminate_reads _).ok h) (Nat.le_trans (List.length_dropWhile_le _ _) (skipSpaces_len s))

theorem getFile_reads (s : Str) : Reads (·.2.length ≤ s.length) (getFile s) := by
  fun_cases getFile s
  case case1 => simp
  case case2 h => exact (fileLoop_reads _ _ _).error h
  case case3 h => exact (terminate_reads _).error h
  case case4 h1 _ h2 =>
    exact Nat.le_trans ((terminate_reads _).ok h2) (Nat.le_trans ((fileLoop_reads _ _ _).ok h1) (skipSpaces_len s))

theorem optLoop_reads (s : Str) (f : SFlags) : Reads (·.2.length ≤ s.length) (optLoop s f) := by
  fun_induction optLoop s f
  case case1 h => cases h
  case case2 => exact Nat.le_refl _
  case case13 h => rw [h]; exact (terminate_reads _).error h
  case case14 h => rw [h]; exact (terminate_reads _).ok h
  -- the flag letters p, i / I, g, k
  case case3 ih | case4 ih | case5 ih | case6 ih => exact ih.mono_len (Nat.le_succ _)
  -- an occurrence number: given twice, too large, zero (case7 .. case9), or its digits are dropped (case10)
  case case7 => simp
  case case8 h => dsimp only; rw [if_pos h]; simp
  case case9 h1 h2 => dsimp only; rw [if_neg h1, if_pos h2]; simp
  case case10 h1 h2 ih =>
    dsimp only; rw [if_neg h1, if_neg h2]
    exact ih.mono_len (Nat.le_trans (List.length_dropWhile_le _ _) (Nat.le_succ _))
  case case11 => exact (getFile_reads _).error ‹_›
  case case12 => exact Nat.le_trans ((getFile_reads _).ok ‹_›) (Nat.le_succ _)

theorem getSubst_reads (s : Str) : Reads (fun p => p.2.length ≤ s.length ∧ p.1.isMark = false) (getSubst s) := by
  fun_cases getSubst s
  case case4 h | case5 h => exact (pickupRex_reads _ _ .ECMDIC (by decide) _ _ _ _ _).error h
  case case6 h => exact (optLoop_reads _ _).error h
  case case7 r1 h1 _ r2 h2 _ _ h3 =>
    have l1 := (pickupRex_reads _ _ _ (by decide) _ _ _ _ _).ok h1
    have l2 := (pickupRex_reads _ _ _ (by decide) _ _ _ _ _).ok h2
    have l3 := Nat.le_trans ((optLoop_reads _ _).ok h3) (skipSpaces_len r2)
    exact ⟨Nat.le_succ_of_le (Nat.le_trans l3 (Nat.le_trans l2 l1)), rfl⟩
  all_goals simp

theorem getTranset_reads (s : Str) : Reads (fun p => p.2.length ≤ s.length ∧ p.1.isMark = false) (getTranset s) := by
  fun_cases getTranset s
  case case4 h | case5 h => exact (transLoop_reads _ _ _ _ _).error h
  case case7 h => exact (terminate_reads _).error h
  case case8 h1 _ _ h2 _ _ h3 =>
    have l1 := (transLoop_reads _ _ _ _ _).ok h1
    have l2 := (transLoop_reads _ _ _ _ _).ok h2
    have l3 := (terminate_reads _).ok h3
    exact ⟨Nat.le_succ_of_le (Nat.le_trans l3 (Nat.le_trans l2 l1)), rfl⟩
  all_goals simp

theorem getCommand_reads (tr : Traits) (a b : Bool) (c : Char) (t : Str) :
    Reads (fun p => p.2.length ≤ t.length ∧ (a = true → p.1.isMark = false)) (getCommand tr a b (c :: t)) := by
  rcases getCommand_cases (rfl : getCommand tr a b (c :: t) = _) with
    ⟨e, he, hx⟩ | ⟨rfl, hx⟩ | hx | ⟨rfl, hx⟩ | hx | hx | hx | hx | hx | hx
  all_goals rw [← hx]
  · rintro rfl; exact absurd he (by decide)
  · exact (getLabel_reads tr t).map fun _ h => ⟨h, nofun⟩
  · exact ⟨Nat.le_refl _, fun _ => rfl⟩
  · exact ⟨Nat.le_refl _, nofun⟩
  · exact (terminate_reads t).map fun _ h => ⟨h, fun _ => rfl⟩
  · exact (getBranchTarget_reads t).map fun _ h => ⟨h, fun _ => rfl⟩
  · exact (getFile_reads t).map fun _ h => ⟨h, fun _ => rfl⟩
  · exact (getTextCmd_reads tr c t).imp fun _ h => ⟨h.1, fun _ => h.2⟩
  · exact (getSubst_reads t).imp fun _ h => ⟨h.1, fun _ => h.2⟩
  · exact (getTranset_reads t).imp fun _ h => ⟨h.1, fun _ => h.2⟩

theorem parseBody_reads (tr : Traits) (a1 a2 : PAddr) (s2 : Str) :
    Reads (fun p => p.2.length ≤ s2.length - 1 ∧ p.1.a1 = a1 ∧ p.1.a2 = a2 ∧ (a1 ≠ .none → p.1.op.isMark = false))
      (parseBody tr a1 a2 s2) := by
  -- whatever is skipped before it (spaces, `!`s), the command character is consumed
  have key : ∀ s4 : Str, s4.length ≤ s2.length →
      Reads (fun p => p.2.length ≤ s2.length - 1 ∧ (a1 ≠ .none → p.1.isMark = false))
        (getCommand tr (a1 ≠ .none) (a2 ≠ .none) s4) := by
    intro s4 hl
    cases s4 with
    | nil => simp [getCommand]
    | cons c t =>
      exact (getCommand_reads _ _ _ c t).imp fun _ h =>
        ⟨Nat.le_trans h.1 (by simp at hl; omega), fun hne => h.2 (decide_eq_true hne)⟩
  have hbang := Nat.le_trans (skipSpaces_len _) (Nat.le_trans (bangs_len (skipSpaces s2) false) (skipSpaces_len s2))
  simp only [parseBody]
  split
  · rename_i e hg
    split at hg
    · exact (key _ hbang).error hg
    · exact (key _ (skipSpaces_len _)).error hg
  · rename_i op s5 hg
    have h : s5.length ≤ s2.length - 1 ∧ (a1 ≠ .none → op.isMark = false) := by
      split at hg
      · exact (key _ hbang).ok hg
      · exact (key _ (skipSpaces_len _)).ok hg
    exact ⟨h.1, rfl, rfl, h.2⟩

theorem parseCmd_reads (tr : Traits) (c : Char) (t : Str) :
    Reads (fun p => p.2.length ≤ t.length ∧ p.1.wellAddressed) (parseCmd tr (c :: t)) := by
  fun_cases parseCmd tr (c :: t)
  case case1 h => exact (parseAddrs_reads _).error h
  case case2 h =>
    obtain ⟨hl, h0, h12⟩ := (parseAddrs_reads _).ok h
    refine (parseBody_reads tr _ _ _).imp fun p ⟨hp, e1, e2, hm⟩ => ⟨Nat.le_trans hp (Nat.sub_le_of_le_add hl), ?_⟩
    rw [PCmd.wellAddressed, e1, e2]
    exact ⟨h0, h12, fun hmark => Decidable.by_contra fun hne => Bool.false_ne_true ((hm hne).symm.trans hmark)⟩

/-- the text `s` read as the command list `cs` by the loop of hawk_sed_comp, group level and label table aside -/
inductive Script (tr : Traits) : Str → List PCmd → Prop
  | nil : Script tr [] []
  | skip {c r cs} : (isSpace c = true ∨ c = '\n') ∨ c = ';' → Script tr r cs → Script tr (c :: r) cs
  | comment {r cs} : Script tr (skipComment r) cs → Script tr ('#' :: r) cs
  | cmd {c r cmd s' cs} : ¬(isSpace c = true ∨ c = '\n') → c ≠ ';' → c ≠ '#' →
      parseCmd tr (c :: r) = .ok (cmd, s') → Script tr s' cs → Script tr (c :: r) (cmd :: cs)

theorem compLoop_reads (tr : Traits) (s : Str) (lvl : Nat) (labs : List Str) :
    Reads (fun cs => Script tr s cs ∧ accepts cs lvl labs = true) (compLoop tr s lvl labs) := by
  fun_induction compLoop tr s lvl labs
  case case1 => simp
  case case2 hl => exact ⟨.nil, by simpa [accepts] using hl⟩
  case case3 hc ih => exact ih.imp fun _ h => ⟨.skip (Or.inl hc) h.1, h.2⟩
  case case4 ih => exact ih.imp fun _ h => ⟨.skip (Or.inr rfl) h.1, h.2⟩
  case case5 ih => exact ih.imp fun _ h => ⟨.comment h.1, h.2⟩
  case case7 e hp => rw [hp]; exact (parseCmd_reads tr _ _).error hp
  -- the two progress guards, after a comment and after a command, hold
  case case6 hlen _ _ => exact absurd (skipComment_len _) hlen
  case case15 hlen hp => exact absurd ((parseCmd_reads tr _ _).ok hp).1 hlen
  all_goals simp only [*, ↓reduceDIte, ↓reduceIte]
  -- the errors of the bookkeeping (nesting too deep, `}` at level 0, label twice); what is left reads `{`, `}`, a label or another command
  case case8 | case10 | case12 => simp_all
  all_goals
    rename_i ih
    refine ih.map fun cs' ⟨hscr, hacc⟩ => ⟨.cmd (by assumption) (by assumption) (by assumption) (by assumption) hscr, ?_⟩
    rw [accepts]
    split <;> simp_all [Nat.pos_iff_ne_zero, Decidable.or_iff_not_imp_left]

theorem Script.wellAddressed {tr : Traits} {s : Str} {cs : List PCmd} (h : Script tr s cs) : ∀ c ∈ cs, c.wellAddressed := by
  induction h with
  | nil => intro c hc; cases hc
  | skip _ _ ih | comment _ ih => exact ih
  | cmd _ _ _ hp _ ih => exact List.forall_mem_cons.mpr ⟨((parseCmd_reads tr _ _).ok hp).2, ih⟩

theorem compLoop_of_script {tr : Traits} {s : Str} {cs : List PCmd} (h : Script tr s cs) :
    ∀ lvl labs, accepts cs lvl labs = true → compLoop tr s lvl labs = .ok cs := by
  induction h with
  | nil => intro lvl labs ha; simp [accepts] at ha; simp [compLoop, ha]
  | skip hc _ ih =>
    intro lvl labs ha
    rw [compLoop]
    rcases hc with hc | rfl
    · rw [if_pos hc]; exact ih _ _ ha
    · simpa [isSpace] using ih _ _ ha
  | comment _ ih =>
    intro lvl labs ha
    rw [compLoop]
    simpa [isSpace, skipComment_len] using ih _ _ ha
  | @cmd ch r c s' rest h1 h3 h4 hp _ ih =>
    intro lvl labs ha
    have hlen : s'.length ≤ r.length := ((parseCmd_reads tr ch r).ok hp).1
    rw [compLoop]
    simp only [h1, h3, h4, hp, hlen, ↓reduceDIte, ↓reduceIte]
    rw [accepts] at ha
    split at ha
    next hop =>
      simp only [Bool.and_eq_true, decide_eq_true_eq] at ha
      simp [hop, Nat.not_le.mpr ha.1, ih _ _ ha.2, Except.map]
    next hop =>
      simp only [Bool.and_eq_true, decide_eq_true_eq] at ha
      simp [hop, Nat.ne_of_gt ha.1, ih _ _ ha.2, Except.map]
    next name hop =>
      simp only [Bool.and_eq_true, Bool.not_eq_true', Bool.and_eq_false_imp] at ha
      simpa [hop, ih _ _ ha.2, Except.map] using ha.1
    next => simp_all [Except.map]

end Hawk.Sed
