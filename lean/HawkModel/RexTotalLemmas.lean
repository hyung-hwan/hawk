import HawkModel.ExceptSat
import HawkModel.CoreLemmas
import HawkModel.RexParse
/-! towards "`Tre.parse` never answers STUCK": the steps of the parser that have no budget or a budget of their own
(`PARSE_POSTFIX` with `tre_parse_bound`, `tre_parse_bracket` with `tre_parse_bracket_items`, the backslash atoms) never
answer STUCK and only consume input.  Both facts are one predicate, `Consumes`, which every step passes on to its caller. -/
namespace Hawk.Rex.Tre
open Hawk.Rex

/-- what is shown of every step of the parser that was handed `n` characters: it does not answer STUCK, and on success
the text it leaves (`rest` of its answer) has at most `n` characters -/
abbrev Consumes {α : Type} (rest : α → List Char) (n : Nat) : Except PErr α → Prop :=
  Except.Sat (fun a => (rest a).length ≤ n) (· ≠ .stuck)

theorem Consumes.ne_stuck {α : Type} {rest : α → List Char} {n : Nat} {x : Except PErr α} (h : Consumes rest n x) :
    x ≠ .error .stuck := by
  rintro rfl
  exact h rfl

theorem parseIntLoop_le (r : List Char) (num : Nat) (ov : Bool) : (parseIntLoop r num ov).2.2.length ≤ r.length := by
  fun_induction parseIntLoop r num ov with
  | case1 | case3 => exact Nat.le_refl _
  | case2 c r num ov _ ih => exact Nat.le_succ_of_le ih

theorem parseInt_le (r : List Char) : (parseInt r).2.length ≤ r.length := by
  cases r with
  | nil => simp [parseInt]
  | cons c t =>
    unfold parseInt
    simp only
    split
    · exact parseIntLoop_le (c :: t) 0 false
    · simp

/-- the optional `?` after a repetition operator -/
theorem qmark_le {t t' : List Char} {m : Bool}
    (h : (match t with | '?' :: t' => (true, t') | _ => (false, t) : Bool × List Char) = (m, t')) : t'.length ≤ t.length := by
  split at h <;> cases h <;> simp

theorem parseBound_consumes (result : Ast) (r : List Char) : Consumes (·.2) r.length (parseBound result r) := by
  unfold parseBound
  split
  rename_i mn r1 h1
  split
  rename_i mx r2 h2
  have hr1 : r1.length ≤ r.length := by have := parseInt_le r; rwa [h1] at this
  have hr2 : r2.length ≤ r1.length := by
    split at h2
    · have := parseInt_le ‹_›; rw [h2] at this; exact Nat.le_succ_of_le this
    · cases h2; exact Nat.le_refl _
  refine .ite nofun ?_
  cases r2 with
  | nil => exact nofun
  | cons c t =>
    refine .ite nofun (.ite nofun (.ite nofun ?_))
    split
    rename_i minimal t' hq
    have ht' : t'.length ≤ r.length := by have := qmark_le hq; simp only [List.length_cons] at hr2; omega
    refine .ite ht' ?_
    split
    exact ht'

theorem postfixOps_consumes (cf : CF) (fuel : Nat) (res : Ast) (re : List Char) (h : re.length < fuel) :
    Consumes (·.2) re.length (postfixOps cf fuel res re) := by
  fun_induction postfixOps cf fuel res re with
  | case1 => omega
  | case2 | case6 => exact Nat.le_refl _
  | case3 fuel res c t _ minimal t' hq ih =>
    have := qmark_le hq
    simp only [List.length_cons] at h ⊢
    exact (ih (by omega)).mono_len (by omega)
  | case4 fuel res c t _ _ e he =>
    have pb := parseBound_consumes res t
    rwa [he] at pb
  | case5 fuel res c t _ _ res' t' he ih =>
    have pb := parseBound_consumes res t
    rw [he] at pb
    exact (ih (Nat.lt_of_le_of_lt pb (Nat.lt_of_succ_lt_succ h))).mono_len (Nat.le_succ_of_le pb)

theorem bracketOne_consumes (first : Bool) (c0 : Char) (r0 : List Char) :
    Consumes (·.2.2.2) r0.length (bracketOne first c0 r0) := by
  have hdrop : ∀ k, (r0.drop k).length ≤ r0.length := fun k => by rw [List.length_drop]; omega
  unfold bracketOne
  extract_lets c1 c2 body name other
  clear_value c1 c2 name
  have hother : Consumes (·.2.2.2) r0.length (other ()) := by
    show Consumes _ _ (match c1 with | some _ => _ | none => _)
    split
    · refine .ite (hdrop 1) (.ite nofun (.ite nofun (.ite ?_ (.ite nofun (Nat.le_refl _)))))
      -- `[:name:]`: what follows the `:]` is a suffix of the text
      have hdw := Nat.le_trans (List.length_dropWhile_le (fun x : Char => decide (x ≠ ':')) _) (hdrop 1)
      split
      · exact nofun
      · rename_i hd
        rw [hd] at hdw
        split
        · split
          · exact Nat.le_of_succ_le (Nat.le_of_succ_le hdw)
          · exact nofun
        · exact nofun
    · exact .ite nofun (Nat.le_refl _)
  split
  · exact .ite (.ite nofun (hdrop 2)) hother
  · exact hother

theorem bracketItems_consumes (icase negate : Bool) : ∀ (fuel : Nat) (first : Bool) (re : List Char) (items : List Item)
    (negs : List CClass), re.length < fuel → Consumes (·.2.2) re.length (bracketItems icase negate fuel first re items negs)
  | 0, _, _, _, _, h => by omega
  | fuel + 1, first, re, items, negs, h => by
    unfold bracketItems
    cases re with
    | nil => exact nofun
    | cons c0 r0 =>
      simp only [List.length_cons, Nat.add_lt_add_iff_right] at h
      refine .ite (Nat.le_succ _) ?_
      have one := bracketOne_consumes first c0 r0
      split
      · rename_i e he
        rwa [he] at one
      · rename_i lo hi cls rest he
        rw [he] at one
        have again := fun items negs =>
          (bracketItems_consumes icase negate fuel false rest items negs (Nat.lt_of_le_of_lt one h)).mono_len (Nat.le_succ_of_le one)
        split
        · exact .ite nofun (again ..)
        · exact .ite nofun (again ..)

theorem parseBracket_consumes (icase : Bool) (pos : Nat) (re : List Char) :
    Consumes (·.2) re.length (parseBracket icase pos re) := by
  unfold parseBracket
  extract_lets negate re'
  have hre : re'.length ≤ re.length := by
    show (if negate = true then re.drop 1 else re).length ≤ _
    split
    · rw [List.length_drop]; omega
    · exact Nat.le_refl _
  have items := bracketItems_consumes icase negate (re'.length + 1) true re' [] [] (Nat.lt_succ_self _)
  split
  · rename_i e he
    rwa [he] at items
  · rename_i is negs rest he
    rw [he] at items
    extract_lets sorted
    split
    extract_lets node
    clear_value node
    split
    · exact Nat.le_trans items hre
    · exact nofun

theorem hexBrace_consumes (r : List Char) (val : Nat) : Consumes (·.2) r.length (hexBrace r val) := by
  fun_induction hexBrace r val with
  | case1 | case4 => exact nofun
  | case2 => exact Nat.le_succ _
  | case3 c r val _ d _ ih => exact ih.mono_len (Nat.le_succ _)

theorem escapeAtom_consumes (cf : CF) (st : St) (e : Char) (t : List Char) :
    Consumes (·.2.2) t.length (escapeAtom cf st e t) := by
  have same : t.length ≤ t.length := Nat.le_refl _
  unfold escapeAtom
  split
  · exact same
  split
  · rename_i text _
    have pb := parseBracket_consumes cf.icase st.pos text
    split
    · rename_i err he
      rwa [he] at pb
    · exact same
  refine .ite same (.ite same (.ite same (.ite same (.ite ?_ (.ite same same)))))
  split
  · exact same
  · rename_i t2
    have hb := hexBrace_consumes t2 0
    split
    · rename_i err he
      rwa [he] at hb
    · rename_i val rest he
      rw [he] at hb
      exact Nat.le_succ_of_le hb
  · rename_i a t2 _
    split
    · exact same
    · split
      · split
        · exact Nat.le_succ_of_le (Nat.le_succ _)
        · exact Nat.le_succ _
      · exact Nat.le_succ _

end Hawk.Rex.Tre
