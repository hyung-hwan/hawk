import HawkModel.DeparseGlue
/-!
  The gluing criterion against the C's walk over `ops[]`.  For a table in the order the walk relies on (`walkOrdered`),
  get_symbols() returns the first entry that is a prefix of the input (`symWalk_first`).  Longer symbols stand before their
  beginnings (`sym_longestFirst`), so a symbol followed by a character that does not extend it to the beginning of another
  symbol - `cutOK`'s test `extendsCC` - is cut off exactly, whatever follows: `symWalk_cut`.
-/
namespace Hawk.Deparse
open Hawk.Gen.Precedence

/-- spellings of the symbol tokens that print_expr writes directly before another token (no blank):
    punctuation, the unary operators, the increment operators -/
def gluePrinted : List String :=
  ["(", ")", "[", "]", ",", "?", ":", "$"] ++ [UnrOp.PLUS, .MINUS, .LNOT, .BNOT].map unropStr ++ [IncOp.PLUS, .MINUS].map incopStr

/-- what get_symbols() needs of the order of `ops[]`: the walk keeps its index when it leaves an entry, so an entry that fails
    behind its first `j` characters must hand over to an entry that begins with the same `j` characters -/
def walkOrdered : List (String × TK) → Bool
  | e :: f :: r => e.1.toList.dropLast.isPrefixOf f.1.toList && walkOrdered (f :: r)
  | _ => true

theorem take_of_dropLast_prefix {s f : List Char} {idx : Nat} (h : s.dropLast <+: f) (hi : idx < s.length) :
    s.take idx = f.take idx ∧ idx ≤ f.length := by
  obtain ⟨t, rfl⟩ := h
  have hl : idx ≤ s.dropLast.length := by simp; omega
  refine ⟨?_, by simp; omega⟩
  rw [List.take_append_of_le_length hl, List.dropLast_eq_take, List.take_take, Nat.min_eq_left (by omega)]

/-- one entry, `idx` of its characters matched: either it is a prefix of the input and the walk returns it, or the walk goes on
    to the next entry behind the characters that matched, with the same input -/
theorem walkEntry_spec (s : String) (k : TK) (next : Nat → List Char → Option (String × TK × List Char)) :
    ∀ (cs : List Char) (idx : Nat), idx ≤ s.length →
    (s.toList.isPrefixOf (s.toList.take idx ++ cs) = true ∧
      walkEntry s k next idx cs = some (s, k, (s.toList.take idx ++ cs).drop s.length)) ∨
    (s.toList.isPrefixOf (s.toList.take idx ++ cs) = false ∧
      ∃ idx' cs', idx' < s.length ∧ s.toList.take idx' ++ cs' = s.toList.take idx ++ cs ∧
        walkEntry s k next idx cs = next idx' cs') := by
  have hl : s.toList.length = s.length := String.length_toList
  have full : ∀ (cs : List Char) (idx : Nat), idx ≥ s.length →
      s.toList.isPrefixOf (s.toList.take idx ++ cs) = true ∧
        walkEntry s k next idx cs = some (s, k, (s.toList.take idx ++ cs).drop s.length) := by
    intro cs idx h
    rw [List.take_of_length_le (by omega), ← hl, List.drop_left]
    exact ⟨by simp, by cases cs <;> simp [walkEntry, h]⟩
  have miss : ∀ (cs : List Char) (idx : Nat), idx < s.length → s.toList[idx]? ≠ cs.head? →
      s.toList.isPrefixOf (s.toList.take idx ++ cs) = false := by
    intro cs idx h hc
    rw [Bool.eq_false_iff, Ne, List.isPrefixOf_iff_prefix]
    intro hp
    have := List.prefix_iff_getElem?.mp hp idx (by omega)
    rw [List.getElem?_append_right (by simp; omega)] at this
    simp [List.length_take, Nat.min_eq_left (show idx ≤ s.toList.length by omega)] at this
    cases cs <;> simp_all
  intro cs
  induction cs with
  | nil =>
    intro idx hi
    by_cases h : idx ≥ s.length
    · exact .inl (full [] idx h)
    · exact .inr ⟨miss [] idx (by omega) (by simp; omega), idx, [], by omega, rfl, by simp [walkEntry, h]⟩
  | cons c cs ih =>
    intro idx hi
    by_cases h : idx ≥ s.length
    · exact .inl (full _ idx h)
    · by_cases hc : s.toList[idx]? = some c
      · have e : s.toList.take idx ++ c :: cs = s.toList.take (idx + 1) ++ cs := by
          rw [List.take_add_one, hc]; simp
        rw [e]
        have := ih (idx + 1) (by omega)
        simp only [walkEntry, h, if_false, hc, beq_self_eq_true, if_true]
        exact this
      · exact .inr ⟨miss _ idx (by omega) (by simpa using hc), idx, c :: cs, by omega, rfl, by simp [walkEntry, h, hc]⟩

/-- get_symbols() on a table in walk order, `idx` characters of the first entry matched already: the first entry that is
    a prefix of the input -/
theorem symWalk_find : ∀ (tbl : List (String × TK)) (s : String) (k : TK) (idx : Nat) (cs : List Char),
    walkOrdered ((s, k) :: tbl) = true → idx ≤ s.length →
    symWalk ((s, k) :: tbl) idx cs =
      (((s, k) :: tbl).find? (fun e => e.1.toList.isPrefixOf (s.toList.take idx ++ cs))).map
        (fun e => (e.1, e.2, (s.toList.take idx ++ cs).drop e.1.length)) := by
  intro tbl
  induction tbl with
  | nil =>
    intro s k idx cs _ hi
    rcases walkEntry_spec s k (fun idx' cs' => symWalk [] idx' cs') cs idx hi with ⟨hp, hw⟩ | ⟨hp, _, _, _, _, hw⟩
    · rw [symWalk, hw]; simp [List.find?, hp]
    · rw [symWalk, hw]; simp [symWalk, List.find?, hp]
  | cons e tbl ih =>
    obtain ⟨f, kf⟩ := e
    intro s k idx cs ho hi
    simp only [walkOrdered, Bool.and_eq_true, List.isPrefixOf_iff_prefix] at ho
    rcases walkEntry_spec s k (fun idx' cs' => symWalk ((f, kf) :: tbl) idx' cs') cs idx hi with
      ⟨hp, hw⟩ | ⟨hp, idx', cs', hi', he, hw⟩
    · rw [symWalk, hw]; simp [List.find?, hp]
    · have := take_of_dropLast_prefix ho.1 (by rw [String.length_toList]; exact hi')
      rw [String.length_toList] at this
      rw [symWalk, hw, ih f kf idx' cs' ho.2 this.2, ← this.1, he]
      simp [List.find?, hp]

theorem sym_walkOrdered : walkOrdered symTable = true := by decide +kernel

theorem symWalk_first (cs : List Char) :
    symWalk symTable 0 cs = (symTable.find? (fun e => e.1.toList.isPrefixOf cs)).map (fun e => (e.1, e.2, cs.drop e.1.length)) :=
  symWalk_find _ _ _ 0 cs sym_walkOrdered (Nat.zero_le _)

theorem sym_longestFirst : symTable.Pairwise (fun e f => e.1.toList.isPrefixOf f.1.toList = false) := by decide +kernel

theorem symWalk_cut {s1 : String} {k : TK} (h : (s1, k) ∈ symTable) (c : Char) (r : List Char)
    (hx : extendsCC s1 (.ch c) = false) : symWalk symTable 0 (s1.toList ++ c :: r) = some (s1, k, c :: r) := by
  obtain ⟨as, bs, e⟩ := List.append_of_mem h
  have hpw := sym_longestFirst
  rw [e, List.pairwise_append] at hpw
  have hfind : symTable.find? (fun e => e.1.toList.isPrefixOf (s1.toList ++ c :: r)) = some (s1, k) := by
    rw [e, List.find?_eq_some_iff_append]
    refine ⟨by simp, as, bs, rfl, fun a ha => ?_⟩
    rw [Bool.not_eq_true', ← Bool.not_eq_true, List.isPrefixOf_iff_prefix]
    intro hp
    rcases Nat.lt_or_ge s1.toList.length a.1.toList.length with hl | hl
    · -- a longer entry begins with `s1 c`
      have : (s1.toList ++ [c]) <+: a.1.toList :=
        List.prefix_of_prefix_length_le (l₃ := s1.toList ++ c :: r) ⟨r, by simp⟩ hp (by simp; omega)
      simp only [extendsCC, List.any_eq_false, List.isPrefixOf_iff_prefix] at hx
      exact hx a (e ▸ List.mem_append_left _ ha) this
    · -- an entry that is not longer is a beginning of `s1`, which stands behind it
      have hn := hpw.2.2 a ha (s1, k) List.mem_cons_self
      rw [← Bool.not_eq_true, List.isPrefixOf_iff_prefix] at hn
      exact hn (List.prefix_of_prefix_length_le hp ⟨c :: r, rfl⟩ hl)
  rw [symWalk_first, hfind]
  simp [← String.length_toList]

theorem glue_sym {s1 : String} (h : s1 ∈ gluePrinted) : (s1, tkOfSpelling s1) ∈ symTable := by
  have := List.all_eq_true.mp (by decide +kernel : gluePrinted.all (fun s => (symTable.lookup s).isSome) = true) s1 h
  obtain ⟨k, hk⟩ := Option.isSome_iff_exists.mp this
  simp only [tkOfSpelling, hk]
  exact mem_of_lookup hk

/-- each printed symbol followed by any character and any text: either the character extends it to the beginning of a
    symbol (then `cutOK` refuses the pair), or get_symbols() cuts exactly after it -/
theorem cut_sound (s1 : String) (hs1 : s1 ∈ gluePrinted) (c : Char) (r : List Char) :
    extendsCC s1 (.ch c) = true ∨ symWalk symTable 0 (s1.toList ++ c :: r) = some (s1, tkOfSpelling s1, c :: r) := by
  cases hx : extendsCC s1 (.ch c)
  · exact .inr (symWalk_cut (glue_sym hs1) c r hx)
  · exact .inl rfl

/-- `cut_sound` with the symbols of the table as what follows, as one Boolean over the two tables: the form in which
    `Props.C17.cutOK_agrees_with_get_symbols` states it -/
theorem cut_sound_symbols :
    gluePrinted.all (fun s1 => symTable.all (fun e2 =>
      match e2.1.toList with
      | c :: _ => extendsCC s1 (.ch c) ||
          (symWalk symTable 0 (s1.toList ++ e2.1.toList) == some (s1, tkOfSpelling s1, e2.1.toList))
      | [] => true)) = true := by
  simp only [List.all_eq_true]
  intro s1 hs1 e2 he2
  split
  · next c r heq =>
    rw [Bool.or_eq_true, beq_iff_eq, heq]
    exact cut_sound s1 hs1 c r
  · rfl

theorem symbols_have_no_alnum :
    symTable.all (fun e => e.1.toList.all (fun c => !isAlnum c && c != '"' && c != '\'' && c != '@')) = true := by
  decide +kernel

/-- behind any symbol get_symbols() cuts in front of a letter, digit, `_`, quote or `@` (the first characters of the other token
    kinds), whatever follows -/
theorem symWalk_cut_nonsym {s1 : String} {k : TK} (h : (s1, k) ∈ symTable) {c : Char}
    (hc : (!isAlnum c && c != '"' && c != '\'' && c != '@') = false) (r : List Char) :
    symWalk symTable 0 (s1.toList ++ c :: r) = some (s1, k, c :: r) := by
  refine symWalk_cut h c r (Bool.eq_false_iff.mpr fun hx => ?_)
  -- an entry that begins with `s1 c` would contain `c`
  simp only [extendsCC, List.any_eq_true, List.isPrefixOf_iff_prefix] at hx
  obtain ⟨e, he, hp⟩ := hx
  have hno := List.all_eq_true.mp (List.all_eq_true.mp symbols_have_no_alnum e he) c (hp.subset (by simp))
  rw [hc] at hno
  cases hno

/-- get_symbols() cuts after each printed symbol in front of `a Z _ 0 9 " ' @`, samples of the first characters of the other
    token kinds -/
theorem cut_sound_others :
    gluePrinted.all (fun s1 => ['a', 'Z', '_', '0', '9', '"', '\'', '@'].all (fun c =>
      symWalk symTable 0 (s1.toList ++ [c]) == some (s1, tkOfSpelling s1, [c]))) = true := by
  simp only [List.all_eq_true, beq_iff_eq]
  intro s1 hs1 c hc
  exact symWalk_cut_nonsym (glue_sym hs1) (by revert c; decide) []

end Hawk.Deparse
