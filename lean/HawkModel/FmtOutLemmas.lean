import HawkModel.FmtOut
import HawkModel.FmtLemmas
/-!
Lemmas about `HawkModel.FmtOut`, libc being a parameter: the `snprintf` loop in closed form (`outLoop_eq`); a recomposed specifier that fits
`fb.fmt` is written whole, and the one run.c's text leads to does fit, since fmt.c writes nothing back longer than it read; the text for libc
says what C reads in the user's specification (`libcSpecOf_denotes`); the scratch buffer of the integer branch only grows.
-/
namespace Hawk.Fmt

theorem snprintfC_snd (t : Str) (size : Nat) : (snprintfC t size).2 = t.take (size - 1) := by
  unfold snprintfC; split <;> rfl

theorem outLoop_eq (t : Str) (capa : Nat) (heap : Bool) (calls : Nat) :
    outLoop t capa heap calls =
      if t.length > 2147483647 then .oops
      else if t.length ≤ capa then .ok capa heap (calls + 1) t
      else .ok (max (capa * 2) t.length) true (calls + 2) t := by
  by_cases h : t.length > 2147483647
  · rw [if_pos h, outLoop, dif_pos (by rw [snprintfC_fst, if_pos h]; decide)]
  · have hq : ∀ size, (snprintfC t size).1 = t.length := fun size => by rw [snprintfC_fst, if_neg h]
    have hfit : ∀ capa heap calls, t.length ≤ capa → outLoop t capa heap calls = .ok capa heap (calls + 1) t := by
      intro capa heap calls hc
      rw [outLoop, dif_neg (by rw [hq]; omega), dif_pos (by rw [hq]; omega), snprintfC_snd]
      simp [List.take_of_length_le hc]
    rw [if_neg h]
    by_cases hc : t.length ≤ capa
    · rw [if_pos hc, hfit _ _ _ hc]
    · rw [if_neg hc, outLoop, dif_neg (by rw [hq]; omega), dif_neg (by rw [hq]; omega), hq, Int.toNat_natCast,
        hfit _ _ _ (by omega)]

theorem cstrOf_noNul (t : Str) (h : '\x00' ∉ t) : cstrOf t = t := by
  have := List.takeWhile_append_of_pos (p := (· != '\x00')) (l₁ := t) (l₂ := [])
    (fun a ha => by simpa using fun e : a = '\x00' => h (e ▸ ha))
  simpa [cstrOf] using this

theorem deliver_eq (t : Str) : deliver t = if t.length > 2147483647 then none else some (cstrOf t) := by
  rw [deliver, outLoop_eq]
  by_cases h : t.length > 2147483647
  · simp only [h, if_true]
  · by_cases hc : t.length ≤ 63 <;> simp only [h, hc, if_true, if_false]

theorem numInto_full (size n : Nat) (h : (decimal n).length < size) : (numInto size n).2 = decimal n := by
  have hd : (decimal n).length = (revDigits 10 false n).length := by simp [decimal]
  have hneg : ¬ ((List.length (revDigits 10 false n) : Int) < -1) := by omega
  have hs : ¬ size = 0 := by omega
  unfold numInto fmtUintmaxTo fmtUintmax digitsPart
  simp [put, optStr, decimal, hneg, hs]
  rw [List.take_of_length_le]
  simp; omega

theorem numInto_append (s : Str) (b : Bool) (n capa : Nat) (h : b = true → s.length + (decimal n).length < capa) :
    (if b then s ++ (numInto (capa - s.length) n).2 else s) = s ++ (if b then decimal n else []) := by
  cases b with
  | false => simp
  | true => simp only [if_true]; rw [numInto_full _ _ (by have := h rfl; omega)]

theorem composeInto_eq (capa : Nat) (st : CState) (conv : Char) (h : (recompose st conv).length ≤ capa) :
    composeInto capa st conv = recompose st conv := by
  unfold recompose at h ⊢
  unfold composeInto
  simp only [List.length_append, List.length_cons, List.length_nil] at h
  have hd : ∀ s : Str, (if st.dot = true then s ++ ['.'] else s) = s ++ (if st.dot = true then ['.'] else []) := by
    intro s; split <;> simp
  -- the two characters `L conv` that follow leave room for each number and its NUL
  simp only [hd]
  rw [numInto_append _ st.width _ _ (by
    intro hw; simp only [hw, if_true, List.length_append, List.length_cons, List.length_nil] at h ⊢; omega)]
  rw [numInto_append _ st.precision _ _ (by
    intro hp; simp only [hp, if_true, List.length_append, List.length_cons, List.length_nil] at h ⊢; omega)]

theorem le_fmtCapa (chsz n : Nat) (h : 1 ≤ chsz) : n ≤ fmtCapa (chsz * n) := by
  have : n ≤ chsz * n := Nat.le_mul_of_pos_left n h
  unfold fmtCapa; split <;> omega

theorem libcSpecOf_length_le (tmpLen : Nat) (fl : Str) (w : WSpec) (p : PSpec) (wf : SpecWF fl w p) (c : Char) :
    (libcSpecOf fl w p c).length ≤ ('%' :: fl ++ w.fbuText tmpLen ++ p.fbuText tmpLen ++ ['z', c]).length := by
  -- the scanner accepts the text with a float conversion in the last place, and the lengths do not depend on that character
  have := fmtcScan_recompose_length _ _ 'e' (fmtcScan_fbu tmpLen fl w p wf 'e' (by simp))
  rw [recompose_libcState fl w p wf 'e'] at this
  simp only [libcSpecOf_split, List.length_append, List.length_cons] at this ⊢
  omega

/-- the specifier handed to libc, written in terms of C's reading `s` of the user's specification -/
def denoteText (s : CSpec.Spec) (w : WSpec) (p : PSpec) : Str :=
  ['%'] ++ (if s.flags.space then [' '] else []) ++ (if s.flags.hash then ['#'] else []) ++ (if s.flags.plus then ['+'] else [])
    ++ (if s.flags.minus then ['-'] else [])
    ++ (if (s.flags.zero || (match w with | .star v => decide (v = 0) | _ => false)) && !s.flags.minus then ['0'] else [])
    ++ (match w with
        | .none => []
        | .lit _ => decimal s.width
        | .star _ => if s.width = 0 then [] else decimal s.width)
    ++ (match p, s.prec with
        | .lit [], _ => ['.']
        | _, none => []
        | _, some n => '.' :: decimal n)
    ++ ['L', s.conv]

theorem libcSpecOf_denotes (fl : Str) (w : WSpec) (p : PSpec) (c : Char) :
    libcSpecOf fl w p c = denoteText (cspec fl w p c) w p := by
  have hn : ∀ n : Nat, ((n : Int) < 0) = False := by intro n; simp
  -- both texts are (flags and width) ++ precision ++ `L` conversion; the first part depends on `w` only, the second on `p` only
  rw [libcSpecOf_split]
  unfold denoteText
  -- the three parts by hand: `congr 1` is slow to check on texts this long
  refine congr (congrArg HAppend.hAppend (congr (congrArg HAppend.hAppend ?_) ?_)) rfl
  · unfold wHead cspec CSpec.resolve flagsOf
    rw [foldl_add_eq]
    cases w with
    | none => simp [WSpec.val]
    | lit ws => simp [WSpec.val, hn]
    | star wv =>
      by_cases hw : wv < 0
      · have h0 : ¬ wv = 0 := by omega
        simp [WSpec.val, hw, h0]
      · by_cases h0 : wv = 0 <;> simp [WSpec.val, hw, h0]
  · unfold pPart cspec CSpec.resolve
    cases p with
    | none => simp [PSpec.val]
    | lit ds =>
      cases ds with
      | nil => simp
      | cons d r => simp [PSpec.val, hn]
    | star v => by_cases hv : v < 0 <;> simp [PSpec.val, hv]

theorem tmpT1_ge (tmpLen width : Nat) : tmpLen ≤ tmpT1 tmpLen width ∧ width ≤ tmpT1 tmpLen width ∨ width = 0 ∧ tmpT1 tmpLen width = tmpLen := by
  unfold tmpT1 growWithInc; split <;> (try split) <;> omega

theorem tmpT2_ge (t1 need : Nat) : t1 ≤ tmpT2 t1 need ∧ need ≤ tmpT2 t1 need := by
  unfold tmpT2 growWithInc; split <;> (try split) <;> omega

theorem emitIntTmpOf_within (call : Nat → Int × Str) (tmpLen width : Nat) :
    ∀ p ∈ (emitIntTmpOf call tmpLen width).2, p.1 ≤ p.2 := by
  intro p hp
  have h1 := tmpT1_ge tmpLen width
  have hw : (if width > 0 then width else tmpT1 tmpLen width) ≤ tmpT1 tmpLen width := by split <;> omega
  by_cases h : (call (if width > 0 then width else tmpT1 tmpLen width)).1 ≤ -1
  · simp only [emitIntTmpOf, h, if_true, List.mem_cons, List.not_mem_nil, or_false] at hp
    rcases hp with rfl | rfl
    · exact hw
    · exact (tmpT2_ge _ _).2
  · simp only [emitIntTmpOf, h, if_false, List.mem_cons, List.not_mem_nil, or_false] at hp
    subst hp
    exact hw

theorem emitIntTmpOf_mono (call : Nat → Int × Str) (tmpLen width : Nat) : tmpLen ≤ (emitIntTmpOf call tmpLen width).1 := by
  have h1 : tmpLen ≤ tmpT1 tmpLen width := by
    have := tmpT1_ge tmpLen width
    omega
  by_cases h : (call (if width > 0 then width else tmpT1 tmpLen width)).1 ≤ -1
  · simp only [emitIntTmpOf, h, if_true]
    exact Nat.le_trans h1 (tmpT2_ge _ _).1
  · simp only [emitIntTmpOf, h, if_false]
    exact h1

end Hawk.Fmt
