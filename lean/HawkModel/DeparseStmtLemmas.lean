import HawkModel.DeparseStmt
import HawkModel.DeparseRoundtrip
/-!
  Round trip of the statement level, on top of the expression round trip (`rtA`): `parseStmt (toksS (printS s)) = normS s`
  for the statement trees the parser can return (`WFS`).  print / printf: the argument list is seen from its end (`snocL`),
  because parse_print reads the last argument together with a redirection as one tree and decides afterwards (`pick`); its
  parenthesis bookkeeping rests on printed expressions being balanced (`Bal`, a grammar, so that "closes early" is inversion).
-/
namespace Hawk.Deparse
open Hawk.Gen.Precedence Hawk.Gen.Keywords

def normO : Option Ast → Option Ast
  | none => none
  | some a => some (norm a)

mutual
/-- the tree `parseStmt` returns on the printed `s`: `norm` in every expression position -/
def normS : Stmt → Stmt
  | .null => .null
  | .blk nl body => .blk nl (normSL body)
  | .ift c t => .ift (norm c) (normS t)
  | .ife c t e => .ife (norm c) (normS t) (normS e)
  | .whl c b => .whl (norm c) (normS b)
  | .dowhl b c => .dowhl (normS b) (norm c)
  | .for_ i t u b => .for_ (normO i) (normO t) (normO u) (normS b)
  | .forin x b => .forin (norm x) (normS b)
  | .brk => .brk
  | .cont => .cont
  | .ret v => .ret (normO v)
  | .exit_ ab v => .exit_ ab (normO v)
  | .next => .next
  | .nextfile o => .nextfile o
  | .del v => .del (norm v)
  | .reset v => .reset (norm v)
  | .prt f args out => .prt f (normL args) (match out with | none => none | some (r, o) => some (r, norm o))
  | .expr e => .expr (norm e)
def normSL : StmtL → StmtL
  | .nil => .nil
  | .cons s t => .cons (normS s) (normSL t)
end

/-- the statement ends in an `if` without `else` (an `else` that follows would be taken by that `if`) -/
def openIf : Stmt → Bool
  | .ift _ _ => true
  | .ife _ _ e => openIf e
  | .whl _ b => openIf b
  | .for_ _ _ _ b => openIf b
  | .forin _ b => openIf b
  | _ => false

def WFO : Option Ast → Prop
  | none => True
  | some a => WFparse a

def lastArg : AstL → Option Ast
  | .nil => none
  | .cons a .nil => some a
  | .cons _ (.cons b t) => lastArg (.cons b t)

def isRedirBin : Ast → Bool
  | .bin op _ _ => (redirOfBin op).isSome
  | _ => false

/-- parse_print: a parenthesised list `print (a, b)` is the only argument -/
def grpAlone : AstL → Prop
  | .cons (.grp _) t => t = .nil
  | _ => True

def WFout : Option (Redir × Ast) → Prop
  | none => True
  | some (_, o) => WFparse o

/-- no condition of `WFS`: a last argument that is a `>`, `>>`, `|`, `||` node is read back as well (`inParens_redirbin`) -/
def lastNotRedir (l : AstL) : Prop :=
  match lastArg l with
  | some a => isRedirBin a = false
  | none => True

mutual
/-- the statement trees the parser can return (and, `_partial`: that the round trip theorem covers) -/
def WFS : Stmt → Prop
  | .null => True
  | .blk _ body => WFSL body
  | .ift c t => WFparse c ∧ WFS t
  | .ife c t e => WFparse c ∧ WFS t ∧ WFS e ∧ openIf t = false
  | .whl c b => WFparse c ∧ WFS b
  | .dowhl b c => WFparse c ∧ WFS b
  | .for_ i t u b => WFO i ∧ WFO t ∧ WFO u ∧ WFS b
  | .forin x b => WFparse x ∧ isForinHead x = true ∧ WFS b
  | .brk => True
  | .cont => True
  | .ret v => WFO v
  | .exit_ _ v => WFO v
  | .next => True
  | .nextfile _ => True
  | .del v => WFparse v ∧ v.isVar = true
  | .reset v => ∃ n, v = .var n
  | .prt f args out =>
    WFparseL args ∧ (f = true → args ≠ .nil) ∧ grpAlone args ∧ WFout out
  | .expr e => WFparse e
/-- parse_block keeps no null statement and no block with an empty body in a block body -/
def WFSL : StmtL → Prop
  | .nil => True
  | .cons s t => WFS s ∧ s.dropped = false ∧ WFSL t
end

mutual
/-- fuel that is enough for `parseStmt` on the printed statement: one per nested statement, summed where the maximum would do -/
def sz : Stmt → Nat
  | .blk _ body => szL body + 1
  | .ift _ t => sz t + 1
  | .ife _ t e => sz t + sz e + 1
  | .whl _ b => sz b + 1
  | .dowhl b _ => sz b + 1
  | .for_ _ _ _ b => sz b + 1
  | .forin _ b => sz b + 1
  | _ => 1
def szL : StmtL → Nat
  | .nil => 1
  | .cons s t => sz s + szL t + 1
end

theorem toksS_append (a b : List SP) : toksS (a ++ b) = toksS a ++ toksS b := by
  induction a with
  | nil => rfl
  | cons x r ih =>
    match x with
    | .p (.t _) | .p .sp | .nl | .tab => simp [toksS, ih]

theorem toksS_tabs (d : Nat) : toksS (tabs d) = [] := by
  induction d with
  | zero => rfl
  | succ n ih => simp [tabs, List.replicate_succ, toksS] at ih ⊢; exact ih

theorem toksS_mapP (l : List PT) : toksS (l.map .p) = toks l := by
  induction l with
  | nil => rfl
  | cons x r ih => cases x <;> simp [toksS, toks, ih]

theorem toksS_ex (a : Ast) : toksS (ex a) = print a := by simp [ex, toksS_mapP, print]

theorem toksS_opx (a : Ast) : toksS (opx a) = opnd a := by
  simp only [opx, toksS_mapP, opndP, opnd]
  split <;> simp [toks, toks_append, print]

def tSEMI : Tok := symTok ";"
def tLBR : Tok := symTok "{"
def tRBR : Tok := symTok "}"
theorem tSEMI_k : tSEMI.k = .SEMICOLON := by decide
theorem tLBR_k : tLBR.k = .LBRACE := by decide
theorem tRBR_k : tRBR.k = .RBRACE := by decide
theorem nlTok_k : nlTok.k = .NEWLINE := rfl
theorem kwTok_k (k : TK) : (kwTok k).k = k := rfl

theorem dropNl_nl (r : List Tok) : dropNl (nlTok :: r) = dropNl r := by simp [dropNl, nlTok]
theorem dropNl_ne (t : Tok) (r : List Tok) (h : t.k ≠ .NEWLINE) : dropNl (t :: r) = t :: r := by simp [dropNl, h]
theorem dropNl_idem (ts : List Tok) : dropNl (dropNl ts) = dropNl ts := by
  induction ts with
  | nil => rfl
  | cons t r ih => by_cases h : t.k = .NEWLINE <;> simp [dropNl, h, ih]

theorem stop_SEMI (b : Option TK) : opOK ladderPre (some .SEMICOLON) b = true :=
  stop_of_cont (List.suffix_refl _) (by decide +kernel) b
theorem stop_prim_SEMI (b : Option TK) : noContK .primLv (some .SEMICOLON) b = true := opOK_prim (stop_SEMI b)

theorem pExpr_stop (a : Ast) (hw : WFparse a) (c : Tok) (rest : List Tok) (hc : ∀ b, opOK ladderPre (some c.k) b = true) :
    pExpr (print a ++ c :: rest) = .ok (norm a, c :: rest) :=
  (rtA a hw).2 _ _ (by simp; omega) (stop_cons rfl hc _)

theorem pExpr_semi (a : Ast) (hw : WFparse a) (rest : List Tok) :
    pExpr (print a ++ tSEMI :: rest) = .ok (norm a, tSEMI :: rest) :=
  pExpr_stop a hw tSEMI rest (by rw [tSEMI_k]; exact stop_SEMI)

theorem pExpr_rp (a : Ast) (hw : WFparse a) (rest : List Tok) :
    pExpr (print a ++ tRP :: rest) = .ok (norm a, tRP :: rest) :=
  pExpr_stop a hw tRP rest (by rw [tRP_k]; exact stop_RPAREN)

/-- `s`, printed at any depth and followed by anything (but an `else` after an open `if`), is read back as `normS s`;
    what is left is `rest` up to leading newlines -/
def RT (s : Stmt) : Prop := ∀ (outer d n : Nat) (rest : List Tok), sz s ≤ n →
  (openIf s = true → k1 (dropNl rest) ≠ some .ELSE) →
  ∃ r', parseStmt n outer (toksS (printS outer d s) ++ rest) = .ok (normS s, r') ∧ dropNl r' = dropNl rest

theorem RT.of_succ {s : Stmt} (h : ∀ (outer d m : Nat) (rest : List Tok), sz s ≤ m + 1 →
    (openIf s = true → k1 (dropNl rest) ≠ some .ELSE) →
    ∃ r', parseStmt (m + 1) outer (toksS (printS outer d s) ++ rest) = .ok (normS s, r') ∧ dropNl r' = dropNl rest) : RT s := by
  intro outer d n rest hn ho
  have : 0 < sz s := by cases s <;> exact Nat.succ_pos _
  obtain ⟨m, rfl⟩ := Nat.exists_eq_add_of_le' (show 1 ≤ n by omega)
  exact h outer d m rest hn ho

theorem RT.line {s : Stmt} (h : ∀ (outer d m : Nat) (rest : List Tok), sz s ≤ m + 1 →
    parseStmt (m + 1) outer (toksS (printS outer d s) ++ rest) = .ok (normS s, nlTok :: rest)) : RT s :=
  RT.of_succ fun outer d m rest hn _ => ⟨nlTok :: rest, h outer d m rest hn, dropNl_nl rest⟩

theorem sym_semi : sym ";" = .p (.t tSEMI) := rfl
theorem sym_lbr : sym "{" = .p (.t tLBR) := rfl
theorem sym_rbr : sym "}" = .p (.t tRBR) := rfl
theorem sym_lp : sym "(" = .p (.t tLP) := rfl
theorem sym_rp : sym ")" = .p (.t tRP) := rfl
theorem sym_comma : sym "," = .p (.t tCOMMA) := rfl

theorem ps_head (m outer : Nat) (t : Tok) (r : List Tok) (h : t.k ≠ .NEWLINE) :
    parseStmt (m + 1) outer (t :: r) = parseStmt (m + 1) outer (dropNl (t :: r)) := by
  rw [dropNl_ne t r h]

theorem endStmt_semi (x : Stmt) (t : Tok) (r : List Tok) (h : t.k = .SEMICOLON) : endStmt x (t :: r) = .ok (x, r) := by
  simp [endStmt, h]

theorem rt_null : RT .null := by
  refine RT.line fun outer d m rest hn => ?_
  simp only [printS, toksS_append, toksS_tabs, toksS, sym_semi, List.nil_append, List.cons_append, normS]
  rfl

theorem ps_dropNl (n outer : Nat) (ts : List Tok) : parseStmt n outer ts = parseStmt n outer (dropNl ts) := by
  cases n with
  | zero => simp [parseStmt]
  | succ m => rw [parseStmt, parseStmt, dropNl_idem]

theorem pb_dropNl (n outer : Nat) (ts : List Tok) : parseBody n outer ts = parseBody n outer (dropNl ts) := by
  cases n with
  | zero => simp [parseBody]
  | succ m => rw [parseBody, parseBody, dropNl_idem]

theorem ps_nl (n outer : Nat) (ts : List Tok) : parseStmt n outer (nlTok :: ts) = parseStmt n outer ts := by
  rw [ps_dropNl, dropNl_nl, ← ps_dropNl]

/-- the keywords of the statements that are a keyword and a terminator, and those that take an optional value -/
def jumps : List (TK × Stmt) :=
  [(.BREAK, .brk), (.CONTINUE, .cont), (.NEXT, .next), (.NEXTFILE, .nextfile false), (.NEXTOFILE, .nextfile true)]
def valued : List (TK × (Option Ast → Stmt)) := [(.RETURN, .ret), (.EXIT, .exit_ false), (.XABORT, .exit_ true)]

theorem ps_jump (m outer : Nat) (r : List Tok) {k : TK} {x : Stmt} (h : (k, x) ∈ jumps) :
    parseStmt (m + 1) outer (kwTok k :: r) = endStmt x r := by
  simp only [jumps, List.mem_cons, List.not_mem_nil, or_false, Prod.mk.injEq] at h
  rcases h with ⟨rfl, rfl⟩ | ⟨rfl, rfl⟩ | ⟨rfl, rfl⟩ | ⟨rfl, rfl⟩ | ⟨rfl, rfl⟩ <;> rfl

theorem ps_valued (m outer : Nat) (r r1 : List Tok) (v : Option Ast) {k : TK} {mk : Option Ast → Stmt} (h : (k, mk) ∈ valued)
    (hv : optVal r = .ok (v, r1)) : parseStmt (m + 1) outer (kwTok k :: r) = endStmt (mk v) r1 := by
  simp only [valued, List.mem_cons, List.not_mem_nil, or_false, Prod.mk.injEq] at h
  rcases h with ⟨rfl, rfl⟩ | ⟨rfl, rfl⟩ | ⟨rfl, rfl⟩ <;> (rw [parseStmt, dropNl_ne _ r (by decide)]; simp only [kwTok, hv])

theorem ps_delete (m outer : Nat) (rs : Bool) (r : List Tok) :
    parseStmt (m + 1) outer (kwTok (if rs then .XRESET else .DELETE) :: r) = parseDelete rs r := by cases rs <;> rfl

theorem ps_print (m outer : Nat) (f : Bool) (r : List Tok) :
    parseStmt (m + 1) outer (kwTok (if f then .PRINTF else .PRINT) :: r) = parsePrint f r := by cases f <;> rfl

theorem ps_expr (m outer : Nat) {ts r1 : List Tok} {a : Ast} (h : ∃ t r, ts = t :: r ∧ t.k ∈ startKs) (he : pExpr ts = .ok (a, r1)) :
    parseStmt (m + 1) outer ts = endStmt (.expr a) r1 := by
  obtain ⟨t, r, rfl, h⟩ := h
  rw [parseStmt, dropNl_ne t r (start_not_newline _ h)]
  simp only [startKs, List.mem_cons, List.not_mem_nil, or_false] at h
  rcases h with h | h | h | h | h | h | h | h | h | h | h | h <;> simp only [h] <;> rw [he]

theorem ps_lbrace (m outer : Nat) (t : Tok) (r r1 r2 : List Tok) (nl : Nat) (body : StmtL) (h : t.k = .LBRACE)
    (hl : blockLocals (r.length + 1) r 0 = .ok (nl, r1)) (hb : parseBody m (outer + nl) r1 = .ok (body, r2)) :
    parseStmt (m + 1) outer (t :: r) = .ok (.blk nl body, r2) := by
  rw [parseStmt, dropNl_ne t r (by rw [h]; decide)]; simp only [h, hl, hb]

theorem ps_while (m outer : Nat) (t lp rp : Tok) (r1 r3 r4 : List Tok) (c : Ast) (b : Stmt) (h : t.k = .WHILE) (hlp : lp.k = .LPAREN)
    (hc : pExpr r1 = .ok (c, rp :: r3)) (hrp : rp.k = .RPAREN) (hb : parseStmt m outer r3 = .ok (b, r4)) :
    parseStmt (m + 1) outer (t :: lp :: r1) = .ok (.whl c b, r4) := by
  rw [parseStmt, dropNl_ne t _ (by rw [h]; decide)]; simp [h, hlp, hc, hrp, hb]

theorem ps_if_noelse (m outer : Nat) (t lp rp : Tok) (r1 r3 r4 : List Tok) (c : Ast) (b : Stmt) (h : t.k = .IF) (hlp : lp.k = .LPAREN)
    (hc : pExpr r1 = .ok (c, rp :: r3)) (hrp : rp.k = .RPAREN) (hb : parseStmt m outer r3 = .ok (b, r4))
    (hne : k1 (dropNl r4) ≠ some .ELSE) :
    parseStmt (m + 1) outer (t :: lp :: r1) = .ok (.ift c b, dropNl r4) := by
  rw [parseStmt, dropNl_ne t _ (by rw [h]; decide)]; simp only [h]
  simp only [hlp, hc, hrp, hb, bne_self_eq_false, Bool.false_eq_true, if_false]
  cases hd : dropNl r4 with
  | nil => rfl
  | cons el r5 =>
    rw [hd, k1_cons] at hne
    have : (el.k == TK.ELSE) = false := by simpa using hne
    simp [this]

theorem ps_if_else (m outer : Nat) (t lp rp el : Tok) (r1 r3 r4 r5 r6 : List Tok) (c : Ast) (b e : Stmt) (h : t.k = .IF) (hlp : lp.k = .LPAREN)
    (hc : pExpr r1 = .ok (c, rp :: r3)) (hrp : rp.k = .RPAREN) (hb : parseStmt m outer r3 = .ok (b, r4))
    (hd : dropNl r4 = el :: r5) (hel : el.k = .ELSE) (he : parseStmt m outer r5 = .ok (e, r6)) :
    parseStmt (m + 1) outer (t :: lp :: r1) = .ok (.ife c b e, r6) := by
  rw [parseStmt, dropNl_ne t _ (by rw [h]; decide)]; simp only [h]
  simp [hlp, hc, hrp, hb, hd, hel, he]

theorem ps_do (m outer : Nat) (t w lp rp : Tok) (r r1 r2 r4 : List Tok) (c : Ast) (b : Stmt) (h : t.k = .DO)
    (hb : parseStmt m outer r = .ok (b, r1)) (hd : dropNl r1 = w :: lp :: r2) (hw : w.k = .WHILE) (hlp : lp.k = .LPAREN)
    (hc : pExpr r2 = .ok (c, rp :: r4)) (hrp : rp.k = .RPAREN) :
    parseStmt (m + 1) outer (t :: r) = endStmt (.dowhl b c) r4 := by
  rw [parseStmt, dropNl_ne t _ (by rw [h]; decide)]; simp only [h]
  simp [hb, hd, hw, hlp, hc, hrp]

theorem ps_forin (m outer : Nat) (t lp rp : Tok) (r1 r3 r4 : List Tok) (i : Ast) (b : Stmt) (h : t.k = .FOR) (hlp : lp.k = .LPAREN)
    (hh : forHead r1 = .ok (some i, true, rp :: r3)) (hrp : rp.k = .RPAREN) (hb : parseStmt m outer r3 = .ok (b, r4)) :
    parseStmt (m + 1) outer (t :: lp :: r1) = .ok (.forin i b, r4) := by
  rw [parseStmt, dropNl_ne t _ (by rw [h]; decide)]; simp only [h]
  simp [hlp, hh, hrp, hb]

theorem ps_for (m outer : Nat) (t lp s1 s2 rp : Tok) (r1 r3 r6 r9 r10 : List Tok) (i t' u : Option Ast) (b : Stmt) (h : t.k = .FOR) (hlp : lp.k = .LPAREN)
    (hh : forHead r1 = .ok (i, false, s1 :: r3)) (hs1 : s1.k = .SEMICOLON)
    (ht : forOpt .SEMICOLON (dropNl r3) = .ok (t', s2 :: r6)) (hs2 : s2.k = .SEMICOLON)
    (hu : forOpt .RPAREN (dropNl r6) = .ok (u, rp :: r9)) (hrp : rp.k = .RPAREN) (hb : parseStmt m outer r9 = .ok (b, r10)) :
    parseStmt (m + 1) outer (t :: lp :: r1) = .ok (.for_ i t' u b, r10) := by
  rw [parseStmt, dropNl_ne t _ (by rw [h]; decide)]; simp only [h]
  cases i <;> simp [hlp, hh, hs1, ht, hs2, hu, hrp, hb]

theorem pb_end (m outer : Nat) (ts r : List Tok) (t : Tok) (hd : dropNl ts = t :: r) (h : t.k = .RBRACE) :
    parseBody (m + 1) outer ts = .ok (.nil, r) := by
  rw [parseBody, hd]; simp [h]

theorem pb_cons (m outer : Nat) (ts r r1 r2 : List Tok) (t : Tok) (s : Stmt) (l : StmtL) (hd : dropNl ts = t :: r) (h : t.k ≠ .RBRACE)
    (hs : parseStmt m outer (t :: r) = .ok (s, r1)) (hl : parseBody m outer r1 = .ok (l, r2)) (hdr : s.dropped = false) :
    parseBody (m + 1) outer ts = .ok (.cons s l, r2) := by
  rw [parseBody, hd]; simp [h, hs, hl, hdr]

-- writes out `toksS (printS ..)` as a list of tokens
local macro "tk_simp" : tactic => `(tactic| simp only [printS, toksS_append, toksS_tabs, toksS, toksS_ex, kw, sym_semi, sym_lbr, sym_rbr,
  sym_lp, sym_rp, blank, List.nil_append, List.cons_append, List.append_assoc, normS, normO, optEx])

theorem start_all (p : TK → Bool) (hp : startKs.all p = true) (k : TK) (h : k ∈ startKs) : p k = true :=
  List.all_eq_true.mp hp k h

theorem rt_jump {k : TK} {s : Stmt} (h : (k, s) ∈ jumps) : RT s := by
  refine RT.line fun outer d m rest _ => ?_
  have hs : toksS (printS outer d s) = [kwTok k, tSEMI, nlTok] ∧ normS s = s := by
    simp only [jumps, List.mem_cons, List.not_mem_nil, or_false, Prod.mk.injEq] at h
    rcases h with ⟨rfl, rfl⟩ | ⟨rfl, rfl⟩ | ⟨rfl, rfl⟩ | ⟨rfl, rfl⟩ | ⟨rfl, rfl⟩ <;> exact ⟨by tk_simp; try rfl, rfl⟩
  rw [hs.1, hs.2]
  simp only [List.cons_append, List.nil_append]
  rw [ps_jump m outer _ h, endStmt_semi _ _ _ tSEMI_k]

theorem rt_expr (e : Ast) (hw : WFparse e) : RT (.expr e) := by
  refine RT.line fun outer d m rest hn => ?_
  tk_simp
  rw [ps_expr m outer (print_head e hw _) (pExpr_semi e hw _), endStmt_semi _ _ _ tSEMI_k]

theorem optVal_print (v : Option Ast) (hw : WFO v) (rest : List Tok) :
    optVal (toksS (optEx v) ++ tSEMI :: rest) = .ok (normO v, tSEMI :: rest) := by
  cases v with
  | none => simp [optEx, toksS, normO, optVal, show isTermK tSEMI.k = true by rw [tSEMI_k]; rfl]
  | some a =>
    simp only [optEx, toksS_ex, normO]
    have he := pExpr_semi a hw rest
    obtain ⟨t0, r0, e0, hk⟩ := print_head a hw (tSEMI :: rest)
    rw [e0] at he ⊢
    have : isTermK t0.k = false := by simpa using start_all (fun k => !isTermK k) (by decide) _ hk
    simp [optVal, this, he]

theorem rt_valued {k : TK} {mk : Option Ast → Stmt} (h : (k, mk) ∈ valued) (v : Option Ast) (hw : WFO v) : RT (mk v) := by
  refine RT.line fun outer d m rest _ => ?_
  have hs : toksS (printS outer d (mk v)) = kwTok k :: (toksS (optEx v) ++ [tSEMI, nlTok]) ∧ normS (mk v) = mk (normO v) := by
    simp only [valued, List.mem_cons, List.not_mem_nil, or_false, Prod.mk.injEq] at h
    rcases h with ⟨rfl, rfl⟩ | ⟨rfl, rfl⟩ | ⟨rfl, rfl⟩ <;> exact ⟨by cases v <;> (tk_simp; try rfl), rfl⟩
  rw [hs.1, hs.2]
  simp only [List.cons_append, List.append_assoc, List.nil_append]
  rw [ps_valued m outer _ _ _ h (optVal_print v hw _), endStmt_semi _ _ _ tSEMI_k]

theorem rt_whl (c : Ast) (b : Stmt) (hc : WFparse c) (ib : RT b) : RT (.whl c b) := by
  refine RT.of_succ fun outer d m rest hn ho => ?_
  obtain ⟨r', h1, h2⟩ := ib outer (if b.isBlk then d else d + 1) m rest (Nat.le_of_succ_le_succ hn) ho
  refine ⟨r', ?_, h2⟩
  tk_simp
  exact ps_while m outer _ tLP tRP _ _ _ _ _ rfl tLP_k (pExpr_rp c hc _) tRP_k (by rw [ps_nl]; exact h1)

theorem rt_ift (c : Ast) (t : Stmt) (hc : WFparse c) (it : RT t) : RT (.ift c t) := by
  refine RT.of_succ fun outer d m rest hn ho => ?_
  have ho' : k1 (dropNl rest) ≠ some .ELSE := ho rfl
  obtain ⟨r', h1, h2⟩ := it outer (if t.isBlk then d else d + 1) m rest (Nat.le_of_succ_le_succ hn) (fun _ => ho')
  refine ⟨dropNl r', ?_, by rw [dropNl_idem, h2]⟩
  tk_simp
  exact ps_if_noelse m outer _ tLP tRP _ _ _ _ _ rfl tLP_k (pExpr_rp c hc _) tRP_k (by rw [ps_nl]; exact h1) (by rw [h2]; exact ho')

theorem rt_ife (c : Ast) (t e : Stmt) (hc : WFparse c) (hop : openIf t = false) (it : RT t) (ie : RT e) : RT (.ife c t e) := by
  refine RT.of_succ fun outer d m rest hn ho => ?_
  have hn' : sz t + sz e ≤ m := Nat.le_of_succ_le_succ hn
  obtain ⟨r6, h3, h4⟩ := ie outer (if e.isBlk then d else d + 1) m rest (by omega) ho
  obtain ⟨r4, h1, h2⟩ := it outer (if t.isBlk then d else d + 1) m
    (kwTok .ELSE :: nlTok :: (toksS (printS outer (if e.isBlk then d else d + 1) e) ++ rest)) (by omega) (by simp [hop])
  refine ⟨r6, ?_, h4⟩
  tk_simp
  rw [dropNl_ne _ _ (by decide)] at h2
  exact ps_if_else m outer _ tLP tRP (kwTok .ELSE) _ _ _ _ _ _ _ _ rfl tLP_k (pExpr_rp c hc _) tRP_k (by rw [ps_nl]; exact h1) h2 rfl
    (by rw [ps_nl]; exact h3)

theorem rt_dowhl (b : Stmt) (c : Ast) (hc : WFparse c) (ib : RT b) : RT (.dowhl b c) := by
  refine RT.line fun outer d m rest hn => ?_
  obtain ⟨r1, h1, h2⟩ := ib outer (if b.isBlk then d else d + 1) m
    (kwTok .WHILE :: tLP :: (print c ++ tRP :: tSEMI :: nlTok :: rest)) (Nat.le_of_succ_le_succ hn) (by intro _; rw [dropNl_ne _ _ (by decide)]; simp [k1, kwTok])
  tk_simp
  rw [dropNl_ne _ _ (by decide)] at h2
  rw [ps_do m outer _ (kwTok .WHILE) tLP tRP _ _ _ _ _ _ rfl (by rw [ps_nl]; exact h1) h2 rfl tLP_k (pExpr_rp c hc _) tRP_k,
    endStmt_semi _ _ _ tSEMI_k]

theorem stop_notStart_SEMI : TK.SEMICOLON ∉ startKs := by decide
theorem stop_notStart_RP : TK.RPAREN ∉ startKs := by decide

theorem forOpt_print (v : Option Ast) (hw : WFO v) {c : Tok} {k : TK} (hk : c.k = k) (hc : ∀ b, opOK ladderPre (some k) b = true)
    (hs : k ∉ startKs) (hn : k ≠ .NEWLINE) (rest : List Tok) :
    forOpt k (dropNl (toksS (optEx v) ++ c :: rest)) = .ok (normO v, c :: rest) := by
  subst hk
  cases v with
  | none => simp [optEx, toksS, forOpt, headIs, normO, dropNl_ne _ _ hn]
  | some a =>
    simp only [optEx, toksS_ex, normO]
    have he := pExpr_stop a hw c rest hc
    obtain ⟨t0, r0, e0, hk⟩ := print_head a hw (c :: rest)
    rw [e0] at he ⊢
    rw [dropNl_ne _ _ (start_not_newline _ hk)]
    simp [forOpt, headIs, start_ne hk hs, he]

theorem isForinHead_norm (a : Ast) : isForinHead (norm a) = isForinHead a := by
  rw [norm.eq_def]
  split <;> (try split) <;> try rfl
  cases ‹BinOp› <;> simp [isForinHead, norm_isVar]

theorem forin_shape (x : Ast) (h : isForinHead x = true) : ∃ l r, x = .bin .IN l r ∧ l.isVar = true := by
  cases x with
  | bin op l r =>
    cases op <;> simp [isForinHead] at h
    exact ⟨l, r, rfl, h⟩
  | _ => simp [isForinHead] at h

theorem forHead_print (i : Option Ast) (hw : WFO i) (rest : List Tok) :
    forHead (toksS (optEx i) ++ tSEMI :: rest) = .ok (normO i, false, tSEMI :: rest) := by
  cases i with
  | none => simp [optEx, toksS, forHead, headIs, normO, tSEMI_k]
  | some a =>
    simp only [optEx, toksS_ex, normO]
    have he := pExpr_semi a hw rest
    obtain ⟨t0, r0, e0, hk⟩ := print_head a hw (tSEMI :: rest)
    have hfl : (!headIs .LPAREN (print a ++ tSEMI :: rest) && isForinHead (norm a)) = false := by
      cases hf : isForinHead (norm a) with
      | false => simp
      | true =>
        obtain ⟨l, r, rfl, _⟩ := forin_shape a (by rw [← isForinHead_norm]; exact hf)
        simp [print_bin, headIs, tLP_k]
    rw [e0] at he hfl ⊢
    simp only [forHead, headIs, start_ne hk stop_notStart_SEMI, he, Bool.false_eq_true, if_false]
    simp only [headIs] at hfl
    rw [hfl]

theorem rt_for (i t u : Option Ast) (b : Stmt) (hi : WFO i) (ht : WFO t) (hu : WFO u) (ib : RT b) : RT (.for_ i t u b) := by
  refine RT.of_succ fun outer d m rest hn ho => ?_
  obtain ⟨r', h1, h2⟩ := ib outer (if b.isBlk then d else d + 1) m rest (Nat.le_of_succ_le_succ hn) ho
  refine ⟨r', ?_, h2⟩
  simp only [printS, toksS_append, toksS_tabs, toksS, kw, sym_semi, sym_lp, sym_rp, blank, List.nil_append, List.cons_append,
    List.append_assoc, normS]
  exact ps_for m outer _ tLP tSEMI tSEMI tRP _ _ _ _ _ _ _ _ _ rfl tLP_k (forHead_print i hi _) tSEMI_k
    (forOpt_print t ht tSEMI_k stop_SEMI stop_notStart_SEMI (by decide) _) tSEMI_k
    (forOpt_print u hu tRP_k stop_RPAREN stop_notStart_RP (by decide) _) tRP_k
    (by rw [ps_nl]; exact h1)

theorem isVar_print (l : Ast) (hv : l.isVar = true) : ∃ t r, print l = t :: r ∧ t.k = .IDENT := by
  cases l <;> simp [Ast.isVar] at hv
  · exact ⟨_, _, print_var _, rfl⟩
  · exact ⟨_, _, print_idx _ _, rfl⟩

theorem rt_forin (x : Ast) (b : Stmt) (hx : WFparse x) (hf : isForinHead x = true) (ib : RT b) : RT (.forin x b) := by
  refine RT.of_succ fun outer d m rest hn ho => ?_
  obtain ⟨r', h1, h2⟩ := ib outer (if b.isBlk then d else d + 1) m rest (Nat.le_of_succ_le_succ hn) ho
  refine ⟨r', ?_, h2⟩
  obtain ⟨l, r, rfl, hv⟩ := forin_shape x hf
  simp only [WFparse] at hx
  obtain ⟨hwl, hwr, hnf, hin⟩ := hx
  simp only [printS, toksS_append, toksS_tabs, toksS, toksS_ex, kw, blank, List.nil_append, List.cons_append,
    List.append_assoc, normS, print_bin, norm]
  rw [← ps_nl] at h1
  generalize nlTok :: (toksS (printS outer (if b.isBlk then d else d + 1) b) ++ rest) = Y at h1 ⊢
  -- the head `k in a )` is read as one `in` node; it does not begin with a parenthesis, so it is a for-in head
  have hE : pExpr (opnd l ++ binTok .IN :: (opnd r ++ tRP :: Y)) = .ok (.bin .IN (norm l) (norm r), tRP :: Y) := by
    have := bin_read .IN l r hwl hwr hnf (fun _ => hin trivial) (rtA l hwl).1 (rtA r hwr).1 tRP (by rw [tRP_k]; exact stop_RPAREN)
      (opnd l ++ binTok .IN :: (opnd r ++ tRP :: Y)).length Y (by simp; omega) (by simp; omega)
    simpa only [pExpr, List.append_assoc, List.cons_append] using this
  obtain ⟨tl, rl, el, hid⟩ := isVar_print l hv
  rw [← opnd_nonass l (isAss_of_var l (by simp [hv]))] at el
  have hh : forHead (opnd l ++ binTok .IN :: (opnd r ++ tRP :: Y)) = .ok (some (.bin .IN (norm l) (norm r)), true, tRP :: Y) := by
    rw [forHead, hE, el]
    simp [headIs, hid, isForinHead, norm_isVar, hv]
  exact ps_forin m outer _ tLP tRP _ _ _ _ _ rfl tLP_k hh tRP_k h1

def stmtHeadOK (k : TK) : Bool := k != .NEWLINE && k != .RBRACE && k != .ELSE && k != .XLOCAL

theorem head_printS (s : Stmt) (hw : WFS s) (outer d : Nat) :
    ∃ t r, toksS (printS outer d s) = t :: r ∧ stmtHeadOK t.k = true := by
  cases s with
  | expr e =>
    obtain ⟨t0, r0, e0, hk⟩ := print_head e hw [tSEMI, nlTok]
    exact ⟨t0, r0, by tk_simp; exact e0, start_all stmtHeadOK (by decide) _ hk⟩
  | null => exact ⟨tSEMI, _, by simp only [printS, toksS_append, toksS_tabs]; rfl, by rw [tSEMI_k]; rfl⟩
  | blk nl body => exact ⟨tLBR, _, by simp only [printS, toksS_append, toksS_tabs]; rfl, by rw [tLBR_k]; rfl⟩
  | ret v => cases v <;> exact ⟨_, _, by simp only [printS, toksS_append, toksS_tabs]; rfl, by decide⟩
  | exit_ ab v => cases v <;> exact ⟨_, _, by simp only [printS, toksS_append, toksS_tabs]; rfl, by cases ab <;> rfl⟩
  | nextfile f | prt f _ _ => exact ⟨_, _, by simp only [printS, toksS_append, toksS_tabs]; rfl, by cases f <;> rfl⟩
  | _ => exact ⟨_, _, by simp only [printS, toksS_append, toksS_tabs]; rfl, by decide⟩

theorem headOK_parts (k : TK) (h : stmtHeadOK k = true) : k ≠ .NEWLINE ∧ k ≠ .RBRACE ∧ k ≠ .ELSE ∧ k ≠ .XLOCAL := by
  simp only [stmtHeadOK, Bool.and_eq_true, bne_iff_ne, ne_eq] at h
  exact ⟨h.1.1.1, h.1.1.2, h.1.2, h.2⟩

theorem head_printSL (l : StmtL) (hw : WFSL l) (outer d : Nat) (c : Tok) (hc : c.k = .RBRACE) (rest : List Tok) :
    ∃ t r, toksS (printSL outer d l) ++ c :: rest = t :: r ∧ t.k ≠ .NEWLINE ∧ t.k ≠ .ELSE ∧ t.k ≠ .XLOCAL := by
  cases l with
  | nil => exact ⟨c, rest, by simp [printSL, toksS], by rw [hc]; decide, by rw [hc]; decide, by rw [hc]; decide⟩
  | cons s t =>
    simp only [WFSL] at hw
    obtain ⟨t0, r0, e0, hk⟩ := head_printS s hw.1 outer d
    obtain ⟨h1, _, h3, h4⟩ := headOK_parts _ hk
    exact ⟨t0, r0 ++ (toksS (printSL outer d t) ++ c :: rest), by simp only [printSL, toksS_append, e0, List.cons_append, List.append_assoc], h1, h3, h4⟩

theorem bl_done (n cnt : Nat) (t : Tok) (r : List Tok) (h1 : t.k ≠ .NEWLINE) (h2 : t.k ≠ .XLOCAL) :
    blockLocals (n + 1) (t :: r) cnt = .ok (cnt, t :: r) := by
  rw [blockLocals, dropNl_ne _ _ h1]; simp [h2]

theorem bl_nl (n cnt : Nat) (r : List Tok) : blockLocals (n + 1) (nlTok :: r) cnt = blockLocals (n + 1) r cnt := by
  rw [blockLocals, blockLocals, dropNl_nl]

theorem bl_local (n cnt c : Nat) (t : Tok) (r r' : List Tok) (ht : t.k = .XLOCAL) (h : collectLocals n r cnt = .ok (c, r')) :
    blockLocals (n + 1) (t :: r) cnt = blockLocals n r' c := by
  rw [blockLocals, dropNl_ne _ _ (by rw [ht]; decide)]; simp [ht, h]

theorem toks_canonList_one (pre : String) (b : Nat) : toksS (canonList pre b 1) = [canonTok pre b] := rfl
theorem toks_canonList_more (pre : String) (b k : Nat) :
    toksS (canonList pre b (k + 2)) = canonTok pre b :: tCOMMA :: toksS (canonList pre (b + 1) (k + 1)) := by
  simp [canonList, toksS, sym_comma, blank]

theorem canonList_head (pre : String) (b k : Nat) : ∃ r, toksS (canonList pre b (k + 1)) = canonTok pre b :: r := by
  cases k with
  | zero => exact ⟨[], rfl⟩
  | succ j => exact ⟨_, toks_canonList_more pre b j⟩

/-- collect_locals and the parameter loop of parse_function are one loop `name (, name)* stop` with two closing tokens:
    any `F` that steps like it reads a printed name list and counts it -/
theorem collect_canonList (F : Nat → List Tok → Nat → Except Err (Nat × List Tok)) (stop : Tok)
    (hF : ∀ n a b r cnt, F (n + 1) (a :: b :: r) cnt =
      if a.k != .IDENT then .error .syntax else if b.k == stop.k then .ok (cnt + 1, r)
      else if b.k == .COMMA then F n (dropNl r) (cnt + 1) else .error .syntax)
    (hs : (TK.COMMA == stop.k) = false) (pre : String) : ∀ (k b cnt n : Nat) (Y : List Tok),
    (toksS (canonList pre b (k + 1)) ++ stop :: Y).length ≤ n →
    F n (toksS (canonList pre b (k + 1)) ++ stop :: Y) cnt = .ok (cnt + (k + 1), Y)
  | 0, b, cnt, n, Y, hn => by
    rw [toks_canonList_one] at hn ⊢
    obtain ⟨m, rfl⟩ := Nat.exists_eq_add_of_le' (Nat.le_trans (Nat.le_add_left 1 _) hn)
    simp [hF, canonTok]
  | k + 1, b, cnt, n, Y, hn => by
    rw [toks_canonList_more] at hn ⊢
    simp only [List.cons_append, List.length_cons] at hn
    obtain ⟨m, rfl⟩ := Nat.exists_eq_add_of_le' (show 1 ≤ n by omega)
    have ih := collect_canonList F stop hF hs pre k (b + 1) (cnt + 1) m Y (by omega)
    obtain ⟨r, er⟩ := canonList_head pre (b + 1) k
    have hd : dropNl (toksS (canonList pre (b + 1) (k + 1)) ++ stop :: Y) = toksS (canonList pre (b + 1) (k + 1)) ++ stop :: Y := by
      rw [er]; exact dropNl_ne _ _ (by simp [canonTok])
    simp only [List.cons_append, hF]
    simp only [canonTok, tCOMMA_k, hs, hd, ih]
    simp; omega

theorem cl_canonList (pre : String) (k b cnt n : Nat) (Y : List Tok) (hn : (toksS (canonList pre b (k + 1)) ++ tSEMI :: Y).length ≤ n) :
    collectLocals n (toksS (canonList pre b (k + 1)) ++ tSEMI :: Y) cnt = .ok (cnt + (k + 1), Y) :=
  collect_canonList collectLocals tSEMI (fun n a b r cnt => by rw [collectLocals, tSEMI_k]) (by rw [tSEMI_k]; rfl) pre k b cnt n Y hn

theorem lclList_eq : ∀ (n outer : Nat), lclList outer n = canonList "__l" outer n
  | 0, _ => rfl
  | 1, _ => rfl
  | n + 2, outer => by simp only [lclList, canonList, lclList_eq (n + 1)]; rfl

/-- a printed body followed by its closing brace -/
def RTL (l : StmtL) : Prop := ∀ (outer d n : Nat) (c : Tok) (rest : List Tok), szL l ≤ n → c.k = .RBRACE →
  parseBody n outer (toksS (printSL outer d l) ++ c :: rest) = .ok (normSL l, rest)

theorem rt_blk (nl : Nat) (body : StmtL) (hw : WFSL body) (il : RTL body) : RT (.blk nl body) := by
  refine RT.line fun outer d m rest hn => ?_
  have hb := il (outer + nl) (d + 1) m tRBR (nlTok :: rest) (Nat.le_of_succ_le_succ hn) tRBR_k
  obtain ⟨t0, r0, e0, h1, _, h4⟩ := head_printSL body hw (outer + nl) (d + 1) tRBR tRBR_k (nlTok :: rest)
  cases nl with
  | zero =>
    simp only [printS, toksS_append, toksS_tabs, toksS, sym_lbr, sym_rbr, List.nil_append, List.cons_append, List.append_assoc, normS,
      Nat.lt_irrefl, gt_iff_lt, if_false]
    refine ps_lbrace m outer tLBR _ _ _ 0 _ tLBR_k ?_ hb
    rw [bl_nl, e0]; exact bl_done _ _ _ _ h1 h4
  | succ k =>
    simp only [printS, toksS_append, toksS_tabs, toksS, sym_lbr, sym_rbr, sym_semi, kw, blank, List.nil_append, List.cons_append,
      List.append_assoc, normS, gt_iff_lt, Nat.zero_lt_succ, if_true]
    refine ps_lbrace m outer tLBR _ _ _ (k + 1) _ tLBR_k ?_ hb
    rw [bl_nl, lclList_eq, bl_local _ 0 _ (kwTok .XLOCAL) _ _ rfl (cl_canonList "__l" k outer 0 _ _ (by simp; omega))]
    rw [List.length_cons, bl_nl, e0, Nat.zero_add]; exact bl_done _ _ _ _ h1 h4

theorem dropped_norm (s : Stmt) : (normS s).dropped = s.dropped := by
  cases s with
  | blk nl body => cases body <;> simp [normS, normSL, Stmt.dropped]
  | _ => simp [normS, Stmt.dropped]

theorem rtl_nil : RTL .nil := by
  intro outer d n c rest hn hc
  obtain ⟨m, rfl⟩ := Nat.exists_eq_add_of_le' (show 1 ≤ n by rw [szL] at hn; omega)
  simp only [printSL, toksS, List.nil_append, normSL]
  exact pb_end m outer _ rest c (dropNl_ne _ _ (by rw [hc]; decide)) hc

theorem rtl_cons (s : Stmt) (t : StmtL) (hws : WFS s) (hdr : s.dropped = false) (hwt : WFSL t) (is : RT s) (it : RTL t) :
    RTL (.cons s t) := by
  intro outer d n c rest hn hc
  obtain ⟨m, rfl⟩ := Nat.exists_eq_add_of_le' (show 1 ≤ n by rw [szL] at hn; omega)
  have hn' : sz s + szL t ≤ m := Nat.le_of_succ_le_succ hn
  obtain ⟨t1, r1, e1, hn1, he1, _⟩ := head_printSL t hwt outer d c hc rest
  obtain ⟨r', h1, h2⟩ := is outer d m (toksS (printSL outer d t) ++ c :: rest) (by omega)
    (by intro _; rw [e1, dropNl_ne _ _ hn1, k1_cons]; simpa using he1)
  have h3 := it outer d m c rest (by omega) hc
  obtain ⟨t0, r0, e0, hk⟩ := head_printS s hws outer d
  obtain ⟨g1, g2, _, _⟩ := headOK_parts _ hk
  simp only [printSL, toksS_append, List.append_assoc, normSL]
  rw [e0] at h1 ⊢
  simp only [List.cons_append] at h1 ⊢
  refine pb_cons m outer _ _ r' rest t0 (normS s) (normSL t) (dropNl_ne _ _ g1) g2 h1 ?_ (by rw [dropped_norm]; exact hdr)
  rw [pb_dropNl, h2, ← pb_dropNl]; exact h3

theorem del_dispatch (rs : Bool) (v : Ast) (m outer d : Nat) (rest : List Tok) :
    parseStmt (m + 1) outer (toksS (printS outer d (if rs = true then Stmt.reset v else Stmt.del v)) ++ rest)
      = parseDelete rs (print v ++ tSEMI :: nlTok :: rest) := by
  rw [← ps_delete m outer rs]
  cases rs <;> (simp only [Bool.false_eq_true, if_false, if_true]; tk_simp)

theorem semi_prim (rest : List Tok) : noContK .primLv (k1 (tSEMI :: rest)) (k2 (tSEMI :: rest)) = true := by
  rw [k1_cons, tSEMI_k]; exact stop_prim_SEMI _

theorem rt_del_var (rs : Bool) (nm : String) : RT (if rs then .reset (.var nm) else .del (.var nm)) := by
  refine RT.line fun outer d m rest hn => ?_
  rw [del_dispatch, print_var]
  simp only [parseDelete, List.cons_append, List.nil_append, show (TK.IDENT == TK.LPAREN) = false by decide, Bool.false_eq_true, if_false,
    bne_self_eq_false, noPipe_var _ nm _ (semi_prim _)]
  cases rs <;> simp [tSEMI_k, endStmt, normS, norm]

theorem rt_del_idx (nm : String) (ix : AstL) (hw : WFparse (.idx nm ix)) : RT (.del (.idx nm ix)) := by
  refine RT.line fun outer d m rest hn => ?_
  have := del_dispatch false (.idx nm ix) m outer d rest
  simp only [Bool.false_eq_true, if_false] at this
  rw [this, print_idx]
  simp only [WFparse] at hw
  simp only [parseDelete, List.cons_append, List.nil_append, List.append_assoc, show (TK.IDENT == TK.LPAREN) = false by decide,
    Bool.false_eq_true, if_false, bne_self_eq_false]
  rw [noPipe_idx _ nm ix (rtAL ix hw.1) hw.2 _ (semi_prim _)]
  · simp [tSEMI_k, endStmt, normS, norm]
  · simp only [List.length_cons, List.length_append]; omega
theorem rt_del (v : Ast) (hw : WFparse v) (hv : v.isVar = true) : RT (.del v) := by
  cases v with
  | var nm => exact rt_del_var false nm
  | idx nm ix => exact rt_del_idx nm ix hw
  | _ => simp [Ast.isVar] at hv

theorem pExpr_opnd (a : Ast) (hw : WFparse a) (c : Tok) (rest : List Tok) (hc : ∀ b, opOK ladderPre (some c.k) b = true) :
    pExpr (opnd a ++ c :: rest) = .ok (norm a, c :: rest) := by
  have := (rtA a hw).1 ((opnd a ++ c :: rest).length + 1) ladderPre (c :: rest) (by simp; omega) (stop_cons rfl hc _)
  rw [← ladder_split] at this; exact this

theorem dropNl_opnd (a : Ast) (hw : WFparse a) (Y : List Tok) : dropNl (opnd a ++ Y) = opnd a ++ Y := by
  obtain ⟨t0, r0, e0, hk⟩ := opnd_head a hw
  rw [e0]; exact dropNl_ne _ _ (start_not_newline _ hk)

theorem isRedirBin_norm (a : Ast) : isRedirBin (norm a) = isRedirBin a := by
  rw [norm.eq_def]; split <;> (try split) <;> rfl

theorem isGrp_norm (a : Ast) : isGrp (norm a) = isGrp a := by
  rw [norm.eq_def]; split <;> (try split) <;> rfl

theorem splitLast_one (a : Ast) (h : isRedirBin a = false) : splitLast (.cons a .nil) = none := by
  cases a with
  | bin op l r =>
    simp only [isRedirBin] at h
    simp only [splitLast]
    cases hr : redirOfBin op with
    | none => rfl
    | some rd => rw [hr] at h; simp at h
  | _ => rfl

/-- an argument list seen from its end: `i` in front of the last argument `x` -/
def snocL : AstL → Ast → AstL
  | .nil, x => .cons x .nil
  | .cons a t, x => .cons a (snocL t x)

theorem snocL_cons (i : AstL) (x : Ast) : ∃ a t, snocL i x = .cons a t := by cases i <;> exact ⟨_, _, rfl⟩

theorem exists_snocL : ∀ (a : Ast) (l : AstL), ∃ i b, AstL.cons a l = snocL i b
  | a, .nil => ⟨.nil, a, rfl⟩
  | a, .cons b t => by obtain ⟨i, c, e⟩ := exists_snocL b t; exact ⟨.cons a i, c, by rw [e]; rfl⟩

theorem normL_snocL : ∀ (i : AstL) (b : Ast), normL (snocL i b) = snocL (normL i) (norm b)
  | .nil, _ => by simp [snocL, normL]
  | .cons a t, b => by simp [snocL, normL, normL_snocL t b]

theorem WFparseL_snocL : ∀ (i : AstL) (b : Ast), WFparseL (snocL i b) → WFparseL i ∧ WFparse b
  | .nil, _, h => by simp only [snocL, WFparseL] at h; exact ⟨trivial, h.1⟩
  | .cons a t, b, h => by
    simp only [snocL, WFparseL] at h ⊢
    exact ⟨⟨h.1, (WFparseL_snocL t b h.2).1⟩, (WFparseL_snocL t b h.2).2⟩

theorem toks_argList_cons (a : Ast) (t : AstL) (b : Ast) :
    toksS (argList (.cons a (snocL t b))) = opnd a ++ tCOMMA :: toksS (argList (snocL t b)) := by
  obtain ⟨c, u, e⟩ := snocL_cons t b
  rw [e]; simp [argList, toksS_append, toksS_opx, toksS, sym_comma]

theorem splitLast_snocL_none : ∀ (i : AstL) (x : Ast), isRedirBin x = false → splitLast (snocL i x) = none
  | .nil, x, h => splitLast_one x h
  | .cons a t, x, h => by
    obtain ⟨c, u, e⟩ := snocL_cons t x
    have ih := splitLast_snocL_none t x h
    simp only [snocL]
    rw [e] at ih ⊢
    simp only [splitLast, ih]

theorem splitLast_snocL_bin {op : BinOp} {rd : Redir} (h : redirOfBin op = some rd) (l r : Ast) : ∀ (i : AstL),
    splitLast (snocL i (.bin op l r)) = some (snocL i l, rd, r)
  | .nil => by simp [snocL, splitLast, h]
  | .cons a t => by
    obtain ⟨c, u, e⟩ := snocL_cons t (.bin op l r)
    have ih := splitLast_snocL_bin h l r t
    simp only [snocL]
    rw [e] at ih ⊢
    simp only [splitLast, ih]

theorem pp_noargs (t : Tok) (r : List Tok) (h : t.k = .SEMICOLON) : parsePrint false (t :: r) = .ok (.prt false .nil none, r) := by
  simp [parsePrint, isTermK, h, redirOfTok, endStmt]

/-- token segments with matching parentheses, as a grammar: empty, a token that is no parenthesis in front of one, `( a ) b`.
    It is what parse_print's `in_parens` bookkeeping (`closesAtEnd`) needs to know of a printed expression: below an open
    parenthesis such a segment is not seen (`Bal.closes`), and the parenthesis it may begin with closes inside it (`Bal.early`) -/
inductive Bal : List Tok → Prop
  | nil : Bal []
  | tok {t : Tok} {a : List Tok} (h : t.k ≠ .LPAREN ∧ t.k ≠ .RPAREN) (ha : Bal a) : Bal (t :: a)
  | paren {a b : List Tok} (ha : Bal a) (hb : Bal b) : Bal (tLP :: (a ++ tRP :: b))

theorem Bal.app {a b : List Tok} (ha : Bal a) (hb : Bal b) : Bal (a ++ b) := by
  induction ha with
  | nil => exact hb
  | tok h _ ih => exact .tok h ih
  | paren ha' _ _ ih => rw [List.cons_append, List.append_assoc, List.cons_append]; exact .paren ha' ih

theorem Bal.wrap {a : List Tok} (ha : Bal a) : Bal (tLP :: (a ++ [tRP])) := .paren ha .nil
theorem Bal.one {t : Tok} (h : t.k ≠ .LPAREN ∧ t.k ≠ .RPAREN) : Bal [t] := .tok h .nil

theorem Bal.closes {a : List Tok} (ha : Bal a) (d : Nat) (rest : List Tok) :
    closesAtEnd (d + 1) (a ++ rest) = closesAtEnd (d + 1) rest := by
  induction ha generalizing d rest with
  | nil => rfl
  | tok h _ ih => simp only [List.cons_append, closesAtEnd, beq_iff_eq, h.1, h.2, if_false]; exact ih d rest
  | paren _ _ iha ihb =>
    simp only [List.cons_append, List.append_assoc, closesAtEnd, tLP_k, beq_self_eq_true, if_true]
    rw [iha (d + 1)]
    simp only [closesAtEnd, tRP_k, show (TK.RPAREN == TK.LPAREN) = false by decide, Bool.false_eq_true, if_false, beq_self_eq_true, if_true]
    exact ihb d rest

theorem consumed_app (x r : List Tok) : consumed (x ++ r) r = x := by
  simp [consumed]

theorem Bal.early {p : List Tok} (hp : Bal p) (hne : p ≠ []) (X : List Tok) (hX : X ≠ []) (rest : List Tok) :
    inParens (p ++ (X ++ rest)) rest = false := by
  have hc : consumed (p ++ (X ++ rest)) rest = p ++ X := by rw [← List.append_assoc]; exact consumed_app _ _
  simp only [inParens, hc]
  cases hp with
  | nil => exact absurd rfl hne
  | tok h _ => simp [h.1]
  | paren ha hb =>
    simp only [List.cons_append, List.append_assoc, tLP_k, beq_self_eq_true, Bool.true_and]
    rw [ha.closes 0]
    cases X with
    | nil => exact absurd rfl hX
    | cons x xs => simp [closesAtEnd, tRP_k]

theorem key_noparen {β : Type} {l : List (TK × β)} {k : TK} {v : β} (h : (k, v) ∈ l)
    (hl : l.all (fun e => e.1 != .LPAREN && e.1 != .RPAREN) = true) : k ≠ .LPAREN ∧ k ≠ .RPAREN := by
  simpa using List.all_eq_true.mp hl _ h

theorem binTok_noparen (op : BinOp) : (binTok op).k ≠ .LPAREN ∧ (binTok op).k ≠ .RPAREN := key_noparen (bin_lookup op) (by decide)
theorem unrTok_noparen (op : UnrOp) : (unrTok op).k ≠ .LPAREN ∧ (unrTok op).k ≠ .RPAREN :=
  key_noparen (mem_of_lookup (unary_lookup op)) (by decide)
theorem incTok_noparen (op : IncOp) : (incTok op).k ≠ .LPAREN ∧ (incTok op).k ≠ .RPAREN :=
  key_noparen (mem_of_lookup (inc_lookup op)) (by decide)
theorem assTok_noparen (op : AssOp) : (assTok op).k ≠ .LPAREN ∧ (assTok op).k ≠ .RPAREN :=
  key_noparen (mem_of_lookup (assign_lookup op)) (by decide)

theorem k_noparen {t : Tok} {k : TK} (h : t.k = k) (hk : k ≠ .LPAREN ∧ k ≠ .RPAREN := by decide) :
    t.k ≠ .LPAREN ∧ t.k ≠ .RPAREN := h ▸ hk

theorem lit_noparen (k : TK) (h : k ∈ litKinds) : k ≠ .LPAREN ∧ k ≠ .RPAREN := by
  simpa using List.all_eq_true.mp (by decide : litKinds.all (fun k => k != .LPAREN && k != .RPAREN) = true) k h

theorem Bal.opnd (a : Ast) (h : Bal (print a)) : Bal (opnd a) := by
  unfold Hawk.Deparse.opnd; split
  · exact h.wrap
  · exact h

theorem bal_bin (op : BinOp) (l r : Ast) (hl : Bal (print l)) (hr : Bal (print r)) : Bal (opnd l ++ binTok op :: opnd r) :=
  (Bal.opnd l hl).app (.tok (binTok_noparen op) (Bal.opnd r hr))

mutual
theorem balA : (a : Ast) → WFparse a → Bal (print a)
  | .int v (some t), _ => by rw [print_int_some]; exact .one (by simp)
  | .int v none, _ => by
    by_cases hv : v < 0
    · rw [print_int_neg v hv]
      exact Bal.wrap (.tok (k_noparen tMINUS_k) (.one (by simp [natTok])))
    · rw [print_int_nonneg v hv]; exact .one (by simp [natTok])
  | .lit k s, h => by
    rw [print_lit]; simp only [WFparse] at h
    exact .one (lit_noparen k h)
  | .var n, _ => by rw [print_var]; exact .one (by simp)
  | .idx n ix, h => by
    rw [print_idx]; simp only [WFparse] at h
    exact .tok (by simp) (.tok (k_noparen tLB_k) ((balL ix h.1).app (.one (k_noparen tRB_k))))
  | .call n l, h => by
    rw [print_call]; simp only [WFparse] at h
    exact .tok (by simp) (balL l h).wrap
  | .grp l, h => by
    rw [print_grp]; simp only [WFparse] at h
    exact (balL l h.1).wrap
  | .pos e, h => by
    rw [print_pos]; simp only [WFparse] at h
    exact .tok (k_noparen tDOLLAR_k) (balA e h).wrap
  | .bin op l r, h => by
    rw [print_bin]; simp only [WFparse] at h
    exact (bal_bin op l r (balA l h.1) (balA r h.2.1)).wrap
  | .unr op e, h => by
    rw [print_unr]; simp only [WFparse] at h
    exact Bal.wrap (.tok (unrTok_noparen op) (balA e h.1).wrap)
  | .incpre op e, h => by
    rw [print_incpre]; simp only [WFparse] at h
    exact .tok (incTok_noparen op) (balA e h.1).wrap
  | .incpst op e, h => by
    rw [print_incpst]; simp only [WFparse] at h
    exact .paren (balA e h.1) (.one (incTok_noparen op))
  | .cnd c l r, h => by
    rw [print_cnd]; simp only [WFparse] at h
    exact Bal.wrap (.paren (balA c h.1)
      (.tok (k_noparen tQUEST_k) ((balA l h.2.1).app (.tok (k_noparen tCOLON_k) (balA r h.2.2)))))
  | .ass op l r, h => by
    rw [print_ass]; simp only [WFparse] at h
    exact (balA l h.1).app (.tok (assTok_noparen op) (balA r h.2.1))
theorem balL : (l : AstL) → WFparseL l → Bal (printLT l)
  | .nil, _ => by rw [printLT_nil]; exact .nil
  | .cons a .nil, h => by rw [printLT_one]; simp only [WFparseL] at h; exact balA a h.1
  | .cons a (.cons b t), h => by
    rw [printLT_cons]; simp only [WFparseL] at h
    exact (balA a h.1).app (.tok (k_noparen tCOMMA_k) (balL (.cons b t) (by simp only [WFparseL]; exact h.2)))
end

/-- `print (a > b)`: the argument is one parenthesised node, parse_print's `in_parens` is confirmed -/
theorem inParens_redirbin (b : Ast) (hw : WFparse b) (h : isRedirBin b = true) (rest : List Tok) :
    inParens (opnd b ++ rest) rest = true := by
  cases b with
  | bin op l r =>
    simp only [WFparse] at hw
    rw [opnd_nonass (.bin op l r) rfl, print_bin]
    simp only [inParens, consumed_app, tLP_k, beq_self_eq_true, Bool.true_and]
    rw [(bal_bin op l r (balA l hw.1) (balA r hw.2.1)).closes 0 [tRP]]
    simp [closesAtEnd, tRP_k]
  | _ => simp [isRedirBin] at h

/-- parse_print takes a token that begins an expression for the first argument -/
theorem start_print (t : Tok) (hk : t.k ∈ startKs) : isTermK t.k = false ∧ redirOfTok t.k = none ∧ (t.k == TK.LOR) = false := by
  have := start_all (fun k => !isTermK k && ((redirOfTok k).isNone && !(k == TK.LOR))) (by decide) _ hk
  simpa using this

/-- parse_print's loop over the 2nd and later arguments `i, b` where the last one is followed by more text `Y`: every argument
    but the last is read up to its comma; the last one is whatever parse_expr_withdc makes of `opnd b ++ Y`, and the loop reports
    whether that was in parentheses -/
theorem printMore_init {c : Tok} (hc : c.k = .SEMICOLON) (b : Ast) (hb : WFparse b) (Y rest : List Tok) (x : Ast)
    (hx : pExpr (opnd b ++ Y) = .ok (x, c :: rest)) : ∀ (i : AstL), WFparseL i → ∀ (n : Nat),
    (toksS (argList (snocL i b)) ++ Y).length + 2 ≤ n →
    printMore n (tCOMMA :: (toksS (argList (snocL i b)) ++ Y))
      = .ok (snocL (normL i) x, inParens (opnd b ++ Y) (c :: rest), c :: rest)
  | .nil, _, n, hn => by
    obtain ⟨m, rfl⟩ := Nat.exists_eq_add_of_le' (show 2 ≤ n by omega)
    simp [snocL, argList, toksS_opx, printMore, tCOMMA_k, dropNl_opnd b hb, hx, hc, normL]
  | .cons a t, hw, n, hn => by
    obtain ⟨m, rfl⟩ := Nat.exists_eq_add_of_le' (show 1 ≤ n by omega)
    simp only [WFparseL] at hw
    simp only [snocL, toks_argList_cons, List.append_assoc, List.cons_append] at hn ⊢
    have ih := printMore_init hc b hb Y rest x hx t hw.2 m (by simp at hn ⊢; omega)
    have he := pExpr_opnd a hw.1 tCOMMA (toksS (argList (snocL t b)) ++ Y) (by rw [tCOMMA_k]; exact stop_COMMA)
    obtain ⟨c', u, e⟩ := snocL_cons (normL t) x
    simp only [printMore, tCOMMA_k, bne_self_eq_false, Bool.false_eq_true, if_false, dropNl_opnd a hw.1, he, ih, normL, snocL]
    rw [e]

/-- what parse_print makes of its arguments once they are read: a last argument that was not in parentheses is split at a
    redirection operator -/
def pick (g : Bool) (args : AstL) : AstL × Option (Redir × Ast) :=
  if g then (args, none) else
  match splitLast args with
  | some (a', rd, o) => (a', some (rd, o))
  | none => (args, none)

/-- parse_print once the arguments are read (`l`, `gm` from the loop over the 2nd and later ones).  `hp` names the list `pick`
    returns as a `cons`: parse_print's last test (printf without arguments) reduces on a visible `cons` only -/
theorem pp_read {s : Tok} (hs : s.k = .SEMICOLON) {f : Bool} {t0 : Tok} {r0 r1 r2 : List Tok} {a : Ast} (l : AstL) (gm : Bool) (hk : t0.k ∈ startKs)
    (he : pExpr (t0 :: r0) = .ok (a, r1))
    (hm : (if isGrp a then Except.ok (AstL.nil, false, r1) else printMore (r1.length + 1) r1) = .ok (l, gm, s :: r2))
    {c : Ast} {u : AstL} {out : Option (Redir × Ast)} (hp : pick (inpFlag l (t0 :: r0) r1 || gm) (.cons a l) = (.cons c u, out)) :
    parsePrint f (t0 :: r0) = .ok (.prt f (.cons c u) out, r2) := by
  obtain ⟨h1, h2, h3⟩ := start_print t0 hk
  simp only [parsePrint, h1, h2, h3, he, hm]
  simp only [pick] at hp
  cases hc : (inpFlag l (t0 :: r0) r1 || gm) with
  | true =>
    have : (!inpFlag l (t0 :: r0) r1 && !gm) = false := by rw [← Bool.not_or, hc]; rfl
    simp only [hc, if_true, Prod.mk.injEq] at hp
    simp [this, redirOfTok, hs, endStmt, hp.1, ← hp.2]
  | false =>
    have : (!inpFlag l (t0 :: r0) r1 && !gm) = true := by rw [← Bool.not_or, hc]; rfl
    simp only [hc, Bool.false_eq_true, if_false] at hp
    cases hsl : splitLast (.cons a l) with
    | none =>
      simp only [hsl, Prod.mk.injEq] at hp
      simp [this, redirOfTok, hs, endStmt, hp.1, ← hp.2]
    | some p =>
      obtain ⟨a', rd, o⟩ := p
      simp only [hsl, Prod.mk.injEq] at hp
      simp [this, hs, endStmt, hp.1, ← hp.2]

theorem grpAlone_snocL (a : Ast) (t : AstL) (b : Ast) (h : grpAlone (snocL (.cons a t) b)) : isGrp a = false := by
  obtain ⟨c, u, e⟩ := snocL_cons t b
  cases a <;> simp_all [snocL, isGrp, grpAlone]

/-- parse_print on `a1, ..., b Y` where `b Y` is read as one tree `x` up to the `;`: the statement is what `pick` makes of the
    arguments read, `x` last -/
theorem pp_seg (f : Bool) (i : AstL) (b : Ast) (hw : WFparseL (snocL i b)) (hg : grpAlone (snocL i b))
    (Y rest : List Tok) (x : Ast) (hx : pExpr (opnd b ++ Y) = .ok (x, tSEMI :: rest))
    (c : Ast) (u : AstL) (out : Option (Redir × Ast))
    (hp : pick (inParens (opnd b ++ Y) (tSEMI :: rest)) (snocL (normL i) x) = (.cons c u, out)) :
    parsePrint f (toksS (argList (snocL i b)) ++ Y) = .ok (.prt f (.cons c u) out, rest) := by
  obtain ⟨hwi, hwb⟩ := WFparseL_snocL i b hw
  cases i with
  | nil =>
    obtain ⟨t0, r0, e0, hk⟩ := opnd_head b hwb
    simp only [snocL, argList, toksS_opx, normL] at hp ⊢
    rw [e0] at hx hp ⊢
    exact pp_read tSEMI_k .nil false hk hx (by simp [printMore, tSEMI_k]) (by simpa [inpFlag] using hp)
  | cons a t =>
    simp only [WFparseL] at hwi
    obtain ⟨t1, r1, e1, hk1⟩ := opnd_head a hwi.1
    have he := pExpr_opnd a hwi.1 tCOMMA (toksS (argList (snocL t b)) ++ Y) (by rw [tCOMMA_k]; exact stop_COMMA)
    have hm := printMore_init tSEMI_k b hwb Y rest x hx t hwi.2 ((tCOMMA :: (toksS (argList (snocL t b)) ++ Y)).length + 1) (by simp)
    obtain ⟨c', u', e⟩ := snocL_cons (normL t) x
    simp only [snocL, toks_argList_cons, normL, List.append_assoc, List.cons_append] at hp ⊢
    rw [e1] at he ⊢
    refine pp_read tSEMI_k _ _ hk1 he
      (by simp only [isGrp_norm, grpAlone_snocL a t b hg, Bool.false_eq_true, if_false]; exact hm) ?_
    rw [e] at hp ⊢; simpa [inpFlag] using hp

theorem rt_prt (f : Bool) (args : AstL) (hw : WFparseL args) (hf : f = true → args ≠ .nil) (hg : grpAlone args) :
    RT (.prt f args none) := by
  refine RT.line fun outer d m rest hn => ?_
  cases args with
  | nil =>
    obtain rfl : f = false := Bool.eq_false_iff.mpr (fun h => hf h rfl)
    tk_simp
    simp only [Bool.false_eq_true, if_false, normL]
    exact (ps_print m outer false _).trans (pp_noargs _ _ tSEMI_k)
  | cons a l =>
    tk_simp
    obtain ⟨i, b, e⟩ := exists_snocL a l
    rw [e] at hw hg ⊢
    have hwb := (WFparseL_snocL i b hw).2
    obtain ⟨c, u, ec⟩ := snocL_cons (normL i) (norm b)
    rw [normL_snocL, ps_print m outer f, ec]
    refine pp_seg f i b hw hg _ _ (norm b) (pExpr_opnd b hwb tSEMI _ (by rw [tSEMI_k]; exact stop_SEMI)) c u none ?_
    rw [ec]
    -- a last argument that is a `>`, `>>`, `|`, `||` node is confirmed in parentheses; any other leaves nothing to split off
    cases hr : isRedirBin b with
    | true => simp [pick, inParens_redirbin b hwb hr]
    | false => simp [pick, ← ec, splitLast_snocL_none _ _ ((isRedirBin_norm b).trans hr)]

/-- `print (a) > b`: `in_parens` is not confirmed -/
theorem inParens_early (b : Ast) (hw : WFparse b) (X : List Tok) (hX : X ≠ []) (rest : List Tok) :
    inParens (opnd b ++ (X ++ rest)) rest = false := by
  obtain ⟨t, r, e, _⟩ := opnd_head b hw
  exact (Bal.opnd b (balA b hw)).early (by rw [e]; simp) X hX rest

def opOfRedir : Redir → BinOp
  | .file => .GT
  | .apfile => .RS
  | .pipe => .BOR
  | .rwpipe => .LOR

theorem redir_sym (rd : Redir) : symTok rd.str = binTok (opOfRedir rd) := by cases rd <;> decide +kernel
theorem redir_tok (rd : Redir) : redirOfTok (symTok rd.str).k = some rd := by cases rd <;> decide +kernel
theorem redirOfBin_op (rd : Redir) : redirOfBin (opOfRedir rd) = some rd := by cases rd <;> rfl
theorem redir_nofold (rd : Redir) : foldable (opOfRedir rd) = false := by cases rd <;> rfl
theorem redir_notin (rd : Redir) : opOfRedir rd ≠ .IN := by cases rd <;> decide

theorem pExpr_redir (b o : Ast) (hwb : WFparse b) (hwo : WFparse o) (rd : Redir) (rest : List Tok) :
    pExpr (opnd b ++ binTok (opOfRedir rd) :: (opnd o ++ tSEMI :: rest))
      = .ok (.bin (opOfRedir rd) (norm b) (norm o), tSEMI :: rest) := by
  have h := bin_read (opOfRedir rd) b o hwb hwo (by simp [redir_nofold]) (fun h => absurd h (redir_notin rd))
    (rtA b hwb).1 (rtA o hwo).1 tSEMI (by rw [tSEMI_k]; exact stop_SEMI)
    ((opnd b ++ binTok (opOfRedir rd) :: (opnd o ++ tSEMI :: rest)).length) rest (by simp; omega) (by simp; omega)
  simp only [pExpr]
  simpa [List.append_assoc] using h

theorem pp_noargs_redir (rd : Redir) (o : Ast) (hwo : WFparse o) (rest : List Tok) :
    parsePrint false (binTok (opOfRedir rd) :: (opnd o ++ tSEMI :: rest)) = .ok (.prt false .nil (some (rd, norm o)), rest) := by
  have he := pExpr_opnd o hwo tSEMI rest (by rw [tSEMI_k]; exact stop_SEMI)
  have h2 : redirOfTok (binTok (opOfRedir rd)).k = some rd := redir_sym rd ▸ redir_tok rd
  simp [parsePrint, h2, he, tSEMI_k, endStmt]

theorem rt_prt_redir (f : Bool) (args : AstL) (hw : WFparseL args) (hf : f = true → args ≠ .nil) (hg : grpAlone args)
    (rd : Redir) (o : Ast) (hwo : WFparse o) : RT (.prt f args (some (rd, o))) := by
  refine RT.line fun outer d m rest hn => ?_
  cases args with
  | nil =>
    obtain rfl : f = false := Bool.eq_false_iff.mpr (fun h => hf h rfl)
    have hp := pp_noargs_redir rd o hwo (nlTok :: rest)
    tk_simp
    simp only [sym, toksS, toksS_append, toksS_opx, redir_sym, Bool.false_eq_true, if_false, normL, List.append_assoc, List.cons_append, List.nil_append]
    exact (ps_print m outer false _).trans hp
  | cons a l =>
    tk_simp
    simp only [sym, toksS, toksS_append, toksS_opx, redir_sym, List.append_assoc, List.cons_append, List.nil_append]
    obtain ⟨i, b, e⟩ := exists_snocL a l
    rw [e] at hw hg ⊢
    have hwb := (WFparseL_snocL i b hw).2
    obtain ⟨c, u, ec⟩ := snocL_cons (normL i) (norm b)
    rw [normL_snocL, ps_print m outer f, ec]
    -- the last argument and the target are read as one binary node, whose first parenthesis (if any) closes early
    refine pp_seg f i b hw hg _ _ _ (pExpr_redir b o hwb hwo rd (nlTok :: rest)) c u _ ?_
    have hin := inParens_early b hwb (binTok (opOfRedir rd) :: opnd o) (by simp) (tSEMI :: nlTok :: rest)
    simp only [List.cons_append] at hin
    simpa [pick, splitLast_snocL_bin (redirOfBin_op rd), ec] using hin

mutual
theorem rtS : (s : Stmt) → WFS s → RT s
  | .null, _ => rt_null
  | .blk nl body, h => by simp only [WFS] at h; exact rt_blk nl body h (rtSL body h)
  | .ift c t, h => by simp only [WFS] at h; exact rt_ift c t h.1 (rtS t h.2)
  | .ife c t e, h => by simp only [WFS] at h; exact rt_ife c t e h.1 h.2.2.2 (rtS t h.2.1) (rtS e h.2.2.1)
  | .whl c b, h => by simp only [WFS] at h; exact rt_whl c b h.1 (rtS b h.2)
  | .dowhl b c, h => by simp only [WFS] at h; exact rt_dowhl b c h.1 (rtS b h.2)
  | .for_ i t u b, h => by simp only [WFS] at h; exact rt_for i t u b h.1 h.2.1 h.2.2.1 (rtS b h.2.2.2)
  | .forin x b, h => by simp only [WFS] at h; exact rt_forin x b h.1 h.2.1 (rtS b h.2.2)
  | .brk, _ => rt_jump (k := .BREAK) (by simp [jumps])
  | .cont, _ => rt_jump (k := .CONTINUE) (by simp [jumps])
  | .ret v, h => by simp only [WFS] at h; exact rt_valued (k := .RETURN) (by simp [valued]) v h
  | .exit_ ab v, h => by
    simp only [WFS] at h
    cases ab
    · exact rt_valued (k := .EXIT) (by simp [valued]) v h
    · exact rt_valued (k := .XABORT) (by simp [valued]) v h
  | .next, _ => rt_jump (k := .NEXT) (by simp [jumps])
  | .nextfile o, _ => by
    cases o
    · exact rt_jump (k := .NEXTFILE) (by simp [jumps])
    · exact rt_jump (k := .NEXTOFILE) (by simp [jumps])
  | .del v, h => by simp only [WFS] at h; exact rt_del v h.1 h.2
  | .reset v, h => by simp only [WFS] at h; obtain ⟨nm, rfl⟩ := h; exact rt_del_var true nm
  | .prt f args out, h => by
    simp only [WFS] at h
    obtain ⟨h1, h3, h4, h5⟩ := h
    cases out with
    | none => exact rt_prt f args h1 h3 h4
    | some p => obtain ⟨rd, o⟩ := p; exact rt_prt_redir f args h1 h3 h4 rd o h5
  | .expr e, h => by simp only [WFS] at h; exact rt_expr e h
theorem rtSL : (l : StmtL) → WFSL l → RTL l
  | .nil, _ => rtl_nil
  | .cons s t, h => by simp only [WFSL] at h; exact rtl_cons s t h.1 h.2.1 h.2.2 (rtS s h.1) (rtSL t h.2.2)
end

theorem rtS_end (s : Stmt) (h : WFS s) (outer d n : Nat) (hn : sz s ≤ n) :
    ∃ r, parseStmt n outer (toksS (printS outer d s)) = .ok (normS s, r) ∧ dropNl r = [] := by
  simpa [dropNl] using rtS s h outer d n [] hn (by intro _; simp [dropNl, k1])

end Hawk.Deparse
