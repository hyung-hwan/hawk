import HawkModel.SedParse
/-!
  `accepts` is the bookkeeping of hawk_sed_comp (group level, label table) as a predicate on command lists; balance and label
  uniqueness are facts about accepted lists (that `compLoop` returns accepted lists is `compLoop_reads`, HawkModel/SedParseProgress.lean).
  For the label / brace resolution `compile` of HawkModel/Sed.lean: where branch targets point, and that on a well-addressed,
  balanced script with unique labels it can fail only for a missing label.
-/
namespace Hawk.Sed

theorem findLabel_some (l : List SCmd) (name : Str) (idx j : Nat) (h : findLabel l name idx = some j) :
    ∃ i c, j = idx + i ∧ l[i]? = some c ∧ c.op = .label name := by
  fun_induction findLabel l name idx
  case case1 => cases h
  case case2 c _ _ _ hop =>
    cases h
    exact ⟨0, c, rfl, rfl, hop⟩
  case case3 ih | case4 ih =>
    obtain ⟨i, x, rfl, hx, hop⟩ := ih h
    exact ⟨i + 1, x, by omega, hx, hop⟩

theorem matchBrace_some (l : List SCmd) (d idx j : Nat) (h : matchBrace l d idx = some j) :
    ∃ i c, j = idx + i ∧ l[i]? = some c ∧ c.op = .rbrace := by
  fun_induction matchBrace l d idx
  case case1 => cases h
  case case3 c _ _ hop =>
    cases h
    exact ⟨0, c, rfl, rfl, hop⟩
  case case2 ih | case4 ih | case5 ih =>
    obtain ⟨i, x, rfl, hx, hop⟩ := ih h
    exact ⟨i + 1, x, by omega, hx, hop⟩

/-- source commands that come out of the text compiler never carry a resolved branch (`Op.branch` is made by `compile` only) -/
def SCmd.noRawBranch (c : SCmd) : Prop := ∀ t, c.op ≠ .op (.branch t) ∧ c.op ≠ .op (.tbranch t)

theorem compileOne_target (all pre : List SCmd) (c : SCmd) (rest : List SCmd) (k : Cmd)
    (hall : all = pre ++ c :: rest) (hraw : c.noRawBranch)
    (h : compileOne all c rest pre.length = .ok k) (t : Nat) (ht : k.op = .branch t ∨ k.op = .tbranch t) :
    t = all.length ∨ ∃ c', all[t]? = some c' ∧ ((∃ n, c'.op = .label n) ∨ c'.op = .rbrace) := by
  revert h
  fun_cases compileOne all c rest pre.length
  all_goals
    intro h
    cases h
  all_goals simp only [reduceCtorEq, or_self, or_false, false_or, Op.branch.injEq, Op.tbranch.injEq] at ht
  -- `{` is compiled to a branch to its `}` (case7); `b` / `t` go to the end (case9, case10) or to their label (case11, case13)
  case case7 hj =>
    obtain ⟨i, c', rfl, h1, h2⟩ := matchBrace_some _ _ _ _ hj
    subst ht
    refine Or.inr ⟨c', ?_, Or.inr h2⟩
    have e : all = (pre ++ [c]) ++ rest := by simp [hall]
    rw [e, List.getElem?_append_right (by simp)]
    simpa using h1
  case case9 | case10 => exact Or.inl ht.symm
  case case11 hj | case13 hj =>
    obtain ⟨i, c', rfl, h1, h2⟩ := findLabel_some _ _ _ _ hj
    subst ht
    exact Or.inr ⟨c', by simpa using h1, Or.inl ⟨_, h2⟩⟩
  -- any other command keeps its operation, which is no branch by `hraw`
  case case16 o _ hop =>
    rcases ht with e | e
    · exact absurd (by rw [hop, e]) (hraw t).1
    · exact absurd (by rw [hop, e]) (hraw t).2

theorem compileGo_spec (all : List SCmd) (l : List SCmd) :
    ∀ (pre : List SCmd) (p : Prog), all = pre ++ l → (∀ c ∈ l, c.noRawBranch) → compileGo all l pre.length = .ok p →
      p.length = l.length ∧ ∀ k ∈ p, ∀ t, (k.op = .branch t ∨ k.op = .tbranch t) →
        t = all.length ∨ ∃ c', all[t]? = some c' ∧ ((∃ n, c'.op = .label n) ∨ c'.op = .rbrace) := by
  induction l with
  | nil => intro pre p _ _ h; simp [compileGo] at h; subst h; simp
  | cons c rest ih =>
    intro pre p hall hraw h
    unfold compileGo at h
    split at h
    · cases h
    · rename_i k hk
      split at h
      · cases h
      · rename_i ks hks
        cases h
        have hall' : all = (pre ++ [c]) ++ rest := by simp [hall]
        have hlen : (pre ++ [c]).length = pre.length + 1 := by simp
        obtain ⟨h1, h2⟩ := ih (pre ++ [c]) ks hall' (fun x hx => hraw x (List.mem_cons_of_mem _ hx)) (by rw [hlen]; exact hks)
        refine ⟨by simp [h1], ?_⟩
        intro k' hk' t ht
        rcases List.mem_cons.mp hk' with e | e
        · subst e; exact compileOne_target all pre c rest _ hall (hraw c (List.mem_cons_self ..)) hk t ht
        · exact h2 k' e t ht

theorem compile_targets (src : List SCmd) (p : Prog) (hraw : ∀ c ∈ src, c.noRawBranch) (h : compile src = .ok p) :
    p.length = src.length ∧ ∀ k ∈ p, ∀ t, (k.op = .branch t ∨ k.op = .tbranch t) →
      t = src.length ∨ ∃ c', src[t]? = some c' ∧ ((∃ n, c'.op = .label n) ∨ c'.op = .rbrace) := by
  unfold compile at h
  split at h
  · cases h
  · exact compileGo_spec src src [] p (by simp) hraw h

def Op.isBranch : Op → Bool
  | .branch _ => true
  | .tbranch _ => true
  | _ => false

theorem simpleOp_noBranch (c : Char) (t : Nat) : simpleOp c ≠ .branch t ∧ simpleOp c ≠ .tbranch t := by
  have : (simpleOp c).isBranch = false := by
    unfold simpleOp
    simp only [apply_ite Op.isBranch]
    simp [Op.isBranch]
  constructor <;> (intro h; rw [h] at this; simp [Op.isBranch] at this)

theorem toS_noRawBranch (c : PCmd) : c.toS.noRawBranch := by
  intro t
  cases c with | mk a1 a2 neg op =>
  cases op with
  | simple ch => simpa [PCmd.toS, POp.toSOp] using simpleOp_noBranch ch t
  | text | file | branch =>
    simp only [PCmd.toS, POp.toSOp]
    repeat' split
    all_goals simp
  | _ => simp [PCmd.toS, POp.toSOp]

/-- the bookkeeping of hawk_sed_comp on a command list: group level and label table -/
def accepts : List PCmd → Nat → List Str → Bool
  | [], lvl, _ => lvl = 0
  | c :: rest, lvl, labs =>
    match c.op with
    | .lbrace => decide (lvl < maxNest) && accepts rest (lvl + 1) labs
    | .rbrace => decide (lvl > 0) && accepts rest (lvl - 1) labs
    | .label name => !(decide (name ≠ []) && labs.contains name) && accepts rest lvl (if name = [] then labs else name :: labs)
    | _ => accepts rest lvl labs

theorem balanced_cons (c : SCmd) (rest : List SCmd) (d : Nat) :
    balanced (c :: rest) d =
      (if c.op = .lbrace then balanced rest (d + 1)
       else if c.op = .rbrace then (decide (d > 0) && balanced rest (d - 1)) else balanced rest d) := by
  rw [balanced]
  split <;> simp_all

theorem toSOp_eq_lbrace (op : POp) : op.toSOp = .lbrace ↔ op = .lbrace := by
  cases op <;> simp [POp.toSOp]
  split <;> simp

theorem toSOp_eq_rbrace (op : POp) : op.toSOp = .rbrace ↔ op = .rbrace := by
  cases op <;> simp [POp.toSOp]
  split <;> simp

theorem toSOp_eq_label (op : POp) (n : Str) : op.toSOp = .label n ↔ op = .label n := by
  cases op <;> simp [POp.toSOp]
  split <;> simp

theorem accepts_balanced (cs : List PCmd) : ∀ lvl labs, accepts cs lvl labs = true → balanced (cs.map PCmd.toS) lvl = true := by
  induction cs with
  | nil => intro lvl labs h; simpa [accepts, balanced] using h
  | cons c cs ih =>
    intro lvl labs h
    rw [accepts] at h
    simp only [List.map_cons, balanced_cons, PCmd.toS, toSOp_eq_lbrace, toSOp_eq_rbrace]
    split at h
    next hop => simp only [Bool.and_eq_true] at h; simpa [hop] using ih _ _ h.2
    next hop => simp only [Bool.and_eq_true] at h; simpa [hop, h.1] using ih _ _ h.2
    next hop => simp only [Bool.and_eq_true] at h; simpa [hop] using ih _ _ h.2
    next h1 h2 _ => rw [if_neg h1, if_neg h2]; exact ih _ _ h

theorem countLabel_cons (c : SCmd) (rest : List SCmd) (name : Str) :
    countLabel (c :: rest) name = (if c.op = .label name then 1 else 0) + countLabel rest name := by
  unfold countLabel
  by_cases h : c.op = .label name <;> simp [h] <;> omega

/-- tmp.labs of hawk_sed_comp: no non-empty label is defined twice, and none that was already in the table -/
theorem accepts_labels (cs : List PCmd) : ∀ lvl labs, accepts cs lvl labs = true →
    ∀ name, name ≠ [] → countLabel (cs.map PCmd.toS) name + (if name ∈ labs then 1 else 0) ≤ 1 := by
  induction cs with
  | nil => intro lvl labs _ name _; simp [countLabel]; split <;> omega
  | cons c cs ih =>
    intro lvl labs h name hname
    rw [accepts] at h
    simp only [List.map_cons, countLabel_cons, PCmd.toS, toSOp_eq_label]
    split at h
    next hop => simp only [Bool.and_eq_true] at h; simpa [hop] using ih _ _ h.2 name hname
    next hop => simp only [Bool.and_eq_true] at h; simpa [hop] using ih _ _ h.2 name hname
    next nm hop =>
      simp only [Bool.and_eq_true] at h
      have key := ih _ _ h.2 name hname
      by_cases hn : nm = name
      · subst hn
        have hmem : nm ∉ labs := by simpa [hname] using h.1
        simp [hname] at key
        simp [hop, hmem, key]
      · have hne : ¬ c.op = .label name := by rw [hop]; intro e; exact hn (POp.label.inj e)
        have hmem : name ∈ nm :: labs ↔ name ∈ labs := by simp [Ne.symm hn]
        rw [if_neg hne, Nat.zero_add]
        by_cases he : nm = []
        · simpa [he] using key
        · simpa [he, hmem] using key
    next _ _ h3 => rw [if_neg (h3 name), Nat.zero_add]; exact ih _ _ h name hname

/-- the commands that take no address -/
def POp.isMark : POp → Bool
  | .label _ => true
  | .rbrace => true
  | _ => false

theorem toS_mark (c : PCmd) (h : (∃ n, c.toS.op = .label n) ∨ c.toS.op = .rbrace) : c.op.isMark = true := by
  simp only [PCmd.toS, toSOp_eq_label, toSOp_eq_rbrace] at h
  rcases h with ⟨n, hn⟩ | hr
  · rw [hn]; rfl
  · rw [hr]; rfl

/-- `get_command` by command class: it fails with one of its own five errors, or returns `{` / `}` as they are, or is one
    of the argument readers (for `:` and `}` only without a first address) -/
theorem getCommand_cases {tr : Traits} {hasA1 hasA2 : Bool} {c : Char} {r : Str} {x : Except PErr (POp × Str)}
    (h : getCommand tr hasA1 hasA2 (c :: r) = x) :
    (∃ e, e ∈ [PErr.ECMDMS, .EA1PHB, .EA2PHB, .unsupported, .ECMDNR] ∧ .error e = x) ∨
    (hasA1 = false ∧ (getLabel tr r).map (fun p => (.label p.1, p.2)) = x) ∨
    .ok (.lbrace, r) = x ∨
    (hasA1 = false ∧ .ok (.rbrace, r) = x) ∨
    (terminate r).map (fun r' => (.simple c, r')) = x ∨
    (getBranchTarget r).map (fun p => (.branch c p.1, p.2)) = x ∨
    (getFile r).map (fun p => (.file c p.1, p.2)) = x ∨
    getTextCmd tr c r = x ∨
    getSubst r = x ∨
    getTranset r = x := by
  subst h
  rw [getCommand]
  by_cases h1 : c = '\n'
  · rw [if_pos h1]
    simp
  rw [if_neg h1]
  by_cases h2 : c = ':'
  · rw [if_pos h2]
    cases hasA1
    · right; left; refine ⟨rfl, ?_⟩; cases getLabel tr r <;> rfl
    · simp
  rw [if_neg h2]
  by_cases h3 : c = '{'
  · rw [if_pos h3]
    simp
  rw [if_neg h3]
  by_cases h4 : c = '}'
  · rw [if_pos h4]
    cases hasA1 <;> simp
  rw [if_neg h4]
  by_cases h5 : c = 'q' ∨ c = 'Q' ∨ c = '='
  · rw [if_pos h5]
    split
    · simp
    · right; right; right; right; left; cases terminate r <;> rfl
  rw [if_neg h5]
  by_cases h6 : c = 'a' ∨ c = 'i'
  · rw [if_pos h6]
    split <;> simp
  rw [if_neg h6]
  by_cases h7 : c = 'c'
  · rw [if_pos h7]
    simp
  rw [if_neg h7]
  by_cases h8 : simpleCmds.contains c = true
  · rw [if_pos h8]
    right; right; right; right; left; cases terminate r <;> rfl
  rw [if_neg h8]
  by_cases h9 : c = 'b' ∨ c = 't'
  · rw [if_pos h9]
    right; right; right; right; right; left; cases getBranchTarget r <;> rfl
  rw [if_neg h9]
  by_cases h10 : c = 'r' ∨ c = 'R' ∨ c = 'w' ∨ c = 'W'
  · rw [if_pos h10]
    right; right; right; right; right; right; left; cases getFile r <;> rfl
  rw [if_neg h10]
  by_cases h11 : c = 's'
  · rw [if_pos h11]
    simp
  rw [if_neg h11]
  by_cases h12 : c = 'y'
  · rw [if_pos h12]
    simp
  rw [if_neg h12]
  split <;> simp

theorem toAddr_line0 (a : PAddr) : a.toAddr = .line 0 ↔ a = .line 0 := by
  cases a <;> simp [PAddr.toAddr]

theorem toAddr_none (a : PAddr) : a.toAddr = .none ↔ a = .none := by
  cases a <;> simp [PAddr.toAddr]

/-- what hawk_sed_comp guarantees about the addresses of every command it accepts -/
def PCmd.wellAddressed (c : PCmd) : Prop :=
  c.a1 ≠ .line 0 ∧ (c.a1 = .none → c.a2 = .none) ∧ (c.op.isMark = true → c.a1 = .none)

/-- the addresses satisfy the checks of `compileOne`: what `PCmd.wellAddressed` becomes under `toS` (`wellAddressed_good`, Props/C18.lean) -/
def SCmd.good (c : SCmd) : Prop :=
  addrOk c = true ∧ (((∃ n, c.op = .label n) ∨ c.op = .rbrace) → c.a1 = .none)

theorem balanced_matchBrace (l : List SCmd) (depth d idx : Nat) (h : balanced l (d + depth + 1) = true) :
    (matchBrace l depth idx).isSome = true := by
  fun_induction matchBrace l depth idx generalizing d
  case case1 => simp [balanced] at h
  case case3 => rfl
  case case2 hop ih =>
    rw [balanced_cons, if_pos hop] at h
    exact ih d h
  case case4 depth _ hop hd ih =>
    simp [balanced_cons, hop] at h
    exact ih d (by rwa [show d + (depth - 1) + 1 = d + depth by omega])
  case case5 h1 h2 ih =>
    rw [balanced_cons, if_neg h1, if_neg h2] at h
    exact ih d h

theorem compileOne_ok_or_noLabel (all : List SCmd) (c : SCmd) (rest : List SCmd) (idx : Nat)
    (hgood : c.good) (hbal : ∃ d, balanced (c :: rest) d = true)
    (hlab : ∀ name, name ≠ [] → countLabel all name ≤ 1) :
    (∃ k, compileOne all c rest idx = .ok k) ∨ compileOne all c rest idx = .error .noLabel := by
  obtain ⟨hok, hmark⟩ := hgood
  obtain ⟨d, hd⟩ := hbal
  fun_cases compileOne all c rest idx
  -- each error of `compileOne` other than `noLabel` contradicts one of the hypotheses
  case case1 h => simp [hok] at h
  case case2 name hop h => simp [hmark (Or.inl ⟨name, hop⟩)] at h
  case case3 name hop _ h =>
    have := hlab name h.1
    omega
  case case5 hop h => simp [hmark (Or.inr hop)] at h
  case case8 hop hnone =>
    rw [balanced_cons] at hd
    simp [hop] at hd
    have := balanced_matchBrace rest 0 d (idx + 1) (by simpa using hd)
    simp [hnone] at this
  all_goals simp

theorem compileGo_ok_or_noLabel (all : List SCmd) (l : List SCmd) :
    ∀ idx, (∀ c ∈ l, c.good) → (∃ d, balanced l d = true) → (∀ name, name ≠ [] → countLabel all name ≤ 1) →
      (∃ p, compileGo all l idx = .ok p) ∨ compileGo all l idx = .error .noLabel := by
  induction l with
  | nil => intro idx _ _ _; simp [compileGo]
  | cons c rest ih =>
    intro idx hgood hbal hlab
    have hrest : ∃ d, balanced rest d = true := by
      obtain ⟨d, hd⟩ := hbal
      rw [balanced_cons] at hd
      split at hd
      · exact ⟨_, hd⟩
      · split at hd
        · simp at hd; exact ⟨_, hd.2⟩
        · exact ⟨_, hd⟩
    unfold compileGo
    rcases compileOne_ok_or_noLabel all c rest idx (hgood c (List.mem_cons_self ..)) hbal hlab with ⟨k, hk⟩ | hk
    · rw [hk]
      rcases ih (idx + 1) (fun x hx => hgood x (List.mem_cons_of_mem _ hx)) hrest hlab with ⟨p, hp⟩ | hp
      · rw [hp]; simp
      · rw [hp]; simp
    · rw [hk]; simp

theorem compile_ok_or_noLabel (src : List SCmd) (hg : ∀ c ∈ src, c.good) (hb : balanced src 0 = true)
    (hl : ∀ name, name ≠ [] → countLabel src name ≤ 1) : (∃ p, compile src = .ok p) ∨ compile src = .error .noLabel := by
  rw [compile, hb]
  exact compileGo_ok_or_noLabel src src 0 hg ⟨0, hb⟩ hl

end Hawk.Sed
