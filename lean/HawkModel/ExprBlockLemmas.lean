import HawkModel.ExprLemmas
import HawkModel.ExprBlock

/-! The flat frame with `run_block0`'s reset simulates lexically scoped locals: `block_sim`, for any family of relations
that is a `BlockRel`. Its second instance (`BRelCallee`) serves a by-reference call whose body is a block program
(`evalCallByRefBlk`): the callee has its parameters as the non-locals (`argπ`) and leaves the named variables and the
globals as the caller sees them. -/

namespace Hawk.Expr
open FloatOps

variable {F : Type} [FloatOps F]

/-- a reference the parser can resolve in context `ctx`: a local of an open block, or a non-local -/
def InScope (ctx : PCtx) : SRef → Prop
  | .loc up idx => ∃ o k, ctx[up]? = some (o, k) ∧ idx < k
  | .oth _ => True

/-- contexts that `parse_block` can build: every block starts where the enclosing one ends -/
def Chain : PCtx → Prop
  | [] => True
  | (o, _) :: rest => o = lclsSize rest ∧ Chain rest

theorem chain_le {ctx : PCtx} (hc : Chain ctx) {up o k : Nat} (h : ctx[up]? = some (o, k)) :
    o + k ≤ lclsSize ctx := by
  induction ctx generalizing up with
  | nil => simp at h
  | cons hd rest ih =>
    obtain ⟨oh, kh⟩ := hd
    cases up with
    | zero =>
      simp at h
      obtain ⟨rfl, rfl⟩ := h
      simp [lclsSize]
    | succ u =>
      have := ih hc.2 (by simpa using h)
      have := hc.1
      simp only [lclsSize]
      omega

theorem chain_lt {ctx : PCtx} (hc : Chain ctx) {up up' o k o' k' : Nat} (h : ctx[up]? = some (o, k))
    (h' : ctx[up']? = some (o', k')) (hlt : up < up') : o' + k' ≤ o := by
  induction ctx generalizing up up' with
  | nil => simp at h
  | cons hd rest ih =>
    obtain ⟨oh, kh⟩ := hd
    cases up' with
    | zero => omega
    | succ u' =>
      simp at h'
      cases up with
      | zero =>
        simp at h
        obtain ⟨rfl, rfl⟩ := h
        have := chain_le hc.2 h'
        have := hc.1
        omega
      | succ u => exact ih hc.2 (by simpa using h) h' (by omega)

theorem slotOf_eq (ctx : PCtx) (up idx o k : Nat) (h : ctx[up]? = some (o, k)) : slotOf ctx up idx = o + idx := by
  simp [slotOf, List.getD_eq_getElem?_getD, h]

theorem slot_inj (ctx : PCtx) (hc : Chain ctx) (up idx up' idx' : Nat)
    (h : InScope ctx (.loc up idx)) (h' : InScope ctx (.loc up' idx'))
    (hs : slotOf ctx up idx = slotOf ctx up' idx') : up = up' ∧ idx = idx' := by
  obtain ⟨o, k, hk, hi⟩ := h
  obtain ⟨o', k', hk', hi'⟩ := h'
  rw [slotOf_eq ctx up idx o k hk, slotOf_eq ctx up' idx' o' k' hk'] at hs
  rcases Nat.lt_trichotomy up up' with hlt | heq | hgt
  · have := chain_lt hc hk hk' hlt
    omega
  · subst heq
    cases hk.symm.trans hk'
    exact ⟨rfl, by omega⟩
  · have := chain_lt hc hk' hk hgt
    omega

theorem modifyAt_eq {α : Type} (g : α → α) : ∀ (l : List α) (n : Nat), modifyAt g l n = l.modify n g
  | [], _ => by simp [modifyAt]
  | _ :: _, 0 => rfl
  | a :: as, n + 1 => congrArg (a :: ·) (modifyAt_eq g as n)

/-- the value a source reference denotes in the scoped state -/
def den (s : SState F) : SRef → Val F
  | .loc up idx => (s.2.getD up nilFrame) idx
  | .oth i => s.1 i

omit [FloatOps F] in
theorem scoped_write (s : SState F) (r : SRef) (v : Val F) :
    ∃ s', (scopedStorage (F := F)).write r v s = .ok s' ∧ s'.2.length = s.2.length ∧
      (∀ r', r' ≠ r → den s' r' = den s r') ∧
      ∀ ctx, s.2.length = ctx.length → InScope ctx r → den s' r = v := by
  cases r with
  | loc up idx =>
    refine ⟨_, rfl, by simp [modifyAt_eq], fun r' hne => ?_, fun ctx hl hin => ?_⟩
    · cases r' with
      | loc up' idx' =>
        simp only [den, modifyAt_eq, List.getD_eq_getElem?_getD, List.getElem?_modify]
        by_cases hu : up = up'
        · subst hu
          have : idx' ≠ idx := fun h => hne (by rw [h])
          cases s.2[up]? <;> simp [frameSet, this]
        · cases s.2[up']? <;> simp [hu]
      | oth j => rfl
    · obtain ⟨o, k, hk, _⟩ := hin
      have hup : up < s.2.length := hl ▸ (List.getElem?_eq_some_iff.mp hk).1
      simp [den, modifyAt_eq, List.getD_eq_getElem?_getD, List.getElem?_eq_getElem hup, frameSet]
  | oth i =>
    refine ⟨_, rfl, rfl, fun r' hne => ?_, fun _ _ _ => by simp [den, Store.set]⟩
    cases r' with
    | loc up' idx' => rfl
    | oth j =>
      have : j ≠ i := fun h => hne (by rw [h])
      simp [den, Store.set, this]

/-- a placement of the non-locals that stays away from the frame of locals -/
def OffFrame (ρ : Nat → Ref) : Prop := ∀ i n, (ρ i).base ≠ .lcl n

/-- the flat frame stores what the scoped state says, for every reference in scope.
Nothing is said about the slots at or above `lclsSize ctx`: they hold whatever earlier blocks left there. -/
def BRel (ρ : Nat → Ref) (ctx : PCtx) (env : Env F) (s : SState F) : Prop :=
  s.2.length = ctx.length ∧ ∀ r, InScope ctx r → Good env (resolve ρ ctx r) (den s r)

omit [FloatOps F] in
theorem brel_nil {ρ : Nat → Ref} {env : Env F} {σ : Store F} (h : Holds ρ env σ) : BRel ρ [] env (σ, []) := by
  refine ⟨rfl, fun r hr => ?_⟩
  cases r with
  | loc up idx => obtain ⟨o, k', hk, _⟩ := hr; simp at hk
  | oth i => exact h i

omit [FloatOps F] in
theorem BRel.holds {ρ : Nat → Ref} {ctx : PCtx} {env : Env F} {s : SState F} (h : BRel ρ ctx env s) :
    Holds ρ env s.1 :=
  fun i => h.2 (.oth i) trivial

omit [FloatOps F] in
theorem indep_resolve (ρ : Nat → Ref) (hρ : NoAlias ρ) (hoff : OffFrame ρ) (ctx : PCtx) (hc : Chain ctx)
    (r r' : SRef) (h : InScope ctx r) (h' : InScope ctx r') (hne : r ≠ r') :
    Indep (resolve ρ ctx r) (resolve ρ ctx r') := by
  cases r with
  | loc up idx =>
    cases r' with
    | loc up' idx' =>
      simp only [resolve, Indep, Ref.base]
      intro heq
      injection heq with heq
      have := slot_inj ctx hc up idx up' idx' h h' heq
      exact hne (by rw [this.1, this.2])
    | oth j =>
      simp only [resolve, Indep]
      exact fun heq => hoff j _ heq.symm
  | oth i =>
    cases r' with
    | loc up' idx' =>
      simp only [resolve]
      have hb := hoff i (slotOf ctx up' idx')
      cases hr : ρ i with
      | plain b | idx b k => rw [hr] at hb; simpa [Indep, Ref.base] using hb
    | oth j =>
      simp only [resolve]
      exact hρ i j (fun heq => hne (by rw [heq]))

theorem access_resolved (X : Ext F) (ρ : Nat → Ref) (hρ : NoAlias ρ) (hoff : OffFrame ρ) (ctx : PCtx) (hc : Chain ctx)
    (r : SRef) (hr : InScope ctx r) :
    Access (envStorage X) (scopedStorage (F := F)) (BRel ρ ctx) (resolve ρ ctx r) r := by
  constructor
  · intro env s h
    obtain ⟨e', h1, h2, h3⟩ := envRead_good env (resolve ρ ctx r) (den s r) (h.2 r hr)
    have hread : (scopedStorage (F := F)).read r s = .ok (den s r, s) := by
      cases r <;> rfl
    rw [hread]
    refine ⟨(_, e'), h1, rfl, h.1, fun r' hr' => ?_⟩
    by_cases heq : r' = r
    · subst heq; exact h2
    · exact h3 _ _ (indep_resolve ρ hρ hoff ctx hc r r' hr hr' (Ne.symm heq)) (h.2 r' hr')
  · intro v env s h
    obtain ⟨e', h1, h2, h3⟩ := envWrite_good X.flexmap env (resolve ρ ctx r) (den s r) v (h.2 r hr)
    obtain ⟨s', hs', hlen, hne, hsame⟩ := scoped_write s r v
    rw [hs']
    refine ⟨e', h1, hlen.trans h.1, fun r' hr' => ?_⟩
    by_cases heq : r' = r
    · subst heq
      rw [hsame ctx h.1 hr]
      exact h2
    · rw [hne r' heq]
      exact h3 _ _ (indep_resolve ρ hρ hoff ctx hc r r' hr hr' (Ne.symm heq)) (h.2 r' hr')

omit [FloatOps F] in
theorem top_resetLcls (e : Env F) (lo hi : Nat) (b : Base) (hb : ∀ n, b ≠ .lcl n) :
    (resetLcls e lo hi).top b = e.top b := by
  cases b with
  | lcl n => exact absurd rfl (hb n)
  | _ => rfl

omit [FloatOps F] in
theorem resetLcls_empty (e : Env F) (o : Nat) : resetLcls e o o = e := by
  cases e
  simp only [resetLcls]
  congr
  funext j
  exact if_neg (by omega)

omit [FloatOps F] in
/-- Resetting the slots from `outer_nlcls` up to at least `outer_nlcls + org_nlcls` (the outermost block goes up to
`nlcls_max`) makes the flat frame store a fresh all-nil scoped frame on top of the enclosing ones, whatever the slots held
before. -/
theorem brel_enter (ρ : Nat → Ref) (hoff : OffFrame ρ) (ctx : PCtx) (hc : Chain ctx) (k hi : Nat)
    (hhi : lclsSize ctx + k ≤ hi) (env : Env F) (s : SState F) (h : BRel ρ ctx env s) :
    BRel ρ ((lclsSize ctx, k) :: ctx) (resetLcls env (lclsSize ctx) hi) (s.1, nilFrame :: s.2) := by
  refine ⟨by simp [h.1], fun r hr => ?_⟩
  cases r with
  | loc up idx =>
    obtain ⟨o, k', hk, hi'⟩ := hr
    cases up with
    | zero =>
      simp at hk
      obtain ⟨rfl, rfl⟩ := hk
      have : lclsSize ctx ≤ slotOf ((lclsSize ctx, k) :: ctx) 0 idx ∧ slotOf ((lclsSize ctx, k) :: ctx) 0 idx < hi := by
        simp [slotOf]; omega
      simp [resolve, good_plain, Env.top, resetLcls, this, den, nilFrame]
    | succ u =>
      simp at hk
      have hg := h.2 (.loc u idx) ⟨o, k', hk, hi'⟩
      have hs : slotOf ((lclsSize ctx, k) :: ctx) (u + 1) idx = slotOf ctx u idx := by simp [slotOf]
      have := chain_le hc hk
      have hno : ¬ (lclsSize ctx ≤ o + idx ∧ o + idx < hi) := by omega
      simpa [resolve, hs, slotOf_eq ctx u idx o k' hk, good_plain, Env.top, resetLcls, hno, den] using hg
  | oth i =>
    exact (h.2 (.oth i) trivial).of_top (top_resetLcls env _ _ _ (hoff i))

omit [FloatOps F] in
/-- the environment is left as it is: the dead slots stay as garbage, about which `BRel` says nothing -/
theorem brel_exit (ρ : Nat → Ref) (ctx : PCtx) (o k : Nat) (env : Env F) (s : SState F)
    (h : BRel ρ ((o, k) :: ctx) env s) : BRel ρ ctx env (s.1, s.2.tail) := by
  obtain ⟨hl, hg⟩ := h
  obtain ⟨σ, fr⟩ := s
  cases fr with
  | nil => simp at hl
  | cons a t =>
    refine ⟨by simpa using hl, fun r hr => ?_⟩
    cases r with
    | loc up idx =>
      obtain ⟨o', k', hk, hi⟩ := hr
      have hin : InScope ((o, k) :: ctx) (.loc (up + 1) idx) := ⟨o', k', by simpa using hk, hi⟩
      simpa [resolve, slotOf, den] using hg _ hin
    | oth i => exact hg (.oth i) trivial

/-- same trace and related states, or the same error -/
abbrev SimS (Rel : Env F → SState F → Prop) :
    Except Err (Env F × List (Val F)) → Except Err (SState F × List (Val F)) → Prop :=
  Lift fun (env, tr₂) (s, tr₁) => tr₂ = tr₁ ∧ Rel env s

omit [FloatOps F] in
theorem SimS.bind {Rel : Env F → SState F → Prop} {A₁ A₂ : Type} {Q : A₂ → A₁ → Prop}
    {r₂ : Except Err (Env F × List (Val F))} {r₁ : Except Err (SState F × List (Val F))}
    {f₂ : Env F × List (Val F) → Except Err A₂} {f₁ : SState F × List (Val F) → Except Err A₁}
    (h : SimS Rel r₂ r₁) (hf : ∀ env s tr, Rel env s → Lift Q (f₂ (env, tr)) (f₁ (s, tr))) :
    Lift Q (r₂ >>= f₂) (r₁ >>= f₁) :=
  Lift.bind h fun (env, tr) (s, _) ⟨rfl, hr⟩ => hf env s tr hr

omit [FloatOps F] in
theorem iter_sim {A₁ A₂ : Type} {Q : A₂ → A₁ → Prop} (f₂ : A₂ → Except Err A₂) (f₁ : A₁ → Except Err A₁)
    (hf : ∀ a₂ a₁, Q a₂ a₁ → Lift Q (f₂ a₂) (f₁ a₁)) (n : Nat) (a₂ : A₂) (a₁ : A₁) (h : Q a₂ a₁) :
    Lift Q (iter n f₂ a₂) (iter n f₁ a₁) := by
  induction n generalizing a₂ a₁ with
  | zero => exact Lift.ok h
  | succ m ih => exact Lift.bind (hf a₂ a₁ h) ih

/-- every expression refers only to variables the parser can resolve where the expression stands -/
def SStmt.WS : SStmt F → PCtx → Prop
  | .skip, _ => True
  | .ex e, ctx => e.AllRefs (InScope ctx)
  | .seq a b, ctx => a.WS ctx ∧ b.WS ctx
  | .blk k body, ctx => body.WS ((lclsSize ctx, k) :: ctx)
  | .rep _ b, ctx => b.WS ctx
  | .ite c t f, ctx => c.AllRefs (InScope ctx) ∧ t.WS ctx ∧ f.WS ctx

/-- what the block simulation needs from a family of relations indexed by the parser context -/
structure BlockRel (X : Ext F) (ρ : Nat → Ref) (R : PCtx → Env F → SState F → Prop) : Prop where
  access : ∀ ctx, Chain ctx → ∀ r, InScope ctx r →
    Access (envStorage X) (scopedStorage (F := F)) (R ctx) (resolve ρ ctx r) r
  /-- `hi` is any bound from the end of the block's locals upwards: the outermost block resets up to `nlcls_max` -/
  enter : ∀ ctx, Chain ctx → ∀ k hi, lclsSize ctx + k ≤ hi → ∀ env s, R ctx env s →
    R ((lclsSize ctx, k) :: ctx) (resetLcls env (lclsSize ctx) hi) (s.1, nilFrame :: s.2)
  exit : ∀ ctx o k env s, R ((o, k) :: ctx) env s → R ctx env (s.1, s.2.tail)

theorem blockRel_BRel (X : Ext F) (ρ : Nat → Ref) (hρ : NoAlias ρ) (hoff : OffFrame ρ) : BlockRel X ρ (BRel ρ) :=
  ⟨access_resolved X ρ hρ hoff, brel_enter ρ hoff, brel_exit ρ⟩

omit [FloatOps F] in
theorem sim_exit {R R' : Env F → SState F → Prop} {r₂ : Except Err (Env F × List (Val F))}
    {r₁ : Except Err (SState F × List (Val F))} (hb : SimS R' r₂ r₁)
    (hexit : ∀ env s, R' env s → R env (s.1, s.2.tail)) :
    SimS R r₂ (do let (st', tr') ← r₁; pure ((st'.1, st'.2.tail), tr')) := by
  rw [← bind_pure r₂]
  exact SimS.bind hb fun env' s' _ h' => Lift.ok ⟨rfl, hexit env' s' h'⟩

theorem block_sim (X : Ext F) (ρ : Nat → Ref) {R : PCtx → Env F → SState F → Prop} (H : BlockRel X ρ R)
    (s : SStmt F) (ctx : PCtx) (hc : Chain ctx) (hws : s.WS ctx) (env : Env F) (st : SState F) (tr : List (Val F))
    (h : R ctx env st) : SimS (R ctx) (run X (compile ρ s ctx) (env, tr)) (srun X s (st, tr)) := by
  induction s generalizing ctx env st tr with
  | skip => exact Lift.ok ⟨rfl, h⟩
  | ex e =>
    simp only [compile, run, srun]
    exact Sim.bind (eval_sim_on X (H.access ctx hc) e hws env st h) fun v env' s' h' => Lift.ok ⟨rfl, h'⟩
  | seq a b iha ihb =>
    simp only [compile, run, srun]
    exact SimS.bind (iha ctx hc hws.1 env st tr h) fun env' s' tr' h' => ihb ctx hc hws.2 env' s' tr' h'
  | blk k body ih =>
    have hrun : run X (compile ρ (.blk k body) ctx) (env, tr) =
        run X (compile ρ body ((lclsSize ctx, k) :: ctx)) (resetLcls env (lclsSize ctx) (lclsSize ctx + k), tr) := by
      by_cases hk : k = 0
      · subst hk
        simp [compile, run, resetLcls_empty]
      · simp [compile, run, Ne.symm hk]
    rw [hrun]
    have hc' : Chain ((lclsSize ctx, k) :: ctx) := ⟨rfl, hc⟩
    exact sim_exit (ih _ hc' hws _ _ tr (H.enter ctx hc k _ (Nat.le_refl _) env st h)) (H.exit ctx _ _)
  | rep n body ih =>
    simp only [compile, run, srun]
    exact iter_sim _ _ (fun (env', tr') (s', _) ⟨rfl, h'⟩ => ih ctx hc hws env' s' tr' h') n _ _ ⟨rfl, h⟩
  | ite c t f iht ihf =>
    simp only [compile, run, srun]
    refine Sim.bind (eval_sim_on X (H.access ctx hc) c hws.1 env st h) fun v env' s' h' => ?_
    cases toBool v
    · exact ihf ctx hc hws.2.2 env' s' tr h'
    · exact iht ctx hc hws.2.1 env' s' tr h'

/-- the outermost block: pushing `nlcls_max` nils sets up the frame, from ANY previous content of the stack -/
theorem block_top_sim (X : Ext F) (ρ : Nat → Ref) {R : PCtx → Env F → SState F → Prop} (H : BlockRel X ρ R)
    (k : Nat) (body : SStmt F) (hws : body.WS [(0, k)]) (env : Env F) (σ : Store F) (tr : List (Val F))
    (h0 : R [] env (σ, [])) :
    SimS (R []) (run X (compileTop ρ k body) (env, tr)) (srun X (.blk k body) ((σ, []), tr)) := by
  have hrun : ∃ hi, k ≤ hi ∧ run X (compileTop ρ k body) (env, tr) =
      run X (compile ρ body [(0, k)]) (resetLcls env 0 hi, tr) := by
    by_cases hN : max k (maxLcls body [(0, k)]) > 0
    · exact ⟨max k (maxLcls body [(0, k)]), by omega, by simp [compileTop, run, hN]⟩
    · have hk : k = 0 := by omega
      subst hk
      have hm' : maxLcls body [(0, 0)] = 0 := by omega
      refine ⟨0, by omega, ?_⟩
      rw [resetLcls_empty]
      simp [compileTop, run, hm']
  obtain ⟨hi, hhi, hr⟩ := hrun
  rw [hr]
  have hent : R [(0, k)] (resetLcls env 0 hi) (σ, [nilFrame]) :=
    H.enter [] trivial k hi (by simpa [lclsSize] using hhi) env (σ, []) h0
  have hc' : Chain [((0 : Nat), k)] := ⟨rfl, trivial⟩
  exact sim_exit (block_sim X ρ H body [(0, k)] hc' hws _ _ tr hent) (H.exit [] _ _)

/-- `BRel` for the placement of the non-locals on the parameters, plus: named variables and globals are untouched -/
def BRelCallee (N : String → Option (Cell F)) (G : Nat → Cell F) (ctx : PCtx) (env : Env F) (s : SState F) : Prop :=
  BRel argπ ctx env s ∧ env.named = N ∧ env.gbl = G

omit [FloatOps F] in
theorem offFrame_argπ : OffFrame argπ :=
  fun _ _ => nofun

theorem blockRel_BRelCallee (X : Ext F) (N : String → Option (Cell F)) (G : Nat → Cell F) :
    BlockRel X argπ (BRelCallee N G) where
  access ctx hc r hr := by
    have H := access_resolved X argπ noAlias_argπ offFrame_argπ ctx hc r hr
    cases r with
    | loc up idx => exact H.shared (.inr ⟨_, rfl⟩) N G
    | oth i => exact H.shared (.inl ⟨_, rfl⟩) N G
  enter ctx hc k hi hhi env s h := ⟨brel_enter argπ offFrame_argπ ctx hc k hi hhi env s h.1, h.2⟩
  exit ctx o k env s h := ⟨brel_exit argπ ctx o k env s h.1, h.2⟩

theorem byref_block_sim (X : Ext F) (π : Nat → Ref) (hπ : NoAlias π) (n k : Nat) (body : SStmt F)
    (hws : body.WS [(0, k)]) (garbage : Nat → Cell F)
    (env : Env F) (σ : Store F) (tr : List (Val F)) (h : Holds π env σ) (hnil : ∀ i, n ≤ i → σ i = .nil) :
    SimS (fun env' st' => (∀ i, i < n → Good env' (π i) (st'.1 i)) ∧ (∀ i, n ≤ i → Good env' (π i) (σ i)))
      (evalCallByRefBlk X ((List.range n).map π) (compileTop argπ k body) garbage env tr)
      (srun X (.blk k body) ((σ, []), tr)) := by
  obtain ⟨e1, hp, hh1⟩ := pushArgs_holds X π hπ σ (List.range n) env h
  simp only [evalCallByRefBlk, hp, ok_bind]
  rw [← bind_pure (srun X _ _)]
  refine SimS.bind (block_top_sim X argπ (blockRel_BRelCallee X e1.named e1.gbl) k body hws _ σ tr
    ⟨brel_nil (callee_holds σ n hnil e1.named e1.gbl garbage), rfl, rfl⟩) fun c' st' _ ⟨hb', hN, hG⟩ => ?_
  obtain ⟨e2, cb, g⟩ := copy_back X.flexmap π hπ n σ st'.1 e1 c' hh1 hb'.holds hN hG
  simp only [cb, ok_bind]
  exact Lift.ok ⟨rfl, g⟩

end Hawk.Expr
