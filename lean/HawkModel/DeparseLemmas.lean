import HawkModel.Deparse
/-!
  The specification of the round trip (`norm`, `canon` / `Equiv`, `WFparse`); `climb`: ladder levels that see no prefix
  operator at the start of an operand (`noPrefixK`) and no continuation behind it (`noContK`) hand up what the levels below
  them return.
-/
namespace Hawk.Deparse
open Hawk.Gen.Precedence

mutual
/-- the tree `parse (print a)` returns: a re-rendered non-negative number is read back as a literal with retained text;
    a unary operator over an integer literal (left unfolded by parse_unary_exp) is folded by parse_unary -/
def norm : Ast → Ast
  | .int v none => if v < 0 then .int v none else .int v (some (toString v.toNat))
  | .int v (some t) => .int v (some t)
  | .lit k s => .lit k s
  | .var n => .var n
  | .idx n ix => .idx n (normL ix)
  | .call n args => .call n (normL args)
  | .grp b => .grp (normL b)
  | .pos e => .pos (norm e)
  | .bin op l r => .bin op (norm l) (norm r)
  | .unr op e =>
    match norm e with
    | .int v _ => .int (foldUnrInt op v) none
    | e' => .unr op e'
  | .incpre op e => .incpre op (norm e)
  | .incpst op e => .incpst op (norm e)
  | .cnd c l r => .cnd (norm c) (norm l) (norm r)
  | .ass op l r => .ass op (norm l) (norm r)
def normL : AstL → AstL
  | .nil => .nil
  | .cons a t => .cons (norm a) (normL t)
end

mutual
/-- forget the retained spelling of integer literals and fold unary operators over integer literals -/
def canon : Ast → Ast
  | .int v _ => .int v none
  | .lit k s => .lit k s
  | .var n => .var n
  | .idx n ix => .idx n (canonL ix)
  | .call n args => .call n (canonL args)
  | .grp b => .grp (canonL b)
  | .pos e => .pos (canon e)
  | .bin op l r => .bin op (canon l) (canon r)
  | .unr op e =>
    match canon e with
    | .int v _ => .int (foldUnrInt op v) none
    | e' => .unr op e'
  | .incpre op e => .incpre op (canon e)
  | .incpst op e => .incpst op (canon e)
  | .cnd c l r => .cnd (canon c) (canon l) (canon r)
  | .ass op l r => .ass op (canon l) (canon r)
def canonL : AstL → AstL
  | .nil => .nil
  | .cons a t => .cons (canon a) (canonL t)
end

def Equiv (a b : Ast) : Prop := canon a = canon b

def litKinds : List TK := [.FLT, .STR, .MBS, .CHAR, .BCHR, .XNIL]

mutual
/-- the hypothesis of the round trip, taken from what the parser builds (where literals keep their text, where folding has
    happened, what the operands of `in`, `++`, `--` and assignment are); a unary operator over a floating-point literal is
    excluded (`parse` answers `unsupported` for its printed form).  No lemma says that `parse` returns only such trees.
    The parser makes no node for parentheses, so no condition on grouping.  The `.bin` clause excludes folding on
    `norm l`, `norm r`, the operands as read back: a unary operator over an integer literal is a number by then. -/
def WFparse : Ast → Prop
  | .int v none => -9223372036854775808 ≤ v ∧ v < 9223372036854775808
  | .int v (some _) => 0 ≤ v ∧ v < 9223372036854775808
  | .lit k _ => k ∈ litKinds
  | .var _ => True
  | .idx _ ix => WFparseL ix ∧ ix ≠ .nil
  | .call _ args => WFparseL args
  | .grp b => WFparseL b ∧ 2 ≤ b.length
  | .pos e => WFparse e
  | .bin op l r => WFparse l ∧ WFparse r ∧ ¬ (foldable op = true ∧ (norm l).isNum = true ∧ (norm r).isNum = true) ∧
      (op = .IN → r.isVar = true)
  | .unr _ e => WFparse e ∧ e.isFlt = false
  | .incpre _ e => WFparse e ∧ (e.isVar || e.isPos) = true
  | .incpst _ e => WFparse e ∧ (e.isVar || e.isPos) = true
  | .cnd c l r => WFparse c ∧ WFparse l ∧ WFparse r
  | .ass _ l r => WFparse l ∧ WFparse r ∧ (l.isVar || l.isPos) = true
def WFparseL : AstL → Prop
  | .nil => True
  | .cons a t => WFparse a ∧ WFparseL t
end

theorem norm_isVar (a : Ast) : (norm a).isVar = a.isVar := by
  rw [norm.eq_def]; split <;> (try split) <;> rfl

theorem norm_isPos (a : Ast) : (norm a).isPos = a.isPos := by
  rw [norm.eq_def]; split <;> (try split) <;> rfl

theorem norm_isFlt (a : Ast) : (norm a).isFlt = a.isFlt := by
  rw [norm.eq_def]; split <;> (try split) <;> rfl

theorem norm_isAss (a : Ast) : (norm a).isAss = a.isAss := by
  rw [norm.eq_def]; split <;> (try split) <;> rfl

theorem norm_varpos (e : Ast) (hv : (e.isVar || e.isPos) = true) : ((norm e).isVar || (norm e).isPos) = true := by
  rw [norm_isVar, norm_isPos]; exact hv

def k1 (ts : List Tok) : Option TK :=
  match ts with
  | t :: _ => some t.k
  | [] => none

def k2 (ts : List Tok) : Option TK :=
  match ts with
  | _ :: u :: _ => some u.k
  | _ => none

/-- level `L` does not continue an operand that is followed by tokens of kinds `a`, `b` -/
def noContK (L : Level) (a b : Option TK) : Bool :=
  match L with
  | .binary _ _ _ map => match a with | none => true | some k => (map.lookup k).isNone
  | .assLv => match a with | none => true | some k => (assignToks.lookup k).isNone
  | .cndLv => a != some .QUEST
  | .inLv => a != some .IN
  | .concatLv => match a with | none => true | some k => !(k == concatTok || isStarterK k)
  | .unaryLv => true
  | .unaryExpLv => true
  | .incLv => match a with | none => true | some k => (incToks.lookup k).isNone
  | .primLv => a != some .LBRACK && !((a == some .BOR || a == some .LOR) && (b == some .GETLINE || b == some .GETBLINE))

/-- level `L` does not treat a first token of kind `a` as a prefix operator (and is not the bottom of the ladder) -/
def noPrefixK (L : Level) (a : Option TK) : Bool :=
  match L with
  | .unaryLv => match a with | none => true | some k => (unaryToks.lookup k).isNone
  | .unaryExpLv => match a with | none => true | some k => (unaryExpToks.lookup k).isNone
  | .incLv => match a with | none => true | some k => (incToks.lookup k).isNone
  | .primLv => false
  | _ => true

def passK (pre : List Level) (s a b : Option TK) : Bool := pre.all (fun L => noPrefixK L s && noContK L a b)

theorem isPipeGetline_false (rest : List Tok) (h : noContK .primLv (k1 rest) (k2 rest) = true) : isPipeGetline rest = false := by
  match rest with
  | [] => rfl
  | [t] => rfl
  | t :: u :: r =>
    simp only [noContK, k1, k2, Bool.and_eq_true, Bool.not_eq_true', bne_iff_ne, ne_eq] at h
    simp only [isPipeGetline, rio, rwpipe, Bool.true_and]
    have := h.2
    simpa using this

theorem headIs_LBRACK_false (rest : List Tok) (h : noContK .primLv (k1 rest) (k2 rest) = true) : headIs .LBRACK rest = false := by
  match rest with
  | [] => rfl
  | t :: r =>
    simp only [noContK, k1, Bool.and_eq_true, bne_iff_ne, ne_eq] at h
    simpa [headIs] using h.1

theorem climb (full : List Level) (n : Nat) (pre base : List Level) (ts rest : List Tok) (x : Ast)
    (h : parseLv full n base ts = .ok (x, rest))
    (hp : passK pre (k1 ts) (k1 rest) (k2 rest) = true) :
    parseLv full n (pre ++ base) ts = .ok (x, rest) := by
  induction pre with
  | nil => simpa using h
  | cons L pre ih =>
    simp only [passK, List.all_cons, Bool.and_eq_true] at hp
    have h' := ih (by simpa [passK] using hp.2)
    have hL := hp.1
    rw [List.cons_append]
    cases L with
    | binary fn sk ra map =>
      rw [parseLv, h']; simp only []
      cases rest with
      | nil => rw [binLoop]
      | cons t r =>
        rw [binLoop]
        have := hL.2; simp only [noContK, k1, Option.isNone_iff_eq_none] at this
        rw [this]
    | assLv =>
      rw [parseLv, h']; simp only []
      cases rest with
      | nil => rfl
      | cons t r =>
        have := hL.2; simp only [noContK, k1, Option.isNone_iff_eq_none] at this
        simp only [this]
    | cndLv =>
      rw [parseLv, h']; simp only []
      cases rest with
      | nil => rfl
      | cons t r =>
        have := hL.2; simp only [noContK, k1] at this
        have hk : t.k ≠ .QUEST := by simpa using this
        simp [hk]
    | inLv =>
      rw [parseLv, h']; simp only []
      cases rest with
      | nil => rw [inLoop]
      | cons t r =>
        rw [inLoop.eq_def]
        have := hL.2; simp only [noContK, k1] at this
        have hk : t.k ≠ .IN := by simpa using this
        simp [hk]
    | concatLv =>
      rw [parseLv, h']; simp only []
      cases rest with
      | nil => rw [concatLoop]
      | cons t r =>
        rw [concatLoop.eq_def]
        have := hL.2; simp only [noContK, k1, Bool.not_eq_true', Bool.or_eq_false_iff] at this
        cases n <;> simp [isStarter, this.1, this.2]
    | unaryLv | unaryExpLv =>
      cases ts with
      | nil => rw [parseLv]; exact h'
      | cons t r =>
        have := hL.1; simp only [noPrefixK, k1, Option.isNone_iff_eq_none] at this
        rw [parseLv]; simp only [this]; exact h'
    | incLv =>
      cases ts with
      | nil =>
        rw [parseLv]; exact h'
      | cons t r =>
        have h1 := hL.1; simp only [noPrefixK, k1, Option.isNone_iff_eq_none] at h1
        rw [parseLv]; simp only [h1, h']
        cases rest with
        | nil => rfl
        | cons u r2 =>
          have h2 := hL.2; simp only [noContK, k1, Option.isNone_iff_eq_none] at h2
          simp only [h2]
    | primLv =>
      have := hL.1; simp [noPrefixK] at this

theorem mem_of_lookup {α β : Type} [BEq α] [LawfulBEq α] {l : List (α × β)} {k : α} {v : β} (h : l.lookup k = some v) :
    (k, v) ∈ l := by
  obtain ⟨l₁, l₂, rfl, _⟩ := List.lookup_eq_some_iff.mp h
  simp

theorem toks_append (a b : List PT) : toks (a ++ b) = toks a ++ toks b := by
  induction a with
  | nil => rfl
  | cons x r ih => cases x <;> simp [toks, ih]

/-- an operand as print_operand writes it: an assignment is enclosed in parentheses -/
def opnd (a : Ast) : List Tok := if a.isAss then tLP :: (print a ++ [tRP]) else print a

theorem opnd_nonass (a : Ast) (h : a.isAss = false) : opnd a = print a := by simp [opnd, h]

def printLT (l : AstL) : List Tok := toks (printL l)

theorem print_int_some (v : Int) (t : String) : print (.int v (some t)) = [{ k := .INT, s := t, v := v.toNat }] := by
  simp [print, printP, toks]
theorem print_int_nonneg (v : Int) (h : ¬ v < 0) : print (.int v none) = [natTok v.toNat] := by
  simp [print, printP, toks, h]
theorem print_int_neg (v : Int) (h : v < 0) : print (.int v none) = [tLP, tMINUS, natTok v.natAbs, tRP] := by
  simp [print, printP, toks, h]
theorem print_lit (k : TK) (s : String) : print (.lit k s) = [{ k := k, s := s }] := by simp [print, printP, toks]
theorem print_var (n : String) : print (.var n) = [{ k := .IDENT, s := n }] := by simp [print, printP, toks]
theorem print_idx (n : String) (ix : AstL) : print (.idx n ix) = { k := .IDENT, s := n } :: tLB :: (printLT ix ++ [tRB]) := by
  simp [print, printP, toks, toks_append, printLT]
theorem print_call (n : String) (l : AstL) : print (.call n l) = { k := .IDENT, s := n, adj := true } :: tLP :: (printLT l ++ [tRP]) := by
  simp [print, printP, toks, toks_append, printLT]
theorem print_grp (l : AstL) : print (.grp l) = tLP :: (printLT l ++ [tRP]) := by
  simp [print, printP, toks, toks_append, printLT]
theorem print_pos (e : Ast) : print (.pos e) = tDOLLAR :: tLP :: (print e ++ [tRP]) := by
  simp [print, printP, toks, toks_append]
theorem print_bin (op : BinOp) (l r : Ast) : print (.bin op l r) = tLP :: ((opnd l ++ binTok op :: opnd r) ++ [tRP]) := by
  simp only [print, printP, opnd]
  cases hl : l.isAss <;> cases hr : r.isAss <;> simp [toks, toks_append]
theorem print_unr (op : UnrOp) (e : Ast) : print (.unr op e) = tLP :: ((unrTok op :: tLP :: (print e ++ [tRP])) ++ [tRP]) := by
  simp [print, printP, toks, toks_append]
theorem print_incpre (op : IncOp) (e : Ast) : print (.incpre op e) = incTok op :: tLP :: (print e ++ [tRP]) := by
  simp [print, printP, toks, toks_append]
theorem print_incpst (op : IncOp) (e : Ast) : print (.incpst op e) = tLP :: (print e ++ [tRP, incTok op]) := by
  simp [print, printP, toks, toks_append]
theorem print_cnd (c l r : Ast) :
    print (.cnd c l r) = tLP :: ((tLP :: (print c ++ tRP :: tQUEST :: (print l ++ tCOLON :: print r))) ++ [tRP]) := by
  simp [print, printP, toks, toks_append]
theorem print_ass (op : AssOp) (l r : Ast) : print (.ass op l r) = print l ++ assTok op :: print r := by
  simp [print, printP, toks, toks_append]

theorem printLT_nil : printLT .nil = [] := by simp [printLT, printL, toks]
theorem printLT_one (a : Ast) : printLT (.cons a .nil) = print a := by simp [printLT, printL, print]
theorem printLT_cons (a b : Ast) (t : AstL) : printLT (.cons a (.cons b t)) = print a ++ tCOMMA :: printLT (.cons b t) := by
  simp [printLT, printL, print, toks, toks_append]

/-- kinds of the tokens a printed tree can start with (no prefix `+ - ! ~`: print_expr writes them behind a parenthesis) -/
def startKs : List TK := [.LPAREN, .IDENT, .INT, .FLT, .STR, .MBS, .CHAR, .BCHR, .XNIL, .DOLLAR, .PLUSPLUS, .MINUSMINUS]

theorem tLP_k : tLP.k = .LPAREN := by decide
theorem tRP_k : tRP.k = .RPAREN := by decide
theorem tLB_k : tLB.k = .LBRACK := by decide
theorem tRB_k : tRB.k = .RBRACK := by decide
theorem tCOMMA_k : tCOMMA.k = .COMMA := by decide
theorem tQUEST_k : tQUEST.k = .QUEST := by decide
theorem tCOLON_k : tCOLON.k = .COLON := by decide
theorem tDOLLAR_k : tDOLLAR.k = .DOLLAR := by decide
theorem tMINUS_k : tMINUS.k = .MINUS := by decide
theorem incTok_start (op : IncOp) : (incTok op).k ∈ startKs := by cases op <;> decide

theorem prim_of_noPipe (n : Nat) (t : Tok) (ts1 rest : List Tok) (x : Ast)
    (h : primNoPipe ladder n t.k t ts1 = .ok (x, rest))
    (hc : noContK .primLv (k1 rest) (k2 rest) = true) :
    parseLv ladder (n + 1) [.primLv] (t :: ts1) = .ok (x, rest) := by
  rw [parseLv]; simp only [h, isPipeGetline_false rest hc]; rfl

theorem noPipe_paren (n : Nat) (t : Tok) (ts rest : List Tok) (x : Ast) (ht : t.k = .LPAREN)
    (hE : parseLv ladder n ladder (ts ++ tRP :: rest) = .ok (x, tRP :: rest)) :
    primNoPipe ladder n t.k t (ts ++ tRP :: rest) = .ok (x, rest) := by
  rw [ht, primNoPipe, parseList, hE]
  simp [tRP_k]

theorem prim_paren (n : Nat) (ts rest : List Tok) (x : Ast)
    (hE : parseLv ladder n ladder (ts ++ tRP :: rest) = .ok (x, tRP :: rest))
    (hc : noContK .primLv (k1 rest) (k2 rest) = true) :
    parseLv ladder (n + 1) [.primLv] (tLP :: (ts ++ tRP :: rest)) = .ok (x, rest) :=
  prim_of_noPipe n tLP _ rest x (noPipe_paren n tLP ts rest x tLP_k hE) hc

end Hawk.Deparse
