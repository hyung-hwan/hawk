import HawkModel.CoreLemmas
import HawkModel.HtbSpec
/-! `WF` (each pair in the bucket its hash selects, no key twice in a chain, `size` counts the pairs; nothing about
    `threshold` or `factor`) and `abs` (the dictionary a table stands for, read as the C reads it).  A keyed call changes the
    table in two ways only, and each has one lemma giving `WF` and `abs` afterwards: the chain of one key is replaced
    (`WF.setBucket`: new value, new pair, unlinked pair) or all pairs are rehashed (`WF.rehashed`). -/
namespace Hawk.Htb

theorem chainFind_some {k : Nat} {b : Chain} {p : Pair} (h : chainFind k b = some p) : p ∈ b ∧ p.1 = k := by
  fun_induction chainFind k b with
  | case1 => nomatch h
  | case2 q r hq =>
    cases h
    exact ⟨List.mem_cons_self, hq⟩
  | case3 q r hq ih => exact (ih h).imp_left (List.mem_cons_of_mem _)

theorem chainFind_none {k : Nat} {b : Chain} : chainFind k b = none ↔ k ∉ b.map Prod.fst := by
  fun_induction chainFind k b with
  | case1 => exact iff_of_true rfl List.not_mem_nil
  | case2 q r hq => exact iff_of_false nofun (fun h => h (hq ▸ List.mem_cons_self))
  | case3 q r hq ih => rw [ih, List.map_cons, List.mem_cons, not_or]; exact (and_iff_right (Ne.symm hq)).symm

theorem chainFind_of_mem {k v : Nat} {b : Chain} (hn : (b.map Prod.fst).Nodup) (h : (k, v) ∈ b) :
    chainFind k b = some (k, v) := by
  induction b with
  | nil => simp at h
  | cons q r ih =>
    simp only [List.map_cons, List.nodup_cons] at hn
    simp only [chainFind]
    rcases List.mem_cons.mp h with h | h
    · subst h; simp
    · have : q.1 ≠ k := by
        intro e; apply hn.1; rw [e]; exact List.mem_map.mpr ⟨(k, v), h, rfl⟩
      rw [if_neg this]; exact ih hn.2 h

theorem chainFind_cons_ne {k k' v : Nat} {b : Chain} (h : k' ≠ k) : chainFind k' ((k, v) :: b) = chainFind k' b := by
  simp only [chainFind]; rw [if_neg (fun e => h e.symm)]

theorem chainFind_cons_eq {k v : Nat} {b : Chain} : chainFind k ((k, v) :: b) = some (k, v) := by
  simp [chainFind]

theorem chainSet_keys (k v : Nat) (b : Chain) : (chainSet k v b).map Prod.fst = b.map Prod.fst := by
  induction b with
  | nil => simp [chainSet]
  | cons q r ih => simp only [chainSet]; split <;> simp [ih]

theorem chainSet_length (k v : Nat) (b : Chain) : (chainSet k v b).length = b.length := by
  have := congrArg List.length (chainSet_keys k v b); simpa using this

theorem chainFind_chainSet (k v k' : Nat) (b : Chain) :
    chainFind k' (chainSet k v b) = if k' = k then (chainFind k b).map (fun p => (p.1, v)) else chainFind k' b := by
  fun_induction chainSet k v b with
  | case1 => exact (ite_self _).symm
  | case2 q r hq =>
    by_cases hk : k' = k
    · rw [if_pos hk, hk, chainFind, if_pos hq, chainFind, if_pos hq]; rfl
    · rw [if_neg hk, chainFind, if_neg (hq ▸ Ne.symm hk), chainFind, if_neg (hq ▸ Ne.symm hk)]
  | case3 q r hq ih =>
    rw [chainFind, ih]
    by_cases hk : k' = k
    · rw [if_pos hk, if_pos hk, hk, if_neg hq, chainFind, if_neg hq]
    · rw [if_neg hk, if_neg hk, chainFind]

theorem chainDel_sublist (k : Nat) (b : Chain) : (chainDel k b).Sublist b := by
  fun_induction chainDel k b with
  | case1 => exact .slnil
  | case2 q r hq => exact List.sublist_cons_self _ _
  | case3 q r hq ih => exact ih.cons_cons _

theorem chainDel_length {k : Nat} {b : Chain} {p : Pair} (h : chainFind k b = some p) :
    (chainDel k b).length + 1 = b.length := by
  fun_induction chainFind k b with
  | case1 => nomatch h
  | case2 q r hq => rw [chainDel, if_pos hq, List.length_cons]
  | case3 q r hq ih => rw [chainDel, if_neg hq, List.length_cons, ih h, List.length_cons]

theorem chainFind_chainDel (k k' : Nat) (b : Chain) (hn : (b.map Prod.fst).Nodup) :
    chainFind k' (chainDel k b) = if k' = k then none else chainFind k' b := by
  fun_induction chainDel k b with
  | case1 => exact (ite_self _).symm
  | case2 q r hq =>
    by_cases hk : k' = k
    · rw [if_pos hk, hk, chainFind_none, ← hq]; exact (List.nodup_cons.1 hn).1
    · rw [if_neg hk, chainFind, if_neg (hq ▸ Ne.symm hk)]
  | case3 q r hq ih =>
    rw [chainFind, ih (List.nodup_cons.1 hn).2]
    by_cases hk : k' = k
    · rw [if_pos hk, if_pos hk, hk, if_neg hq]
    · rw [if_neg hk, if_neg hk, chainFind]

structure WF (c : Cfg) (t : Htb) : Prop where
  len : t.buckets.length = t.capa
  pos : 0 < t.capa
  place : ∀ (i : Nat) (b : Chain), t.buckets[i]? = some b → ∀ p ∈ b, c.hash p.1 % t.capa = i
  nodup : ∀ (i : Nat) (b : Chain), t.buckets[i]? = some b → (b.map Prod.fst).Nodup
  size : t.size = (t.buckets.map List.length).sum

def find (c : Cfg) (t : Htb) (k : Nat) : Option Nat :=
  (chainFind k (bucketAt t (c.hash k % t.capa))).map Prod.snd

/-- the dictionary a table stands for, read the way the C reads it (hash, chain scan) -/
def abs (c : Cfg) (t : Htb) : Dict := find c t

theorem bucketAt_eq {t : Htb} {i : Nat} (h : i < t.buckets.length) : t.buckets[i]? = some (bucketAt t i) := by
  simp [bucketAt, List.getD_eq_getElem?_getD, List.getElem?_eq_getElem h]

theorem bucketAt_getElem {t : Htb} {i : Nat} (h : i < t.buckets.length) : bucketAt t i = t.buckets[i] := by
  simp [bucketAt, List.getD_eq_getElem?_getD, List.getElem?_eq_getElem h]

theorem WF.idx {c : Cfg} {t : Htb} (h : WF c t) (k : Nat) : c.hash k % t.capa < t.buckets.length := by
  rw [h.len]; exact Nat.mod_lt _ h.pos

theorem pairs_eq {t : Htb} (h : t.buckets.length = t.capa) : pairs t = t.buckets.flatten := by
  unfold pairs; rw [List.take_of_length_le (Nat.le_of_eq h)]

theorem WF.size_pairs {c : Cfg} {t : Htb} (h : WF c t) : t.size = (pairs t).length := by
  rw [pairs_eq h.len, List.length_flatten, h.size]

theorem mem_pairs_iff {c : Cfg} {t : Htb} (h : WF c t) (k v : Nat) :
    (k, v) ∈ pairs t ↔ abs c t k = some v := by
  rw [pairs_eq h.len, List.mem_flatten, abs]
  have hi := h.idx k
  constructor
  · rintro ⟨b, hb, hkv⟩
    obtain ⟨i, hib⟩ := List.mem_iff_getElem?.mp hb
    have hpl : c.hash k % t.capa = i := h.place i b hib (k, v) hkv
    have hbi : bucketAt t i = b := Option.some.inj ((bucketAt_eq (hpl ▸ hi)).symm.trans hib)
    rw [find, hpl, hbi, chainFind_of_mem (h.nodup i b hib) hkv]
    rfl
  · intro hf
    obtain ⟨p, hc, hv⟩ := Option.map_eq_some_iff.1 hf
    have ⟨hm, hk⟩ := chainFind_some hc
    exact ⟨_, List.mem_of_getElem? (bucketAt_eq hi), (Prod.ext hk hv : p = (k, v)) ▸ hm⟩

theorem pairs_keys_nodup {c : Cfg} {t : Htb} (h : WF c t) : ((pairs t).map Prod.fst).Nodup := by
  rw [pairs_eq h.len, List.map_flatten]
  refine List.pairwise_flatten.2 ⟨?_, ?_⟩
  · intro l hl
    rcases List.mem_map.mp hl with ⟨b, hb, rfl⟩
    rcases List.mem_iff_getElem?.mp hb with ⟨i, hib⟩
    exact h.nodup i b hib
  · rw [List.pairwise_map, List.pairwise_iff_getElem]
    intro i j hi hj hij x hx y hy hxy
    rcases List.mem_map.mp hx with ⟨p, hp, rfl⟩
    rcases List.mem_map.mp hy with ⟨q, hq, rfl⟩
    have h1 := h.place i _ (List.getElem?_eq_getElem hi) p hp
    have h2 := h.place j _ (List.getElem?_eq_getElem hj) q hq
    rw [hxy] at h1; omega

theorem abs_eq_of_mem_iff {c c' : Cfg} {t t' : Htb} (h : WF c t) (h' : WF c' t')
    (hm : ∀ p, p ∈ pairs t' ↔ p ∈ pairs t) : abs c' t' = abs c t := by
  funext k; apply Option.ext; intro v
  rw [← mem_pairs_iff h, ← mem_pairs_iff h', hm]

theorem nodup_of_map {α β : Type} (f : α → β) {l : List α} (h : (l.map f).Nodup) : l.Nodup :=
  List.Pairwise.of_map f (fun _ _ hab e => hab (congrArg f e)) h

theorem pairs_perm_of_mem_iff {c : Cfg} {t : Htb} (h : WF c t) {d : List Pair} (hd : d.Nodup)
    (hm : ∀ k v, (k, v) ∈ d ↔ abs c t k = some v) : (pairs t).Perm d := by
  rw [List.perm_ext_iff_of_nodup (nodup_of_map _ (pairs_keys_nodup h)) hd]
  intro p; cases p with
  | mk k v => rw [mem_pairs_iff h, hm]

theorem WF.of_empty (c : Cfg) {t : Htb} (hb : t.buckets = List.replicate t.capa []) (hp : 0 < t.capa)
    (hs : t.size = 0) : WF c t := by
  have hnil : ∀ (i : Nat) (b : Chain), t.buckets[i]? = some b → b = [] :=
    fun i b hib => (List.mem_replicate.1 (hb ▸ List.mem_of_getElem? hib)).2
  refine ⟨by rw [hb, List.length_replicate], hp, ?_, ?_, ?_⟩
  · intro i b hib p hp
    rw [hnil i b hib] at hp; cases hp
  · intro i b hib
    rw [hnil i b hib]; exact List.nodup_nil
  · rw [hs, hb, ← List.length_flatten, List.flatten_replicate_nil]; rfl

theorem abs_of_empty (c : Cfg) {t : Htb} (hb : t.buckets = List.replicate t.capa []) : abs c t = Dict.empty := by
  funext k
  have : bucketAt t (c.hash k % t.capa) = [] := by
    simp only [bucketAt, hb, List.getD_eq_getElem?_getD, List.getElem?_replicate]
    split <;> rfl
  rw [abs, find, this]; rfl

theorem forall_chain_set {Q : Nat → Chain → Prop} {L : List Chain} {i : Nat} {x : Chain}
    (h : ∀ j b, L[j]? = some b → Q j b) (hx : Q i x) : ∀ j b, (L.set i x)[j]? = some b → Q j b := by
  intro j b hb
  rw [List.getElem?_set] at hb
  split at hb
  · rename_i hij; subst hij
    split at hb
    · cases hb; exact hx
    · cases hb
  · exact h j b hb

theorem bucketAt_set (t : Htb) (i j : Nat) (x : Chain) (s : Nat) (hi : i < t.buckets.length) :
    bucketAt { t with buckets := t.buckets.set i x, size := s } j = if i = j then x else bucketAt t j := by
  simp only [bucketAt, List.getD_set _ _ _ _ hi, eq_comm]

theorem WF.bucket {c : Cfg} {t : Htb} (h : WF c t) (i : Nat) :
    ((bucketAt t i).map Prod.fst).Nodup ∧ (∀ p ∈ bucketAt t i, c.hash p.1 % t.capa = i) ∧
      (bucketAt t i).length ≤ t.size := by
  unfold bucketAt
  rw [List.getD_eq_getElem?_getD]
  cases hb : t.buckets[i]? with
  | none => exact ⟨List.nodup_nil, nofun, Nat.zero_le _⟩
  | some b =>
    refine ⟨h.nodup i b hb, h.place i b hb, ?_⟩
    rw [h.size, ← List.length_flatten]
    exact (List.sublist_flatten_of_mem (List.mem_of_getElem? hb)).length_le

theorem scan_cases (c : Cfg) (t : Htb) (k : Nat) :
    (∃ w, chainFind k (bucketAt t (c.hash k % t.capa)) = some (k, w) ∧ abs c t k = some w) ∨
    (chainFind k (bucketAt t (c.hash k % t.capa)) = none ∧ abs c t k = none) := by
  unfold abs find
  cases hf : chainFind k (bucketAt t (c.hash k % t.capa)) with
  | none => exact Or.inr ⟨rfl, rfl⟩
  | some p =>
    obtain ⟨k', w⟩ := p
    cases (chainFind_some hf).2
    exact Or.inl ⟨w, rfl, rfl⟩

/-- every change a keyed call makes but the rehash: the chain `k` hashes to is replaced by a chain `x` that answers like
    it for every other key.  Such a chain holds no key but `k` and those it held, so it is in the right bucket. -/
theorem WF.setBucket {c : Cfg} {t : Htb} (h : WF c t) (k : Nat) {x : Chain} (s : Nat)
    (hx : ∀ k', k' ≠ k → chainFind k' x = chainFind k' (bucketAt t (c.hash k % t.capa)))
    (hn : (x.map Prod.fst).Nodup)
    (hs : s + (bucketAt t (c.hash k % t.capa)).length = t.size + x.length) :
    WF c { t with buckets := t.buckets.set (c.hash k % t.capa) x, size := s } ∧
    abs c { t with buckets := t.buckets.set (c.hash k % t.capa) x, size := s } =
      fun k' => if k' = k then (chainFind k x).map Prod.snd else abs c t k' := by
  have hi := h.idx k
  refine ⟨⟨by simp [h.len], h.pos, forall_chain_set h.place fun p hp => ?_, forall_chain_set h.nodup hn, ?_⟩,
    funext fun k' => ?_⟩
  · by_cases hk : p.1 = k
    · rw [hk]
    · have hf : chainFind p.1 x ≠ none := fun e => chainFind_none.1 e (List.mem_map_of_mem hp)
      rw [hx _ hk] at hf
      obtain ⟨q, hq⟩ := Option.ne_none_iff_exists'.1 hf
      obtain ⟨hm, he⟩ := chainFind_some hq
      exact he ▸ (h.bucket _).2.1 q hm
  · have := List.sum_map_set List.length hi x
    rw [bucketAt_getElem hi, h.size] at hs
    simp only; omega
  · unfold abs find
    rw [bucketAt_set t _ _ x s hi]
    by_cases hk : k' = k
    · rw [hk, if_pos rfl, if_pos rfl]
    · rw [if_neg hk]
      by_cases hb : c.hash k % t.capa = c.hash k' % t.capa
      · rw [if_pos hb, hx k' hk, hb]
      · rw [if_neg hb]

theorem flatten_set_perm {α : Type} {L : List (List α)} {i : Nat} (h : i < L.length) (x : List α) :
    ((L.set i x).flatten ++ L[i]).Perm (L.flatten ++ x) := by
  have hL : L = L.take i ++ L[i] :: L.drop (i + 1) := by
    rw [← List.drop_eq_getElem_cons h, List.take_append_drop]
  rw [List.set_eq_take_append_cons_drop, if_pos h]
  conv => rhs; rw [hL]
  simp only [List.flatten_append, List.flatten_cons, List.append_assoc]
  exact (List.perm_append_left_iff _).2 (List.perm_append_comm.trans
    ((List.perm_append_comm.append_right x).trans (by rw [List.append_assoc])))

theorem pushHead_length (c : Cfg) (n : Nat) (bs : List Chain) (p : Pair) : (pushHead c n bs p).length = bs.length := by
  simp [pushHead]

theorem foldl_pushHead_spec (c : Cfg) {n : Nat} (hn : 0 < n) (ps : List Pair) (bs : List Chain) (hl : bs.length = n)
    (hp : ∀ i b, bs[i]? = some b → ∀ p ∈ b, c.hash p.1 % n = i) :
    (ps.foldl (pushHead c n) bs).length = n ∧
    (∀ i b, (ps.foldl (pushHead c n) bs)[i]? = some b → ∀ p ∈ b, c.hash p.1 % n = i) ∧
    (ps.foldl (pushHead c n) bs).flatten.Perm (ps ++ bs.flatten) := by
  induction ps generalizing bs with
  | nil => exact ⟨hl, hp, .refl _⟩
  | cons q ps ih =>
    have hlt : c.hash q.1 % n < bs.length := hl.symm ▸ Nat.mod_lt _ hn
    have hq : pushHead c n bs q = bs.set (c.hash q.1 % n) (q :: bs[c.hash q.1 % n]) := by
      simp only [pushHead, List.getD_eq_getElem?_getD, List.getElem?_eq_getElem hlt, Option.getD_some]
    obtain ⟨h1, h2, h3⟩ := ih (pushHead c n bs q) (by rw [pushHead_length, hl]) (hq ▸ forall_chain_set hp fun p hm =>
      (List.mem_cons.1 hm).elim (fun e => e ▸ rfl) (hp _ _ (List.getElem?_eq_getElem hlt) p))
    refine ⟨h1, h2, h3.trans ?_⟩
    rw [hq]
    have : (bs.set (c.hash q.1 % n) (q :: bs[c.hash q.1 % n])).flatten.Perm (q :: bs.flatten) :=
      (List.perm_append_right_iff _).1 ((flatten_set_perm hlt _).trans List.perm_middle)
    exact (this.append_left ps).trans List.perm_middle

theorem rehash_spec (c : Cfg) {n : Nat} (hn : 0 < n) (ps : List Pair) :
    (rehash c n ps).length = n ∧ (∀ i b, (rehash c n ps)[i]? = some b → ∀ p ∈ b, c.hash p.1 % n = i) ∧
    (rehash c n ps).flatten.Perm ps := by
  have := foldl_pushHead_spec c hn ps (List.replicate n []) List.length_replicate fun i b hb p hm =>
    nomatch (List.mem_replicate.1 (List.mem_of_getElem? hb)).2 ▸ hm
  rwa [List.flatten_replicate_nil, List.append_nil] at this

theorem WF.rehashed {c : Cfg} {t : Htb} (h : WF c t) {n : Nat} (hn : 0 < n) (thr : Nat) :
    WF c { t with buckets := rehash c n (pairs t), capa := n, threshold := thr } ∧
    abs c { t with buckets := rehash c n (pairs t), capa := n, threshold := thr } = abs c t := by
  obtain ⟨hlen, hplace, hperm⟩ := rehash_spec c hn (pairs t)
  have hw : WF c { t with buckets := rehash c n (pairs t), capa := n, threshold := thr } := by
    refine ⟨hlen, hn, hplace, fun i b hb => ?_, ?_⟩
    · have hsub : b.Sublist (rehash c n (pairs t)).flatten := List.sublist_flatten_of_mem (List.mem_of_getElem? hb)
      exact (hsub.map Prod.fst).nodup ((hperm.map Prod.fst).nodup_iff.2 (pairs_keys_nodup h))
    · simp only
      rw [← List.length_flatten, hperm.length_eq, ← h.size_pairs]
  exact ⟨hw, abs_eq_of_mem_iff h hw fun _ => by rw [pairs_eq hw.len]; exact hperm.mem_iff⟩

theorem newCapa_pos {c : Cfg} {t : Htb} {n : Nat} (hp : 0 < t.capa) (h : newCapa c t = some n) : 0 < n := by
  revert h
  fun_cases newCapa c t with
  | case1 => nofun
  | case2 | case3 =>
    rintro ⟨⟩
    split <;> omega

theorem Oracle.false_mem_of_rest {o : Oracle} (h : false ∈ o.next.2) : false ∈ o := by
  cases o with
  | nil => exact h
  | cons b r => exact List.mem_cons_of_mem b h

theorem Oracle.false_mem_of_refused {o o' : Oracle} (h : o.next = (false, o')) : false ∈ o := by
  cases o with
  | nil => nomatch h
  | cons b r => exact (Prod.mk.inj h).1 ▸ List.mem_cons_self

/-- last conjunct: when reorganize does not return 0 the capacity is unchanged, so a chain index computed before it stays
    valid (the callers recompute `hc` only after a 0) -/
theorem reorganize_spec {c : Cfg} {t : Htb} (h : WF c t) (o : Oracle) :
    WF c (reorganize c t o).1 ∧ abs c (reorganize c t o).1 = abs c t ∧
    (false ∈ (reorganize c t o).2.2 → false ∈ o) ∧
    ((reorganize c t o).2.1 = false → (reorganize c t o).1.capa = t.capa) := by
  fun_cases reorganize c t o with
  | case1 => exact ⟨h, rfl, id, fun _ => rfl⟩
  | case2 n hn o' ho =>
    exact ⟨⟨h.len, h.pos, h.place, h.nodup, h.size⟩, rfl, fun hf => Oracle.false_mem_of_rest (ho ▸ hf), fun _ => rfl⟩
  | case3 n hn o' ho =>
    have ⟨hw, ha⟩ := h.rehashed (newCapa_pos h.pos hn) (n * t.factor / 100)
    exact ⟨hw, ha, fun hf => Oracle.false_mem_of_rest (ho ▸ hf), nofun⟩

theorem reorganize_size {c : Cfg} {t : Htb} (o : Oracle) : (reorganize c t o).1.size = t.size := by
  fun_cases reorganize c t o <;> rfl

/-- what is still to come when getfirstpair/getnextpair has returned this: its pair, the rest of that chain, all later
    buckets -/
def pending (t : Htb) : Option Itr → List Pair
  | none => []
  | some it => it.cur :: it.rest ++ (t.buckets.drop (it.buckno + 1)).flatten

theorem scanFrom_spec (t : Htb) (hl : t.buckets.length = t.capa) (i : Nat) :
    (t.buckets.drop i).flatten = pending t (scanFrom t i) := by
  fun_induction scanFrom t i with
  | case1 i hi p r hb =>
    have hi' : i < t.buckets.length := by omega
    rw [List.drop_eq_getElem_cons hi', ← bucketAt_getElem hi', hb]
    rfl
  | case2 i hi hb ih =>
    have hi' : i < t.buckets.length := by omega
    rw [← ih, List.drop_eq_getElem_cons hi', ← bucketAt_getElem hi', hb]
    rfl
  | case3 i hi =>
    rw [List.drop_eq_nil_iff.mpr (by omega)]
    rfl

theorem pending_iterSeq {t : Htb} (hl : t.buckets.length = t.capa) (n : Nat) :
    (pairs t).drop n = pending t (iterSeq t n) := by
  induction n with
  | zero => rw [pairs_eq hl]; exact scanFrom_spec t hl 0
  | succ n ih =>
    rw [← List.drop_drop, ih, iterSeq]
    cases iterSeq t n with
    | none => rfl
    | some it =>
      obtain ⟨bn, cur, rest⟩ := it
      cases rest with
      | cons p r => rfl
      | nil => exact scanFrom_spec t hl (bn + 1)

theorem walkList_all {α : Type} (l : List α) : walkList (fun _ => true) l = l := by
  induction l with
  | nil => rfl
  | cons p r ih => simp [walkList, ih]

theorem walkList_prefix {α : Type} (f : α → Bool) (l : List α) : walkList f l <+: l := by
  induction l with
  | nil => simp [walkList]
  | cons p r ih =>
    simp only [walkList]; split
    · exact (List.prefix_cons_inj p).mpr ih
    · exact ⟨r, rfl⟩

end Hawk.Htb
