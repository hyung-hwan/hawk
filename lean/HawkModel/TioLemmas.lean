import HawkModel.CmgrLemmas
import HawkModel.Tio
/-!
The control flow of one `tio_read_uchars` call is unfolded once, in `readU_rule`: a rule with an assertion where a conversion starts,
one where the handler is asked, and a postcondition.  It is used twice: on a stream that encodes characters of the manager's domain
(`Inv`, `Short`, `ReadOk`: the characters come back, whatever the chunking) and on arbitrary bytes (`SafeAt`, `ReadSafe`: no fault,
buffers within their bounds, a byte consumed for every character returned).  Byte-mode reads hand over the stream as it is.
-/
open Hawk.Gen Hawk.Utf8
namespace Hawk.Tio

def NoEmpty (src : List (List UInt8)) : Prop := ∀ c ∈ src, c ≠ []

theorem srcBytes_eq (src : List (List UInt8)) : srcBytes src = src.flatten.length := by
  simp [srcBytes, List.length_flatten]

theorem pull_flatten (src : List (List UInt8)) (room : Nat) :
    (pull src room).1 ++ (pull src room).2.flatten = src.flatten := by
  cases src with
  | nil => simp [pull]
  | cons c rest =>
    simp only [pull]
    split
    · simp
    · simp [← List.append_assoc]

theorem pull_le (src : List (List UInt8)) (room : Nat) : (pull src room).1.length ≤ room := by
  cases src with
  | nil => simp [pull]
  | cons c rest =>
    simp only [pull]
    split
    · assumption
    · simp [List.length_take]; omega

theorem pull_noEmpty (src : List (List UInt8)) (room : Nat) (h : NoEmpty src) : NoEmpty (pull src room).2 := by
  cases src with
  | nil => simp [pull, NoEmpty]
  | cons c rest =>
    simp only [pull]
    split
    · exact fun x hx => h x (by simp [hx])
    · rename_i hlt
      intro x hx
      simp at hx
      rcases hx with rfl | hx
      · intro h0
        have := congrArg List.length h0
        simp at this; omega
      · exact h x (by simp [hx])

theorem pull_ne (c : List UInt8) (rest : List (List UInt8)) (room : Nat) (hc : c ≠ []) (hr : 1 ≤ room) :
    (pull (c :: rest) room).1 ≠ [] := by
  simp only [pull]
  split
  · exact hc
  · intro (h0 : c.take room = [])
    have h1 := congrArg List.length h0
    have : 0 < c.length := List.length_pos_iff.mpr hc
    rw [List.length_take, List.length_nil] at h1; omega

theorem pull_nil_of_noEmpty (src : List (List UInt8)) (room : Nat) (hr : 1 ≤ room) (hne : NoEmpty src)
    (h : (pull src room).1 = []) : src = [] := by
  cases src with
  | nil => rfl
  | cons c rest => exact absurd h (pull_ne c rest room (hne c (by simp)) hr)

/-- the invariant of the read side on a well-formed stream: what is still unread (the staged bytes from
the cursor on, then everything the handler will deliver) is the encoding of `cs` -/
structure Inv (cm : Cmgr) (dom : Nat → Prop) (st : InSt) (cs : List Nat) : Prop where
  illseq : st.illseq = false
  cur_le : st.cur ≤ st.buf.length
  eof_src : st.eof = true → st.src = []
  noEmpty : NoEmpty st.src
  stream : st.buf.drop st.cur ++ st.src.flatten = encodeAllC cm cs
  bmp : Dom dom cs

/-- the configurations the `_wf` chain is about: manager `cm`, the repaired code, a staging buffer that holds a whole character -/
structure Good (cfg : Cfg) (cm : Cmgr) (maxlen : Nat) : Prop where
  cm_eq : cfg.cm = cm
  legacy : cfg.legacy = false
  capa : maxlen ≤ cfg.capa

theorem convPart_ok (cfg : Cfg) (bufsize : Nat) (st : InSt) (mlen : Nat) (out : List Nat)
    (h : convUpto cfg.cm 0x0A bufsize (st.buf.drop st.cur) = .ok (0, mlen, out)) :
    convPart cfg bufsize st = .done { st with cur := st.cur + mlen } (.n out) := by
  unfold convPart; rw [h]; simp

theorem convPart_incomplete_some (cfg : Cfg) (bufsize : Nat) (st : InSt) (mlen : Nat) (out : List Nat)
    (h : convUpto cfg.cm 0x0A bufsize (st.buf.drop st.cur) = .ok (-3, mlen, out)) (ho : out ≠ []) :
    convPart cfg bufsize st = .done { st with cur := st.cur + mlen } (.n out) := by
  unfold convPart; rw [h]; simp [ho]

theorem convPart_incomplete_nil (cfg : Cfg) (bufsize : Nat) (st : InSt) (mlen : Nat)
    (h : convUpto cfg.cm 0x0A bufsize (st.buf.drop st.cur) = .ok (-3, mlen, [])) :
    convPart cfg bufsize st =
      if cfg.legacy ∧ 0 < st.cur + mlen ∧ st.cur + mlen < (st.buf.drop (st.cur + mlen)).length then
        .done { st with cur := st.cur + mlen } (.fault .overlap)
      else .more (st.buf.drop (st.cur + mlen)) := by
  unfold convPart; rw [h]; rfl

theorem convPart_illegal_subst (cfg : Cfg) (bufsize : Nat) (st : InSt) (mlen : Nat) (out : List Nat)
    (h : convUpto cfg.cm 0x0A bufsize (st.buf.drop st.cur) = .ok (-1, mlen, out)) (hi : cfg.ignoreEcerr = true)
    (hr : cfg.legacy = true ∨ out.length < bufsize) :
    convPart cfg bufsize st = .done { st with cur := st.cur + mlen + 1 } (.n (out ++ [0x3F])) := by
  unfold convPart; rw [h]; simp [hi, hr]

theorem convPart_illegal_noroom (cfg : Cfg) (bufsize : Nat) (st : InSt) (mlen : Nat) (out : List Nat)
    (h : convUpto cfg.cm 0x0A bufsize (st.buf.drop st.cur) = .ok (-1, mlen, out)) (hi : cfg.ignoreEcerr = true)
    (hl : cfg.legacy = false) (hr : ¬ out.length < bufsize) :
    convPart cfg bufsize st = .done { st with cur := st.cur + mlen } (.n out) := by
  unfold convPart; rw [h]; simp [hi, hr, hl]

theorem convPart_illegal_err (cfg : Cfg) (bufsize : Nat) (st : InSt) (mlen : Nat)
    (h : convUpto cfg.cm 0x0A bufsize (st.buf.drop st.cur) = .ok (-1, mlen, [])) (hi : cfg.ignoreEcerr = false) :
    convPart cfg bufsize st = .done { st with cur := st.cur + mlen } (.err .eecerr) := by
  unfold convPart; rw [h]; simp [hi]

theorem convPart_illegal_defer (cfg : Cfg) (bufsize : Nat) (st : InSt) (mlen : Nat) (out : List Nat)
    (h : convUpto cfg.cm 0x0A bufsize (st.buf.drop st.cur) = .ok (-1, mlen, out)) (hi : cfg.ignoreEcerr = false)
    (ho : out ≠ []) :
    convPart cfg bufsize st = .done { st with cur := st.cur + mlen, illseq := true } (.n out) := by
  unfold convPart; rw [h]; simp [hi, ho]

/-- what holds after the conversion part of a call: `Q` of a call that ends there, `J` of a tail shifted to the head -/
def Step.post (Q : InSt × Ret → Prop) (J : List UInt8 → Prop) : Step → Prop
  | .done st' r => Q (st', r)
  | .more tail => J tail

/-- what the handler call at `getc_conv` yields -/
def fillP (cfg : Cfg) (st : InSt) : List UInt8 × List (List UInt8) :=
  if st.eof then ([], st.src) else pull st.src (cfg.capa - st.buf.length)

theorem fillP_facts (cfg : Cfg) (st : InSt) :
    (fillP cfg st).1.length + srcBytes (fillP cfg st).2 = srcBytes st.src ∧
    (fillP cfg st).1.length ≤ cfg.capa - st.buf.length := by
  unfold fillP
  split
  · simp
  · exact ⟨pull_bytes _ _, pull_le _ _⟩

def refill (cfg : Cfg) (st : InSt) : InSt := { st with buf := st.buf ++ (fillP cfg st).1, src := (fillP cfg st).2 }

/-- the `n == 0` branch of `fill`: end of input at `getc_conv` -/
def fillEnd (cfg : Cfg) (st : InSt) : InSt × Ret :=
  let st1 : InSt := { st with eof := true, src := (fillP cfg st).2 }
  if st1.cur < st1.buf.length then
    if cfg.ignoreEcerr then ({ st1 with cur := st1.cur + 1 }, .n [0x3F]) else (st1, .err .eecerr)
  else (st1, .n [])

theorem fill_eof (cfg : Cfg) (bufsize : Nat) (st : InSt) (h : (fillP cfg st).1 = []) :
    fill cfg bufsize st = fillEnd cfg st := by
  rw [fill, fillEnd]
  simp only [fillP] at h ⊢
  rw [dif_pos h]

theorem fill_done (cfg : Cfg) (bufsize : Nat) (st : InSt) (h : (fillP cfg st).1 ≠ []) (st' : InSt) (r : Ret)
    (hc : convPart cfg bufsize (refill cfg st) = .done st' r) : fill cfg bufsize st = (st', r) := by
  rw [fill]
  simp only [refill, fillP] at h hc
  simp only [dif_neg h, hc]

theorem fill_more (cfg : Cfg) (bufsize : Nat) (st : InSt) (h : (fillP cfg st).1 ≠ []) (tail : List UInt8)
    (hc : convPart cfg bufsize (refill cfg st) = .more tail) :
    fill cfg bufsize st = fill cfg bufsize { refill cfg st with buf := tail, cur := 0 } := by
  rw [fill]
  simp only [refill, fillP] at h hc ⊢
  simp only [dif_neg h, hc]

/-- `tio_read_uchars` as a program with two assertions, `I` where a conversion starts and `J` at the label `getc_conv` where the
handler is asked; `Q` holds of what the call returns -/
theorem readU_rule (cfg : Cfg) (bufsize : Nat) (I J : InSt → Prop) (Q : InSt × Ret → Prop)
    (hempty : ∀ s, I s → s.buf.length ≤ s.cur → J { s with cur := 0, buf := [] })
    (hconv : ∀ s, I s → s.cur < s.buf.length → (convPart cfg bufsize s).post Q fun tail => J { s with buf := tail, cur := 0 })
    (hrefill : ∀ s, J s → s.cur = 0 → (fillP cfg s).1 ≠ [] → I (refill cfg s))
    (heof : ∀ s, J s → s.cur = 0 → (fillP cfg s).1 = [] → Q (fillEnd cfg s)) (st : InSt) (hi : I st) :
    Q (readU cfg bufsize st) := by
  have key : ∀ n s, srcBytes s.src < n → J s → s.cur = 0 → Q (fill cfg bufsize s) := by
    intro n
    induction n with
    | zero => intro s h; omega
    | succ n ih =>
      intro s hn hs h0
      by_cases hp : (fillP cfg s).1 = []
      · rw [fill_eof cfg bufsize _ hp]
        exact heof s hs h0 hp
      · have hpos := List.length_pos_iff.mpr hp
        have hc := hconv _ (hrefill s hs h0 hp) (by
          show s.cur < (s.buf ++ (fillP cfg s).1).length
          rw [List.length_append]; omega)
        cases hcp : convPart cfg bufsize (refill cfg s) with
        | done st' r =>
          rw [fill_done cfg bufsize _ hp st' r hcp]
          rwa [hcp] at hc
        | more tail =>
          rw [fill_more cfg bufsize _ hp tail hcp]
          rw [hcp] at hc
          have := (fillP_facts cfg s).1
          exact ih _ (by show srcBytes (fillP cfg s).2 < n; omega) hc rfl
  unfold readU
  by_cases hge : st.cur ≥ st.buf.length
  · rw [if_pos hge]
    exact key _ _ (Nat.lt_succ_self _) (hempty st hi hge) rfl
  · rw [if_neg hge]
    have hc := hconv st hi (by omega)
    cases hcp : convPart cfg bufsize st with
    | done st' r => rwa [hcp] at hc
    | more tail =>
      rw [hcp] at hc
      exact key _ _ (Nat.lt_succ_self _) hc rfl

/-- what a call on a well-formed stream returns: characters of the stream, none only at its end -/
def ReadOk (cm : Cmgr) (dom : Nat → Prop) (cs : List Nat) (res : InSt × Ret) : Prop :=
  ∃ out cs', res.2 = .n out ∧ cs = out ++ cs' ∧ Inv cm dom res.1 cs' ∧ (out = [] → cs = [])

/-- at `getc_conv` on a well-formed stream the staged bytes are a proper prefix of the next character -/
def Short (cm : Cmgr) (dom : Nat → Prop) (cs : List Nat) (s : InSt) : Prop :=
  Inv cm dom s cs ∧ ∀ c cs'', cs = c :: cs'' → s.buf.length < (encodeC cm c).length

theorem convPart_wf {cm : Cmgr} {dom : Nat → Prop} {maxlen : Nat} (hok : CodecOk cm dom maxlen) (cfg : Cfg) (hg : Good cfg cm maxlen) (bufsize : Nat) (hb : 1 ≤ bufsize) (cs : List Nat) (st : InSt)
    (hi : Inv cm dom st cs) (hne : st.cur < st.buf.length) :
    (convPart cfg bufsize st).post (ReadOk cm dom cs) fun tail => Short cm dom cs { st with buf := tail, cur := 0 } := by
  obtain ⟨x, mlen, out, cs', hconv, hcs, hml, hdrop, hx, hx3, hx0⟩ :=
    convUpto_wf hok 0x0A cs hi.bmp (st.buf.drop st.cur) st.src.flatten bufsize hi.stream
  rw [← hg.cm_eq] at hconv
  have hmne : st.buf.drop st.cur ≠ [] := by
    intro h0; have := congrArg List.length h0; simp at this; omega
  have hml' : st.cur + mlen ≤ st.buf.length := by simp at hml; omega
  have hdom' : Dom dom cs' := fun c hc => hi.bmp c (by rw [hcs]; simp [hc])
  have hinv : Inv cm dom { st with cur := st.cur + mlen } cs' :=
    ⟨hi.illseq, hml', hi.eof_src, hi.noEmpty, by simpa [List.drop_drop, Nat.add_comm] using hdrop, hdom'⟩
  rcases hx with rfl | rfl
  · have hon : out ≠ [] := by
      intro h0
      rcases hx0 rfl h0 with h | h
      · exact hmne h
      · omega
    rw [convPart_ok _ _ _ _ _ hconv]
    exact ⟨out, cs', rfl, hcs, hinv, fun h => absurd h hon⟩
  · by_cases hon : out = []
    · subst hon
      obtain ⟨c, cs'', h1, h3⟩ := hx3 rfl
      simp at hcs
      subst hcs
      rw [convPart_incomplete_nil _ _ _ _ hconv, if_neg (by simp [hg.legacy])]
      exact ⟨⟨hi.illseq, Nat.zero_le _, hi.eof_src, hi.noEmpty, by simpa [List.drop_drop, Nat.add_comm] using hdrop, hi.bmp⟩,
        fun c' cs' h' => by rw [h1] at h'; cases h'; simpa [List.drop_drop, Nat.add_comm] using h3⟩
    · rw [convPart_incomplete_some _ _ _ _ _ hconv hon]
      exact ⟨out, cs', rfl, hcs, hinv, fun h => absurd h hon⟩

theorem encodeC_length_le (cm : Cmgr) (c : Nat) (cs : List Nat) :
    (encodeC cm c).length ≤ (encodeAllC cm (c :: cs)).length := by
  rw [encodeAllC_cons]; simp

theorem fillP_keeps (cfg : Cfg) (st : InSt) (heof : st.eof = true → st.src = []) (hnoe : NoEmpty st.src) :
    (fillP cfg st).1 ++ (fillP cfg st).2.flatten = st.src.flatten ∧ NoEmpty (fillP cfg st).2 ∧
    (st.eof = true → (fillP cfg st).2 = []) := by
  unfold fillP
  cases he : st.eof with
  | true => simp [heof he, NoEmpty]
  | false => exact ⟨pull_flatten _ _, pull_noEmpty _ _ hnoe, fun h => nomatch h⟩

theorem fillP_wf (cfg : Cfg) (st : InSt) (heof : st.eof = true → st.src = []) (hnoe : NoEmpty st.src)
    (hroom : st.src ≠ [] → 1 ≤ cfg.capa - st.buf.length) (h : (fillP cfg st).1 = []) :
    st.src = [] ∧ (fillP cfg st).2 = [] := by
  have hs : st.src = [] := by
    cases he : st.eof with
    | true => exact heof he
    | false =>
      by_cases hs : st.src = []
      · exact hs
      · rw [fillP, he] at h
        exact pull_nil_of_noEmpty _ _ (hroom hs) hnoe h
  rw [fillP, hs]
  split <;> exact ⟨rfl, rfl⟩

theorem inv_refill {cm : Cmgr} {dom : Nat → Prop} (cfg : Cfg) (s : InSt) (cs : List Nat) (hi : Inv cm dom s cs) :
    Inv cm dom (refill cfg s) cs := by
  obtain ⟨hpf, hpn, hpe⟩ := fillP_keeps cfg s hi.eof_src hi.noEmpty
  refine ⟨hi.illseq, Nat.le_trans hi.cur_le (by simp [refill]), hpe, hpn, ?_, hi.bmp⟩
  show (s.buf ++ (fillP cfg s).1).drop s.cur ++ (fillP cfg s).2.flatten = _
  rw [List.drop_append_of_le_length hi.cur_le, List.append_assoc, hpf, hi.stream]

theorem Short.of_empty {cm : Cmgr} {dom : Nat → Prop} {maxlen : Nat} (hok : CodecOk cm dom maxlen) (cs : List Nat) (s : InSt) (hi : Inv cm dom s cs) (hge : s.buf.length ≤ s.cur) :
    Short cm dom cs { s with cur := 0, buf := [] } :=
  ⟨⟨hi.illseq, Nat.le_refl _, hi.eof_src, hi.noEmpty, by simpa [List.drop_eq_nil_of_le hge] using hi.stream, hi.bmp⟩,
    fun c cs'' hcs => (hok.enc_len c (hi.bmp c (by rw [hcs]; simp))).1⟩

/-- end of input at `getc_conv`: a whole character would fit, so there was room for a delivery, so the source is exhausted; the staged
bytes are then the whole stream and less than a character, so the stream is at its end -/
theorem Short.eof {cm : Cmgr} {dom : Nat → Prop} {maxlen : Nat} (hok : CodecOk cm dom maxlen) (cfg : Cfg) (hg : Good cfg cm maxlen) (cs : List Nat) (s : InSt) (hj : Short cm dom cs s)
    (h0 : s.cur = 0) (hp : (fillP cfg s).1 = []) : ReadOk cm dom cs (fillEnd cfg s) := by
  obtain ⟨his, hshort⟩ := hj
  have hstream := his.stream
  rw [h0, List.drop_zero] at hstream
  cases cs with
  | nil =>
    obtain ⟨hbuf, hsrc⟩ := List.append_eq_nil_iff.mp hstream
    have hsrc : s.src = [] := List.eq_nil_iff_forall_not_mem.mpr fun ch hch =>
      his.noEmpty ch hch (List.flatten_eq_nil_iff.mp hsrc ch hch)
    have hp2 : (fillP cfg s).2 = [] := by rw [fillP, hsrc]; split <;> rfl
    refine ⟨[], [], by simp [fillEnd, hbuf], rfl, ?_, fun _ => rfl⟩
    simp only [fillEnd, hbuf, List.length_nil, Nat.not_lt_zero, if_false]
    exact ⟨his.illseq, Nat.le_of_eq h0, fun _ => hp2, by simp [hp2, NoEmpty], by simp [hp2, encodeAllC_nil], his.bmp⟩
  | cons c cs'' =>
    exfalso
    have h1 := hshort c cs'' rfl
    have h2 := (hok.enc_len c (his.bmp c (by simp))).2
    have h3 := hg.capa
    obtain ⟨hsrc, _⟩ := fillP_wf cfg s his.eof_src his.noEmpty (fun _ => by omega) hp
    rw [hsrc, List.flatten_nil, List.append_nil] at hstream
    have h4 := encodeC_length_le cm c cs''
    rw [← hstream] at h4
    omega

theorem readU_wf {cm : Cmgr} {dom : Nat → Prop} {maxlen : Nat} (hok : CodecOk cm dom maxlen) (cfg : Cfg) (hg : Good cfg cm maxlen) (bufsize : Nat) (hb : 1 ≤ bufsize) (st : InSt) (cs : List Nat) (hi : Inv cm dom st cs) :
    ReadOk cm dom cs (readU cfg bufsize st) :=
  readU_rule cfg bufsize (Inv cm dom · cs) (Short cm dom cs) (ReadOk cm dom cs) (Short.of_empty hok cs)
    (convPart_wf hok cfg hg bufsize hb cs) (fun s hj _ _ => inv_refill cfg s cs hj.1) (Short.eof hok cfg hg cs) st hi

theorem readLoop_wf {cm : Cmgr} {dom : Nat → Prop} {maxlen : Nat} (hok : CodecOk cm dom maxlen) (cfg : Cfg) (hg : Good cfg cm maxlen) (size : Nat)
    (st : InSt) (acc : List Nat) : ∀ (cs : List Nat), Inv cm dom st cs →
      ∃ st' out cs', readLoop cfg size st acc = (st', .n (acc ++ out)) ∧ cs = out ++ cs' ∧ Inv cm dom st' cs' ∧
        (acc.length < size → out = [] → cs = []) := by
  fun_induction readLoop cfg size st acc with
  | case1 st acc hlt hill => intro cs hi; rw [hi.illseq] at hill; cases hill
  | case2 st acc hlt hill st' hr =>
    intro cs hi
    obtain ⟨out1, cs', hr1, hcs, hinv, h0⟩ := readU_wf hok cfg hg (size - acc.length) (by omega) st cs hi
    rw [hr] at hr1 hinv; cases hr1
    exact ⟨st', [], cs', by simp, hcs, hinv, fun _ _ => h0 rfl⟩
  | case3 st acc hlt hill st' o out hr acc' hnl =>
    intro cs hi
    obtain ⟨out1, cs', hr1, hcs, hinv, _⟩ := readU_wf hok cfg hg (size - acc.length) (by omega) st cs hi
    rw [hr] at hr1 hinv; cases hr1
    exact ⟨st', o :: out, cs', rfl, hcs, hinv, by simp⟩
  | case4 st acc hlt hill st' o out hr acc' hnl ih =>
    intro cs hi
    obtain ⟨out1, cs', hr1, hcs, hinv, _⟩ := readU_wf hok cfg hg (size - acc.length) (by omega) st cs hi
    rw [hr] at hr1 hinv; cases hr1
    obtain ⟨st2, out2, cs2, hr2, hcs2, hinv2, _⟩ := ih cs' hinv
    exact ⟨st2, o :: out ++ out2, cs2, by rw [hr2]; simp [acc'], by rw [hcs, hcs2]; simp, hinv2, by simp⟩
  | case5 st acc hlt hill st' r h1 h2 hr =>
    intro cs hi
    obtain ⟨out1, cs', hr1, _⟩ := readU_wf hok cfg hg (size - acc.length) (by omega) st cs hi
    rw [hr] at hr1; cases hr1
    cases out1 with
    | nil => exact absurd rfl h1
    | cons o out => exact absurd rfl (h2 o out)
  | case6 st acc hlt => intro cs hi; exact ⟨st, [], cs, by simp, by simp, hi, fun h => absurd h hlt⟩

theorem encodeAllC_length_pos {cm : Cmgr} {dom : Nat → Prop} {maxlen : Nat} (hok : CodecOk cm dom maxlen) (cs : List Nat) (hb : Dom dom cs) (h : cs ≠ []) : 0 < (encodeAllC cm cs).length := by
  cases cs with
  | nil => exact absurd rfl h
  | cons c cs' =>
    have := encodeC_length_le cm c cs'
    have := (hok.enc_len c (hb c (by simp))).1
    omega

theorem pending_inv {cm : Cmgr} {dom : Nat → Prop} (st : InSt) (cs : List Nat) (hi : Inv cm dom st cs) : pending st = (encodeAllC cm cs).length := by
  unfold pending
  rw [← hi.stream, srcBytes_eq]
  simp

theorem readAll_wf {cm : Cmgr} {dom : Nat → Prop} {maxlen : Nat} (hok : CodecOk cm dom maxlen) (cfg : Cfg) (hg : Good cfg cm maxlen) (size : Nat) (hs : 1 ≤ size)
    (st : InSt) (cs : List Nat) (hi : Inv cm dom st cs) : readAll cfg size st = (cs, .eof) := by
  induction hk : pending st using Nat.strongRecOn generalizing st cs with
  | _ k ih =>
    subst hk
    obtain ⟨st', out, cs', hr, hcs, hinv, h0⟩ := readLoop_wf hok cfg hg size st [] cs hi
    simp only [List.nil_append] at hr
    rw [readAll]
    unfold readUchars
    rw [hr]
    cases out with
    | nil =>
      have : cs = [] := h0 (by simp; omega) rfl
      subst this
      rfl
    | cons o out =>
      have hp : pending st' < pending st := by
        rw [pending_inv st cs hi, pending_inv st' cs' hinv, hcs, encodeAllC_append]
        have := encodeAllC_length_pos hok (o :: out) (fun c hc => hi.bmp c (by rw [hcs]; exact List.mem_append_left _ hc)) (by simp)
        simp; omega
      simp only
      rw [dif_pos hp, ih _ hp st' cs' hinv rfl, hcs]

def start (src : List (List UInt8)) : InSt := { src := src }

theorem inv_start {cm : Cmgr} {dom : Nat → Prop} (chunks : List (List UInt8)) (cs : List Nat) (hb : Dom dom cs) (hne : NoEmpty chunks)
    (hj : chunks.flatten = encodeAllC cm cs) : Inv cm dom (start chunks) cs :=
  ⟨rfl, by simp [start], by simp [start], hne, by simpa [start] using hj, hb⟩

/-- the staging buffer is used within its bounds -/
def Safe (cfg : Cfg) (st : InSt) : Prop := st.cur ≤ st.buf.length ∧ st.buf.length ≤ cfg.capa

/-- the call did not misbehave and stored no more than `bufsize` characters -/
def RetOk (bufsize : Nat) : Ret → Prop
  | .n out => out.length ≤ bufsize
  | .err _ => True
  | .fault _ => False

def Ret.count : Ret → Nat
  | .n out => out.length
  | _ => 0

def SafeAt (cfg : Cfg) (p : Nat) (s : InSt) : Prop := Safe cfg s ∧ pending s = p

/-- what a call on arbitrary bytes returns: no fault, at most `bufsize` characters, a byte consumed for each -/
def ReadSafe (cfg : Cfg) (bufsize p : Nat) (res : InSt × Ret) : Prop :=
  Safe cfg res.1 ∧ RetOk bufsize res.2 ∧ pending res.1 + res.2.count ≤ p

theorem convPart_safe (cfg : Cfg) (hdec : DecTotal cfg.cm) (hl : cfg.legacy = false) (bufsize p : Nat) (st : InSt) (hs : SafeAt cfg p st) :
    (convPart cfg bufsize st).post (ReadSafe cfg bufsize p) fun tail => SafeAt cfg p { st with buf := tail, cur := 0 } := by
  obtain ⟨hs, rfl⟩ := hs
  obtain ⟨x, mlen, out, hc, ho1, ho2, hm, hx, hxn, hm0⟩ := convUpto_total cfg.cm hdec 0x0A bufsize (st.buf.drop st.cur)
  have hm' : st.cur + mlen ≤ st.buf.length := by simp at hm; have := hs.1; omega
  have hpend : ∀ (il : Bool), pending { st with cur := st.cur + mlen, illseq := il } + out.length ≤ pending st := by
    intro il; simp [pending]; omega
  rcases hx with rfl | rfl | rfl
  · rw [convPart_ok _ _ _ _ _ hc]
    exact ⟨⟨hm', hs.2⟩, ho1, hpend st.illseq⟩
  · -- illegal sequence
    have hlt : st.cur + mlen < st.buf.length := by have := hxn (by decide); simp at this; omega
    cases hi : cfg.ignoreEcerr with
    | true =>
      by_cases hroom : out.length < bufsize
      · rw [convPart_illegal_subst _ _ _ _ _ hc hi (Or.inr hroom)]
        refine ⟨⟨by simp; omega, hs.2⟩, ?_, ?_⟩
        · simp [RetOk]; omega
        · simp [pending, Ret.count]; omega
      · rw [convPart_illegal_noroom _ _ _ _ _ hc hi hl hroom]
        exact ⟨⟨hm', hs.2⟩, ho1, hpend st.illseq⟩
    | false =>
      by_cases ho : out = []
      · subst ho
        rw [convPart_illegal_err _ _ _ _ hc hi]
        refine ⟨⟨hm', hs.2⟩, trivial, ?_⟩
        simp [pending, Ret.count]; omega
      · rw [convPart_illegal_defer _ _ _ _ _ hc hi ho]
        exact ⟨⟨hm', hs.2⟩, ho1, hpend true⟩
  · -- incomplete sequence
    by_cases ho : out = []
    · subst ho
      obtain rfl : mlen = 0 := hm0 rfl
      rw [convPart_incomplete_nil _ _ _ _ hc, if_neg (by simp [hl])]
      exact ⟨⟨Nat.zero_le _, by have := hs.2; simp; omega⟩, by simp [pending]⟩
    · rw [convPart_incomplete_some _ _ _ _ _ hc ho]
      exact ⟨⟨hm', hs.2⟩, ho1, hpend st.illseq⟩

theorem SafeAt.of_empty (cfg : Cfg) (p : Nat) (s : InSt) (h : SafeAt cfg p s) (hge : s.buf.length ≤ s.cur) :
    SafeAt cfg p { s with cur := 0, buf := [] } :=
  ⟨⟨Nat.zero_le _, Nat.zero_le _⟩, by rw [← h.2]; simp [pending]; omega⟩

theorem safeAt_refill (cfg : Cfg) (p : Nat) (s : InSt) (h : SafeAt cfg p s) : SafeAt cfg p (refill cfg s) := by
  obtain ⟨h1, h2⟩ := fillP_facts cfg s
  obtain ⟨⟨h3, h4⟩, rfl⟩ := h
  exact ⟨⟨by simp [refill]; omega, by simp [refill]; omega⟩, by simp [refill, pending]; omega⟩

theorem SafeAt.eof (cfg : Cfg) (bufsize : Nat) (hb : 1 ≤ bufsize) (p : Nat) (s : InSt) (h : SafeAt cfg p s)
    (hp : (fillP cfg s).1 = []) : ReadSafe cfg bufsize p (fillEnd cfg s) := by
  obtain ⟨⟨hs1, hs2⟩, rfl⟩ := h
  have hbytes := (fillP_facts cfg s).1
  rw [hp, List.length_nil, Nat.zero_add] at hbytes
  unfold fillEnd
  simp only
  by_cases hlt : s.cur < s.buf.length
  · rw [if_pos hlt]
    cases cfg.ignoreEcerr with
    | true => exact ⟨⟨hlt, hs2⟩, hb, by simp [pending, Ret.count, hbytes]; omega⟩
    | false => exact ⟨⟨hs1, hs2⟩, trivial, by simp [pending, Ret.count, hbytes]⟩
  · rw [if_neg hlt]
    exact ⟨⟨hs1, hs2⟩, Nat.zero_le _, by simp [pending, Ret.count, hbytes]⟩

theorem readU_safe (cfg : Cfg) (hdec : DecTotal cfg.cm) (hl : cfg.legacy = false) (bufsize : Nat) (hb : 1 ≤ bufsize) (st : InSt) (hs : Safe cfg st) :
    ReadSafe cfg bufsize (pending st) (readU cfg bufsize st) :=
  readU_rule cfg bufsize (SafeAt cfg (pending st)) (SafeAt cfg (pending st)) (ReadSafe cfg bufsize (pending st)) (SafeAt.of_empty cfg _)
    (fun s hi _ => convPart_safe cfg hdec hl bufsize _ s hi) (fun s hj _ _ => safeAt_refill cfg _ s hj) (fun s hj _ => SafeAt.eof cfg bufsize hb _ s hj) st ⟨hs, rfl⟩

theorem readLoop_safe (cfg : Cfg) (hdec : DecTotal cfg.cm) (hl : cfg.legacy = false) (size : Nat) (st : InSt) (acc : List Nat) :
    Safe cfg st → acc.length ≤ size →
      ∃ st' r, readLoop cfg size st acc = (st', r) ∧ Safe cfg st' ∧ RetOk size r ∧
        pending st' + r.count ≤ pending st + acc.length := by
  fun_induction readLoop cfg size st acc with
  | case1 st acc hlt hill =>
    intro hs ha
    exact ⟨_, _, rfl, hs, trivial, by simp [pending, Ret.count]⟩
  | case2 st acc hlt hill st' hr =>
    intro hs ha
    obtain ⟨hs', hok, hp⟩ := readU_safe cfg hdec hl (size - acc.length) (by omega) st hs
    rw [hr] at hs' hok hp
    exact ⟨st', _, rfl, hs', ha, by simp [Ret.count] at hp ⊢; omega⟩
  | case3 st acc hlt hill st' o out hr acc' hnl =>
    intro hs ha
    obtain ⟨hs', hok, hp⟩ := readU_safe cfg hdec hl (size - acc.length) (by omega) st hs
    rw [hr] at hs' hok hp
    have hlen : acc'.length ≤ size := by simp [RetOk] at hok; simp [acc']; omega
    exact ⟨st', _, rfl, hs', hlen, by simp [Ret.count, acc'] at hp ⊢; omega⟩
  | case4 st acc hlt hill st' o out hr acc' hnl ih =>
    intro hs ha
    obtain ⟨hs', hok, hp⟩ := readU_safe cfg hdec hl (size - acc.length) (by omega) st hs
    rw [hr] at hs' hok hp
    have hlen : acc'.length ≤ size := by simp [RetOk] at hok; simp [acc']; omega
    obtain ⟨st2, r2, hr2, hs2, hok2, hp2⟩ := ih hs' hlen
    exact ⟨st2, r2, hr2, hs2, hok2, by simp [Ret.count, acc'] at hp hp2 ⊢; omega⟩
  | case5 st acc hlt hill st' r h1 h2 hr =>
    intro hs ha
    obtain ⟨hs', hok, hp⟩ := readU_safe cfg hdec hl (size - acc.length) (by omega) st hs
    rw [hr] at hs' hok hp
    cases r with
    | n out =>
      cases out with
      | nil => exact absurd rfl h1
      | cons o out => exact absurd rfl (h2 o out)
    | err e => exact ⟨st', _, rfl, hs', trivial, by simp [Ret.count] at hp ⊢; omega⟩
    | fault f => exact absurd hok (by simp [RetOk])
  | case6 st acc hlt =>
    intro hs ha
    exact ⟨st, _, rfl, hs, ha, by simp [Ret.count]⟩

theorem readAll_safe (cfg : Cfg) (hdec : DecTotal cfg.cm) (hl : cfg.legacy = false) (size : Nat) (st : InSt) (hs : Safe cfg st) :
    (readAll cfg size st).2 = .eof ∨ ∃ e, (readAll cfg size st).2 = .err e := by
  induction hk : pending st using Nat.strongRecOn generalizing st with
  | _ k ih =>
    subst hk
    obtain ⟨st', r, hr, hs', hok, hp⟩ := readLoop_safe cfg hdec hl size st [] hs (by simp)
    rw [readAll]; unfold readUchars; rw [hr]
    cases r with
    | n out =>
      cases out with
      | nil => exact Or.inl rfl
      | cons o out =>
        have hpl : pending st' < pending st := by simp [Ret.count] at hp; omega
        simp only
        rw [dif_pos hpl]
        exact ih _ hpl st' hs' rfl
    | err e => exact Or.inr ⟨e, rfl⟩
    | fault f => exact absurd hok (by simp [RetOk])

/-- "a" followed by a byte that starts no character, with room for one character: the input of
`C15.legacy_stores_out_of_bounds` and `C15.repaired_keeps_within_room` -/
theorem convUpto_letter_then_illegal : convUpto (utf8Cmgr T) 0x0A 1 [0x61, 0xFF] = .ok (-1, 1, [0x61]) := by
  have h2 : convUpto (utf8Cmgr T) 0x0A 0 [0xFF] = .ok (-1, 0, []) := by
    rw [convUpto_step (utf8Cmgr T) 0x0A 0 [0xFF] 0 0 (by simp) rfl]; rfl
  rw [convUpto_step (utf8Cmgr T) 0x0A 1 [0x61, 0xFF] 1 0x61 (by simp) rfl]
  simp only [show ([0x61, 0xFF] : List UInt8).drop 1 = [0xFF] by rfl, show (1 - 1) = 0 by rfl, h2]
  rfl

theorem copyBytes_spec : ∀ (l : List UInt8) (room : Nat),
    (copyBytes l room).1 <+: l ∧ (copyBytes l room).1.length ≤ room ∧
    ((copyBytes l room).1 = [] → l = [] ∨ room = 0) := by
  intro l
  induction l with
  | nil => intro room; simp [copyBytes]
  | cons b rest ih =>
    intro room
    cases room with
    | zero => simp [copyBytes]
    | succ room =>
      rw [copyBytes]
      split
      · simp
      · obtain ⟨h1, h2, _⟩ := ih room
        refine ⟨?_, by simp; omega, by simp⟩
        simpa using h1

/-- the bytes not yet handed to the caller -/
def remaining (st : InSt) : List UInt8 := st.buf.drop st.cur ++ st.src.flatten

theorem pending_remaining (st : InSt) : pending st = (remaining st).length := by
  simp [pending, remaining, srcBytes_eq]

theorem copyBytes_remaining (s : InSt) (room : Nat) (hroom : 1 ≤ room) (hcur : s.cur < s.buf.length) :
    (copyBytes (s.buf.drop s.cur) room).1 ≠ [] ∧
    remaining s = (copyBytes (s.buf.drop s.cur) room).1 ++
      remaining { s with cur := s.cur + (copyBytes (s.buf.drop s.cur) room).1.length } := by
  obtain ⟨⟨t, ht⟩, _, hnil⟩ := copyBytes_spec (s.buf.drop s.cur) room
  generalize (copyBytes (s.buf.drop s.cur) room).1 = r1 at ht hnil ⊢
  refine ⟨fun h0 => ?_, ?_⟩
  · rcases hnil h0 with h | h
    · have := congrArg List.length h; simp at this; omega
    · omega
  · have hdrop : s.buf.drop (s.cur + r1.length) = t := by
      rw [← List.drop_drop, ← ht, List.drop_left]
    simp only [remaining, hdrop]
    rw [← List.append_assoc, ht]

theorem readBLoop_spec (cfg : Cfg) (hc : 1 ≤ cfg.capa) (size : Nat) (st : InSt) (acc : List UInt8) : NoEmpty st.src →
      ∃ st' out, readBLoop cfg size st acc = (st', acc ++ out) ∧ remaining st = out ++ remaining st' ∧ NoEmpty st'.src ∧
        (acc.length < size → out = [] → remaining st = []) := by
  -- the optional refill leaves the unread bytes as they are, and leaves some staged unless the source is exhausted
  have hfill : ∀ (st : InSt) (o : Option InSt), NoEmpty st.src →
      (if st.cur ≥ st.buf.length then
        if (pull st.src cfg.capa).1 = [] then none
        else some { st with buf := (pull st.src cfg.capa).1, cur := 0, src := (pull st.src cfg.capa).2 }
      else some st) = o →
      match o with
      | none => st.buf.length ≤ st.cur ∧ st.src = []
      | some s1 => remaining s1 = remaining st ∧ NoEmpty s1.src ∧ s1.cur < s1.buf.length := by
    intro st o hne ho
    by_cases hge : st.cur ≥ st.buf.length
    · rw [if_pos hge] at ho
      by_cases hp : (pull st.src cfg.capa).1 = []
      · rw [if_pos hp] at ho; subst ho
        exact ⟨hge, pull_nil_of_noEmpty st.src cfg.capa hc hne hp⟩
      · rw [if_neg hp] at ho; subst ho
        exact ⟨by simp [remaining, pull_flatten, List.drop_eq_nil_of_le hge], pull_noEmpty _ _ hne,
          by simpa using List.length_pos_iff.mpr hp⟩
    · rw [if_neg hge] at ho; subst ho
      exact ⟨rfl, hne, by omega⟩
  fun_induction readBLoop cfg size st acc with
  | case1 st acc hlt st1 h1 =>
    intro hne
    obtain ⟨h2, h3⟩ := hfill st none hne h1
    exact ⟨_, [], by rw [List.append_nil], by simp [remaining, h3, pull], by simp [h3, pull, NoEmpty], fun _ _ => by simp [remaining, h3, h2]⟩
  | case2 st acc hlt st1 s1 h1 r st2 hstop =>
    intro hne
    obtain ⟨h2, h3, h4⟩ := hfill st (some s1) hne h1
    obtain ⟨hr1, hrem⟩ := copyBytes_remaining s1 (size - acc.length) (by omega) h4
    exact ⟨_, _, rfl, h2 ▸ hrem, h3, fun _ h => absurd h hr1⟩
  | case3 st acc hlt st1 s1 h1 r st2 hstop ih =>
    intro hne
    obtain ⟨h2, h3, h4⟩ := hfill st (some s1) hne h1
    obtain ⟨hr1, hrem⟩ := copyBytes_remaining s1 (size - acc.length) (by omega) h4
    obtain ⟨st', out, hrec, hrem3, hne3, _⟩ := ih h3
    refine ⟨st', r.1 ++ out, by rw [hrec, List.append_assoc], ?_, hne3, fun _ h => absurd (List.append_eq_nil_iff.mp h).1 hr1⟩
    rw [← h2, hrem, hrem3, List.append_assoc]
  | case4 st acc hlt => intro hne; exact ⟨st, [], by simp, by simp, hne, fun h => absurd h hlt⟩

theorem readAllBytes_spec (cfg : Cfg) (hc : 1 ≤ cfg.capa) (size : Nat) (hs : 1 ≤ size) (st : InSt) (hne : NoEmpty st.src) :
    readAllBytes cfg size st = (remaining st, true) := by
  induction hk : pending st using Nat.strongRecOn generalizing st with
  | _ k ih =>
    subst hk
    obtain ⟨st', out, hr, hrem, hne', h0⟩ := readBLoop_spec cfg hc size st [] hne
    rw [readAllBytes]; unfold readBchars; rw [hr]
    cases out with
    | nil => simp [h0 (by simp; omega) rfl]
    | cons b bs =>
      have hp : pending st' < pending st := by
        rw [pending_remaining, pending_remaining, hrem]; simp; omega
      simp only [List.nil_append]
      rw [dif_pos hp, ih _ hp st' hne' rfl, hrem]

end Hawk.Tio
