import HawkModel.DepthLemmas
import HawkModel.Gen.CallGraph
/-!
  C14 - "Configured limits turn runaway nesting and recursion into errors".

  Graph half over `Gen.CallGraph` (regenerated from the sources by extract/callgraph.py on every check), behavioural
  half over the counter arithmetic of `Depth`.
  PARTIAL: residual edges (unguarded recursion cycles, `CallGraph.residualGroups`) are left out of the bounded graph -
  there is none in the current tree; a new one is real, see `residual_walks_closed` + `closed_walk_unbounded`, and breaks
  `residual_groups_known` - and the classes beyond the first `nLimitClasses` are assumptions with the reason given in
  extract/callgraph.py - in particular `tree-depth`: destructor and deparser recurse as deep as the parse tree,
  which the parser bounds; every call site of those is listed in `knownResidualSiteIds` (`residual_edges_known`).
-/
namespace Hawk.Props.C14
open Hawk.Depth
open Hawk.Gen

/-- Every call stack that the abstract machine can reach - calls along edges of the graph, made by the running
    function, refused when the counter of the edge's cut class has reached its limit - has at most
    (Σ limits + 1) · |V| frames, provided the plain edges go upwards in the node numbering (hence are acyclic),
    no residual edge is present and classes are in range.  For all operation histories. -/
theorem stack_bounded_of_cut_cycles (g : Graph) (hg : g.Good) (root : Nat) (ops : List Op) (s : St)
    (h : run g root St.init ops = some s) :
    s.stack.length ≤ (sumLimits g.limit g.nClasses + 1) * g.nNodes :=
  stack_bounded hg h

/-- the counters of the machine are exactly the number of frames entered through each cut class, and never
    exceed the configured limit -/
theorem counters_track_frames (g : Graph) (root : Nat) (ops : List Op) (s : St)
    (h : run g root St.init ops = some s) (c : Nat) (hc : 2 ≤ c) :
    s.ctr c = clsCount c s.stack ∧ clsCount c s.stack ≤ g.limit c := by
  have hi := inv_run ops St.init s (inv_init g) h
  exact ⟨hi.ctr c hc, hi.lim c hc⟩

/-- every counter returns to its entry value on every exit path: whenever the machine is back at the stack it had
    at some earlier moment - after evaluations that finished, or that were abandoned by unwinding (an error, `exit`) -
    each counter holds what it held then.  A counter that is left too high by an early exit is excluded by the
    machine; `counters_balanced_in_code` checks the corresponding idiom in the C sources. -/
theorem counters_balanced (g : Graph) (root : Nat) (ops1 ops2 : List Op) (s1 s2 : St)
    (h1 : run g root St.init ops1 = some s1) (h2 : run g root s1 ops2 = some s2)
    (hs : s2.stack = s1.stack) (c : Nat) (hc : 2 ≤ c) : s2.ctr c = s1.ctr c := by
  have i1 := inv_run ops1 St.init s1 (inv_init g) h1
  have i2 := inv_run ops2 s1 s2 i1 h2
  rw [i2.ctr c hc, i1.ctr c hc, hs]

/-- "the subgraph of plain calls is acyclic": with the certificate, no non-empty stack of plain calls returns to
    the function it started from -/
theorem plain_calls_acyclic (n : Nat) (es : List Edge) (hO : Ordered n es) (s : List Edge) (hne : s ≠ [])
    (hc : Chain s) (hm : ∀ e ∈ s, e ∈ es ∧ e.cls = 0) : bottom 0 s ≠ top 0 s :=
  Nat.ne_of_lt (plain_chain_increasing hO s hne hc hm)

theorem certificate_sound (n : Nat) (es : List Edge) (h : orderedCheck n es = true) : Ordered n es :=
  orderedCheck_sound h

/-- the converse direction of `stack_bounded_of_cut_cycles`: a closed walk of edges of one class that carries no limit
    (plain or residual) yields call stacks of every length on which no limit check ever fires -/
theorem closed_walk_unbounded (es : List Edge) (c : Nat) (w : List Nat) (h : closedWalkCheck es c w = true) (k : Nat) :
    Chain (spin w c k) ∧ (∀ e ∈ spin w c k, e ∈ es ∧ e.cls = c) ∧ (spin w c k).length = k :=
  ⟨spin_chain w c k, spin_mem h k, spin_length w c k⟩

/-- the certificate for the extracted graph: every plain, non-residual call goes up in the node order -/
theorem unguarded_acyclic : Ordered CallGraph.nNodes CallGraph.edges :=
  orderedCheck_sound (by decide +kernel)

theorem classes_in_range : ∀ e ∈ CallGraph.edges, Edge.cls e < CallGraph.classNames.length + 2 := by
  have h : (CallGraph.edges.all fun (e : Edge) => decide (e.cls < CallGraph.classNames.length + 2)) = true := by decide +kernel
  exact fun e he => of_decide_eq_true (List.all_eq_true.mp h e he)

/-- no recursion through plain calls only: a stack of plain calls of libhawk never returns to its first function -/
theorem hawk_plain_calls_acyclic (s : List Edge) (hne : s ≠ []) (hc : Chain s)
    (hm : ∀ e ∈ s, e ∈ CallGraph.edges ∧ e.cls = 0) : bottom 0 s ≠ top 0 s :=
  plain_calls_acyclic _ _ unguarded_acyclic s hne hc hm

/-- libhawk's recursive call graph without the residual (known unguarded) cycles, under limits `L` per class -/
def hawkGraph (L : Nat → Nat) : Graph :=
  { nNodes := CallGraph.nNodes, edges := dropResidual CallGraph.edges, nClasses := CallGraph.classNames.length, limit := L }

theorem hawkGraph_good (L : Nat → Nat) : (hawkGraph L).Good :=
  ⟨fun e he => unguarded_acyclic e (mem_dropResidual he).1,
   fun e he => ⟨(mem_dropResidual he).2, classes_in_range e (mem_dropResidual he).1⟩⟩

/-- PARTIAL (bounded native stack in frames): whatever finite limits are configured for the cut classes, every call
    stack over the recursive functions of libhawk that avoids the residual edges has at most
    (Σ limits + 1) · |V| frames.  Missing for the full property: the residual groups (unguarded recursion; none in
    the current tree) - see `residual_walks_closed`; the assumption classes (`classNames` beyond the first
    `nLimitClasses`, the recursion of tree destructor and deparser among them) are trusted and take their bound from
    `L` like the checked ones; frames are counted, not bytes. -/
theorem hawk_stack_bounded_partial (L : Nat → Nat) (root : Nat) (ops : List Op) (s : St)
    (h : run (hawkGraph L) root St.init ops = some s) :
    s.stack.length ≤ (sumLimits L CallGraph.classNames.length + 1) * CallGraph.nNodes :=
  stack_bounded (hawkGraph_good L) h

/-- the negation of the full property on the extracted graph: every walk listed by the extractor really is a closed
    walk of residual edges - with `closed_walk_unbounded`, an unbounded recursion that no limit check stops -/
theorem residual_walks_closed : ∀ w ∈ CallGraph.residualWitness, closedWalkCheck CallGraph.edges 1 w = true := by
  decide +kernel

theorem residual_unbounded (w : List Nat) (hw : w ∈ CallGraph.residualWitness) (k : Nat) :
    ∃ s : List Edge, Chain s ∧ (∀ e ∈ s, e ∈ CallGraph.edges ∧ e.cls = 1) ∧ s.length = k :=
  ⟨spin w 1 k, closed_walk_unbounded _ 1 w (residual_walks_closed w hw) k⟩

/-- one witness per residual group, and no residual edge without a group -/
theorem residual_accounted :
    CallGraph.residualWitness.length = CallGraph.residualGroups.length ∧
    ((CallGraph.edges.any fun (e : Edge) => e.cls == 1) = true → CallGraph.residualGroups ≠ []) := by
  decide +kernel

/-- the unguarded recursion cycles that are known findings (KNOWN_FINDINGS.txt carries the same names);
    a new unguarded cycle - e.g. a guard removed - makes `residual_groups_known` fail -/
def knownUnguarded : List String := []

theorem residual_groups_known : ∀ g ∈ CallGraph.residualGroups, g ∈ knownUnguarded := by decide

/-- ids (crc32 of `caller -> callee [case label] (arguments) #occurrence`, see `CallGraph.residualSites`) of the call
    sites of the recursion that no counter guards: in the current tree, which has no residual group, those of the
    `tree-depth` assumption class (hawk_clrpt, the deparser).  `residual_groups_known` cannot see a recursive call that is
    added inside a function which already is on such a cycle (e.g. hawk_clrpt following one more field); this table does.
    Regenerate with `python3 extract/callgraph.py --sites` after a reviewed change; removing sites (a repair) needs no
    update. -/
def knownResidualSiteIds : List Nat := [
  27057555, 164522915, 300311399, 472273140, 519682834, 657953312, 717221731, 744145359,
  770135888, 802894717, 826162348, 848992113, 891567567, 1085377227, 1108807182, 1149179490,
  1185593408, 1203528065, 1249646398, 1256039768, 1270940016, 1307742785, 1340184560, 1403368870,
  1429209767, 1476495419, 1485087434, 1509651496, 1569036070, 1628821084, 1656803284, 1791931288,
  1824372499, 1845846751, 1968928514, 2004557919, 2123206196, 2135141319, 2146829993, 2185566364,
  2306183753, 2310903865, 2358858287, 2377967218, 2580352888, 2599256474, 2658383315, 2713726608,
  2720964984, 2722429466, 2781423069, 2817749248, 2826561837, 2862186312, 3002420710, 3012024355,
  3070625408, 3125925725, 3171627600, 3175074940, 3233990904, 3286730014, 3375188986, 3393763215,
  3403435554, 3425467926, 3447424282, 3502668978, 3569176767, 3613736371, 3662180466, 3674715529,
  3731263283, 3834863945, 3849371412, 3863673469, 3875493651, 3960007458, 4048297145, 4067150916,
  4074445382, 4169799292
]

theorem residual_edges_known : ∀ i ∈ CallGraph.residualSiteIds, i ∈ knownResidualSiteIds := by decide +kernel

/-- the structural side of `counters_balanced`: in the C sources no `return`/`goto` lies between a `depth.X++` and the
    `depth.X--` that undoes it, in any function that holds both (flag 0 in the extracted table = an early exit that
    leaves the counter too high for the rest of the life of the runtime) -/
theorem counters_balanced_in_code : ∀ r ∈ CallGraph.incDecPairs, r.2.2 ≠ 0 := by decide +kernel

/-- the table is not empty: the two run-time counters and the parse-time ones are in it, paired -/
theorem counter_pairs_present :
    (CallGraph.incDecPairs.filter fun r => r.2.2 == 1).length ≥ 5 ∧
    (CallGraph.incDecPairs.any fun r => r.2.1 == "depth.expr" && r.2.2 == 1) = true ∧
    (CallGraph.incDecPairs.any fun r => r.2.1 == "depth.block" && r.2.2 == 1) = true := by decide +kernel

/-- the limits that the guards of the code read are finite (> 0) under the CLI defaults, and the value-stack
    limit has a positive default not below its positive minimum -/
theorem defaults_positive :
    (∀ i, i < 5 → CallGraph.classNames.getD i "" ∈ CallGraph.limitsRead → 0 < CallGraph.cliDefaults.getD i 0) ∧
    0 < CallGraph.stackLimitMin ∧ CallGraph.stackLimitMin ≤ CallGraph.stackLimitDefault := by
  decide

/-- every limit the command-line tool sets is read by some guard of the library (an option that is stored but never
    compared with a counter limits nothing) -/
theorem cli_limits_enforced :
    ∀ i, i < 7 → 0 < CallGraph.cliDefaults.getD i 0 → CallGraph.classNames.getD i "" ∈ CallGraph.limitsRead := by
  decide

/-- the constants of the arithmetic model are the ones found in the sources -/
theorem model_defaults_match :
    [Limits.cli.incl, Limits.cli.blockParse, Limits.cli.blockRun, Limits.cli.exprParse, Limits.cli.exprRun] =
      CallGraph.cliDefaults.take 5 ∧
    CallGraph.classNames.take 5 = ["incl", "block_parse", "block_run", "expr_parse", "expr_run"] ∧
    stackDfl = CallGraph.stackLimitDefault ∧ stackMin = CallGraph.stackLimitMin := by
  decide

/-- the depth guard `if (limit > 0 && counter >= limit) error` lets level c+1 be entered iff unlimited or c < limit -/
theorem guard_threshold (limit c : Nat) : guardOk limit c = true ↔ limit = 0 ∨ c < limit :=
  guardOk_iff limit c

/-- n nested levels starting from counter value c pass all their checks iff they fit under the limit -/
theorem descend_iff_fits (limit n c : Nat) : descend limit n c = true ↔ n = 0 ∨ limit = 0 ∨ c + n ≤ limit :=
  descend_iff limit n c

/-- the value-stack guard `if (stack_limit - stack_top < req) error` -/
theorem stack_guard_threshold (limit top req : Nat) (h : top ≤ limit) :
    stackOk limit top req = true ↔ top + req ≤ limit :=
  stackOk_iff limit top req h

/-- the effective value-stack limit is never below HAWK_MIN_RTX_STACK_LIMIT, whatever option or pragma is given -/
theorem stack_limit_clamped (l : Limits) : stackMin ≤ effStack l := effStack_ge l

/-- the counter value reached, as a function of the nesting n: closed form of the request list of every family -/
theorem peak_formula (f : Family) (k : Kind) (n : Nat) : peak k (requests f n) = peakOf f k n :=
  peak_requests f k n

/-- the error reported names a limit that really is exceeded -/
theorem reject_names_exceeded_limit (l : Limits) (f : Family) (n : Nat) (k : Kind)
    (h : outcome l f n = .stopped k) : ¬ within l k (peakOf f k n) :=
  peak_requests f k n ▸ verdict_err_peak ((outcome_stopped_iff l f n k).1 h)

/-- the modelled checks stop the run iff some counter is asked for more than its configured limit:
    for every family, nesting and configuration -/
theorem reject_iff_exceeds (l : Limits) (f : Family) (n : Nat) :
    (∃ k, outcome l f n = .stopped k) ↔ ∃ k, ¬ within l k (peakOf f k n) := by
  rw [← Classical.not_forall, ← verdict_requests_ok_iff, outcome]
  cases verdict l (requests f n) <;> simp

/-- a program within all limits is not affected by the checks: it prints what it prints without limits -/
theorem within_limit_unaffected (l : Limits) (f : Family) (n : Nat)
    (h : ∀ k, within l k (peakOf f k n)) : outcome l f n = .printed (output f n) := by
  simp [outcome, (verdict_requests_ok_iff l f n).2 h]

/-- histories: a first phase that stayed within the limits and was left by `exit` d calls deep does not change what
    the second phase is allowed to do - the run behaves like the second phase alone -/
theorem phase_two_unaffected (l : Limits) (d n : Nat)
    (h : ∀ k, within l k (peakOf (.exitRec d) k 0)) : outcome l (.exitRec d) n = outcome l .recur n := by
  let P : List Req := [⟨Kind.blockParse, 1⟩, ⟨Kind.blockParse, 2⟩, ⟨Kind.exprParse, 1⟩, ⟨Kind.exprParse, 2⟩, ⟨Kind.exprParse, 3⟩]
  let A : List Req := [⟨Kind.blockRun, 1⟩, ⟨Kind.exprRun, 1⟩, ⟨Kind.exprRun, 2⟩, ⟨Kind.exprRun, 3⟩]
  have e1 : ∀ m, requests (.exitRec d) m = P ++ (A ++ recurFrom d 0) ++ (A ++ recurFrom m 0) :=
    fun _ => congrArg (P ++ ·) (List.append_assoc ..)
  have h0 := verdict_ok_left l _ _ (e1 0 ▸ (verdict_requests_ok_iff l (.exitRec d) 0).2 h)
  -- without the first phase the requests are those of `recur`, and so is the output
  rw [outcome, e1, verdict_cut l _ _ _ h0]
  rfl

/-- acceptance is downward closed in the nesting depth -/
theorem accept_downward_closed (l : Limits) (f : Family) (m n : Nat) (hmn : m ≤ n)
    (h : ∀ k, within l k (peakOf f k n)) : ∀ k, within l k (peakOf f k m) :=
  fun k => within_mono (peakOf_mono f k hmn) (h k)

/-- a cycle of one plain and one guarded call: reachable stacks exist, the bound is meaningful -/
def demo : Graph := { nNodes := 2, edges := [(0, 1, 0), (1, 0, 2)], nClasses := 1, limit := fun _ => 3 }

example : demo.Good := by
  constructor
  · exact orderedCheck_sound (by decide)
  · decide

example : ∃ s, run demo 0 St.init [.call (0, 1, 0), .call (1, 0, 2), .call (0, 1, 0)] = some s ∧ s.stack.length = 3 := by
  refine ⟨_, rfl, rfl⟩

/-- the guard really refuses: the 4th guarded call is not possible with limit 3 -/
example : run demo 0 St.init
    [.call (0, 1, 0), .call (1, 0, 2), .call (0, 1, 0), .call (1, 0, 2), .call (0, 1, 0), .call (1, 0, 2),
     .call (0, 1, 0), .call (1, 0, 2)] = none := by decide

/-- the extracted graph is not trivial: it has guarded edges of the expression and block limits -/
example : (CallGraph.edges.any fun (e : Edge) => e.cls == 5) = true ∧ (CallGraph.edges.any fun (e : Edge) => e.cls == 3) = true := by decide +kernel

/-- CLI defaults: 48 parentheses pass, 49 are stopped by the parse-time expression limit -/
example : outcome Limits.cli .paren 48 = .printed (some "1") ∧ outcome Limits.cli .paren 49 = .stopped .exprParse := by
  constructor
  · apply within_limit_unaffected; intro k; cases k <;> dsimp only [within, peakOf] <;> decide
  · decide

/-- CLI defaults: a 300 000-term chain is stopped by the run-time expression limit; 100 terms run -/
example : ¬ within Limits.cli .exprRun (peakOf .leftBin .exprRun 300000) ∧
    (∀ k, within Limits.cli k (peakOf .leftBin k 100)) := by
  constructor
  · dsimp only [within, peakOf]; decide
  · intro k; cases k <;> dsimp only [within, peakOf] <;> decide

end Hawk.Props.C14
