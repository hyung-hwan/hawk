import HawkModel.DeparseGlueTable
import HawkModel.DeparseStmtStable
import HawkModel.DeparseProgLemmas
/-!
  C17 — "Deparsed source is equivalent to the original": expressions, statements and the top level, token level.

  Model: `HawkModel/Deparse.lean` (`print` = lib/tree.c print_expr as repaired, `parse` = lib/parse.c
  parse_expr … parse_primary over the generated tables of `Gen/Precedence.lean`).
  `WFparse a`  : `a` is a tree the parser can return (`DeparseLemmas.lean`; inductive conditions: retained literal
                 text only on non-negative numbers, no unfolded constant operands, the right operand of `in` is a
                 variable, the operand of `++`, `--` and the target of an assignment a variable or `$e`;
                 NO condition on grouping: the parser keeps no node for parentheses).
  `norm a`     : the tree `parse (print a)` returns;  `Equiv` : equality up to the retained spelling of integer
                 literals and folding of unary operators over integer literals (`canon`).
  Statement level (`HawkModel/DeparseStmt.lean`): `printS` = lib/tree.c print_stmt, `parseStmt` = lib/parse.c
  parse_statement ... parse_print, keyword and redirection spellings from the generated `Gen/Keywords.lean`;
  `WFS` = the statement trees the parser can return, `normS` / `EquivS` = `norm` / `Equiv` in every expression position.
  Top level (same file): `printProg` = `deparse` / `deparse_func`, `parseProg` = the loop around parse_progunit; `WFI`, `normI`.
  Not covered here (correspondence only): getline forms, regular expression literals, string/char escapes,
  re-rendered floating-point constants, the parser's limit on nesting depth (`deparse_nesting_grows` states the growth only).
-/
namespace Hawk.Props.C17
open Hawk.Deparse Hawk.Gen.Precedence

/-- the deparsed text of every tree the parser can return is accepted by the parser, and the tree read back is
    exactly `norm a` -/
theorem roundtrip_exact (a : Ast) (h : WFparse a) : parse (print a) = .ok (norm a) :=
  parse_print a h

/-- ... and that tree is equivalent to the original one -/
theorem roundtrip (a : Ast) (h : WFparse a) : ∃ a', parse (print a) = .ok a' ∧ Equiv a' a :=
  ⟨norm a, parse_print a h, canon_norm a⟩

/-- every tree satisfying the inductive characterisation is (up to `norm`) in the image of `parse` -/
theorem wf_in_image (a : Ast) (h : WFparse a) : ∃ ts, parse ts = .ok (norm a) :=
  ⟨print a, parse_print a h⟩

/-- the same holds again for the deparse of the deparse: it is accepted, the tree read back is equivalent to the
    original, and the text of the third generation is identical to that of the second (deparsing is stable from the
    second generation on).  The first and the second text can differ in one way only: parse_unary_exp does not fold
    what parse_unary folds, so `2 ** -1` is first printed `(2 ** (-(1)))`, read back folded and printed `(2 ** (-1))`. -/
theorem roundtrip_twice (a : Ast) (h : WFparse a) :
    ∃ a' a'', parse (print a) = .ok a' ∧ parse (print a') = .ok a'' ∧ Equiv a'' a ∧
      print a'' = print a' ∧ printStr a'' = printStr a' := by
  refine ⟨norm a, norm (norm a), parse_print a h, parse_print (norm a) (WFparse_norm a h), ?_, ?_, ?_⟩
  · show canon (norm (norm a)) = canon a
    rw [canon_norm, canon_norm]
  · simp only [print, printP_norm_norm]
  · simp only [printStr, printP_norm_norm]

/-- the spelling the deparser writes for a binary operator is a token that exactly one ladder level maps back to the
    same operator, the levels below it leave that token alone, and `)` stops every level - including the level itself
    when it parses its own right operand (right-associative `**`, generated flag `rassoc`).  Per operator, evaluated on
    the generated tables.  Because print_expr parenthesises both operands, the round trip does not depend on the
    associativity of any level: `(a ** b) ** c` and `a ** (b ** c)` are both read back as written. -/
theorem ladder_reads_back_every_operator (op : BinOp) : binOK op = true := binOK_all op

/-- assignment, unary and increment operators: spelling -> token -> same opcode -/
theorem assign_spelling_reads_back (op : AssOp) : assignToks.lookup (assTok op).k = some op := assign_lookup op
theorem unary_spelling_reads_back (op : UnrOp) : unaryToks.lookup (unrTok op).k = some op := unary_lookup op
theorem incdec_spelling_reads_back (op : IncOp) : incToks.lookup (incTok op).k = some op := inc_lookup op

/-- no token gluing: in the text print_expr writes for a tree, any two neighbouring tokens with no blank between them
    pass `cutOK` (the first one, followed by the first character of the second, is not the beginning of a longer
    symbol of get_symbols()'s table, resp. the second one starts with a character that ends an identifier / number);
    the text starts with a token of the start class and ends with one of the end class.
    E.g. `a - -b` is written `(a - (-(b)))`, `a - --b` is `(a - --(b))`: the blanks and parentheses of print_expr
    keep `-` `-` from becoming `--`. -/
theorem print_no_glue (a : Ast) (h : WFparse a) : adjOK (printP a) = true := (shape_print a h).ok

theorem print_starts_and_ends_cleanly (a : Ast) (h : WFparse a) :
    (∃ t, firstT (printP a) = some t ∧ startTok t = true) ∧ (∃ u, lastT (printP a) = some u ∧ endTok u = true) :=
  ⟨(shape_print a h).first, (shape_print a h).last⟩

/-- `cutOK` against the C lexer: for every symbol print_expr writes directly before another token and every symbol of the
    table as follower, either `cutOK`'s extension test fires or the C's walk over `ops[]` cuts exactly after the first -/
theorem cutOK_agrees_with_get_symbols :
    gluePrinted.all (fun s1 => symTable.all (fun e2 =>
      match e2.1.toList with
      | c :: _ => extendsCC s1 (.ch c) ||
          (symWalk symTable 0 (s1.toList ++ e2.1.toList) == some (s1, tkOfSpelling s1, e2.1.toList))
      | [] => true)) = true := cut_sound_symbols

/-- the hazard the blanks guard against is real: without the blank, `-` followed by `-` is one token `--` -/
theorem minus_minus_glues : cutOK tMINUS tMINUS = false ∧
    symWalk symTable 0 ['-', '-', 'b'] = some ("--", .MINUSMINUS, ['b']) := by decide +kernel

/-- finding `deparse-nesting-depth` stated on the model: a left-leaning chain with `n` operators, which parse_binary
    reads in a loop at constant nesting depth, is printed with `n` nested parentheses - one parse_expr_withdc level each
    when the text is read again (the CLI limits that depth to 50) -/
theorem deparse_nesting_grows (n : Nat) : parenDepth (print (chain n)) = n := by
  simp [parenDepth, chain_depth n 0 0 (Nat.le_refl 0)]

/-! non-vacuity: trees with every node kind satisfy `WFparse`, and the round trip gives the expected concrete trees -/

/-- `x = (c ? a[1,y] : -z) ** f(2, "s") %% (q += $(i)++) in m` -/
example : WFparse
    (.ass .NONE (.var "x")
      (.bin .IN
        (.bin .CONCAT
          (.bin .EXP (.cnd (.var "c") (.idx "a" (.cons (.int 1 (some "1")) (.cons (.var "y") .nil))) (.unr .MINUS (.var "z")))
            (.call "f" (.cons (.int 2 (some "0x2")) (.cons (.lit .STR "\"s\"") .nil))))
          (.ass .PLUS (.var "q") (.incpst .PLUS (.pos (.var "i")))))
        (.var "m"))) := by
  simp [WFparse, WFparseL, litKinds, Ast.isVar, Ast.isPos, Ast.isFlt, foldable]

example : WFparse (.bin .EXP (.int (-1) none) (.unr .MINUS (.int 1 (some "1")))) := by
  simp [WFparse, foldable, Ast.isFlt]

example : WFparse (.grp (.cons (.int 1 (some "1")) (.cons (.int 2 (some "2")) .nil))) := by
  simp [WFparse, WFparseL, AstL.length]

/-- `(-1) ** -1`: the negative constant stays one operand; the unfolded unary minus is folded on the way back -/
example : parse (print (.bin .EXP (.int (-1) none) (.unr .MINUS (.int 1 (some "1")))))
    = .ok (.bin .EXP (.int (-1) none) (.int (-1) none)) := by
  rw [roundtrip_exact _ (by simp [WFparse, foldable, Ast.isFlt])]
  simp [norm, foldUnrInt, wrap64]

/-- `a %% (-1)`: printed with the explicit operator and a parenthesised constant, read back unchanged -/
example : parse (print (.bin .CONCAT (.var "a") (.int (-1) none))) = .ok (.bin .CONCAT (.var "a") (.int (-1) none)) := by
  rw [roundtrip_exact _ (by simp [WFparse, foldable])]
  simp [norm]

/-- every statement tree the parser can return, printed by print_stmt at any depth with any number of enclosing locals,
    is accepted by the statement parser, which returns exactly `normS s` (the same tree with every expression read back as the
    expression theorems say) and consumes the whole text up to newlines.  Hence acceptance and, equal trees running equally,
    identical behaviour.  Covers: null statement, blocks with @local declarations (the count is read back), if / if-else
    including else-if ladders (`WFS` states the dangling-else condition the parser guarantees: the then-part of an if-else
    does not end in an open if), while, do-while, for with every combination of empty parts, for-in, break, continue,
    return, exit, @abort, next, nextfile, nextofile, delete, @reset, print / printf with argument lists, expression statements.
    A last argument that is itself a `>`, `>>`, `|`, `||` node - `print (a > b);` - is covered: parse_print would take it apart
    again, but its parenthesis bookkeeping (`closesAtEnd`: the closing parenthesis before the terminator closes the one the
    argument began with) says the argument was parenthesised.
    print / printf WITH a redirection (`>`, `>>`, `|`, `||`, also with no argument) is covered: the last argument and the target
    are read as ONE binary node up to the `;`, parse_print's parenthesis bookkeeping is NOT confirmed because the parenthesis the
    argument may begin with is closed before the end of what was consumed, and the node is taken apart again into argument and target.
    `_partial` only because getline (an expression node the expression model answers `unsupported` for) is not in the model. -/
theorem stmt_roundtrip_partial (s : Stmt) (h : WFS s) (outer d : Nat) :
    ∃ r, parseStmt (sz s) outer (toksS (printS outer d s)) = .ok (normS s, r) ∧ dropNl r = [] :=
  rtS_end s h outer d (sz s) (Nat.le_refl _)

/-- the same with more text behind the statement: nothing of it is consumed but newlines, unless the statement ends in an
    open `if` and an `else` follows (the dangling else) -/
theorem stmt_roundtrip_in_context_partial (s : Stmt) (h : WFS s) (outer d n : Nat) (rest : List Tok) (hn : sz s ≤ n)
    (hd : openIf s = true → k1 (dropNl rest) ≠ some .ELSE) :
    ∃ r, parseStmt n outer (toksS (printS outer d s) ++ rest) = .ok (normS s, r) ∧ dropNl r = dropNl rest :=
  rtS s h outer d n rest hn hd

/-- the dangling else is real: `if (a) if (b) x; else y;` printed from the tree whose OUTER if owns the else is read back
    with the else on the inner if - which is why the parser never returns such a tree and `WFS` excludes it -/
theorem dangling_else_witness :
    toksS (printS 0 0 (.ife (.var "a") (.ift (.var "b") (.expr (.var "x"))) (.expr (.var "y"))))
      = toksS (printS 0 0 (.ift (.var "a") (.ife (.var "b") (.expr (.var "x")) (.expr (.var "y"))))) ∧
    ∃ r, parseStmt 4 0 (toksS (printS 0 0 (.ife (.var "a") (.ift (.var "b") (.expr (.var "x"))) (.expr (.var "y")))))
      = .ok (.ift (.var "a") (.ife (.var "b") (.expr (.var "x")) (.expr (.var "y"))), r) := by
  have e : toksS (printS 0 0 (.ife (.var "a") (.ift (.var "b") (.expr (.var "x"))) (.expr (.var "y"))))
      = toksS (printS 0 0 (.ift (.var "a") (.ife (.var "b") (.expr (.var "x")) (.expr (.var "y"))))) := by decide +kernel
  refine ⟨e, ?_⟩
  rw [e]
  obtain ⟨r, h, _⟩ := stmt_roundtrip_partial (.ift (.var "a") (.ife (.var "b") (.expr (.var "x")) (.expr (.var "y"))))
    (by simp [WFS, WFparse, openIf]) 0 0
  exact ⟨r, by simpa [normS, norm, sz] using h⟩

/-- the tree read back is equivalent to the original one -/
theorem stmt_equiv (s : Stmt) : EquivS (normS s) s := canon_normS s

/-- printer idempotence: the text of the tree read back from the printed text does not change any more when it is printed,
    read and printed again (`print (parse (print (parse (print s)))) = print (parse (print s))`, with `parse ∘ print = normS`) -/
theorem stmt_print_stable (s : Stmt) (outer d : Nat) :
    renderS (printS outer d (normS (normS s))) = renderS (printS outer d (normS s)) := by
  rw [printS_norm_norm]

/-- the same again for the deparse of the deparse: the second text is accepted too, the tree read back from it is equivalent to
    the original, and the third text is the second one (`n` = any fuel that is enough for the tree) -/
theorem stmt_roundtrip_twice_partial (s : Stmt) (h : WFS s) (outer d n : Nat) (hn : sz s ≤ n) :
    ∃ r r', parseStmt n outer (toksS (printS outer d s)) = .ok (normS s, r) ∧
      parseStmt n outer (toksS (printS outer d (normS s))) = .ok (normS (normS s), r') ∧
      EquivS (normS (normS s)) s ∧
      renderS (printS outer d (normS (normS s))) = renderS (printS outer d (normS s)) := by
  obtain ⟨r, h1, _⟩ := rtS_end s h outer d n hn
  obtain ⟨r', h2, _⟩ := rtS_end (normS s) (WFS_norm s h) outer d n (by rw [sz_normS]; exact hn)
  refine ⟨r, r', h1, h2, ?_, by rw [printS_norm_norm]⟩
  show canonS (normS (normS s)) = canonS s
  rw [canon_normS, canon_normS]

/-- keyword spellings: what print_stmt writes for a keyword (hawk_getkwname = the generated `kwtab[]`) is classified back
    as that keyword by the lexer's table lookup - for every keyword print_stmt / the top level writes -/
theorem keyword_spelling_reads_back :
    [TK.XLOCAL, .XGLOBAL, .XRESET, .XABORT, .IF, .ELSE, .WHILE, .DO, .FOR, .BREAK, .CONTINUE, .RETURN, .EXIT, .NEXT, .NEXTFILE,
      .NEXTOFILE, .DELETE, .PRINT, .PRINTF, .GETLINE, .GETBLINE, .IN, .FUNCTION, .BEGIN, .END].all
      (fun k => kwKind (kwSpelling k) == k || (Hawk.Gen.Keywords.kwtab.lookup (kwSpelling k) == some k)) = true := by decide +kernel

/-- redirection spellings: what print_printx writes for an output type (`print_outop_str[]`, generated) is one symbol of
    the lexer's table, and parse_print maps that token back to the same output type -/
theorem redirection_spelling_reads_back (r : Redir) : redirOfTok (tkOfSpelling r.str) = some r := redir_tok r

/-- renaming: the names `__g<i>` / `__l<i>` / `__p<i>` the deparser gives to globals, locals and parameters determine kind and
    number (injective), so the renamed program is the original one up to a bijective renaming of its variables -/
theorem renaming_injective (c c' : Char) (i i' : Nat) (h : renName c i = renName c' i') : c = c' ∧ i = i' :=
  renName_injective c c' i i' h

/-- the renaming is consistent over a whole program unit: with the declarations the deparser writes (`@global __g<gb>, ...;` for
    `nG` globals numbered from the first non-builtin index `gb`, `(__p0, ...)` for `nP` parameters, `@local __l0, ...;` for `nL`
    locals, in declaration order), every name it writes for a variable resolves - locals first, then parameters, then globals, as
    parse_primary_ident does - back to the same kind and the same number; no canonical name is shadowed by another one.  So the
    deparsed program is the original one with its variables renamed one-to-one (alpha-equivalent). -/
theorem canonical_names_resolve (nL nP gb nG : Nat) :
    (∀ i, i < nL → resolveName nL nP gb nG (renName 'l' i) = some ('l', i)) ∧
    (∀ i, i < nP → resolveName nL nP gb nG (renName 'p' i) = some ('p', i)) ∧
    (∀ i, i < nG → resolveName nL nP gb nG (renName 'g' (gb + i)) = some ('g', gb + i)) :=
  ⟨fun i h => resolve_local nL nP gb nG i h, fun i h => resolve_param nL nP gb nG i h, fun i h => resolve_global nL nP gb nG i h⟩

/-- ... and the @local line print_stmt writes uses exactly these names, numbered from the count of the enclosing blocks -/
theorem local_names_are_renamed (i : Nat) : (lclTok i).s = renName 'l' i := canonTok_renName 'l' i

/-! non-vacuity of `WFS`: a block with locals, an else-if ladder with a null statement and an empty block as arms, loops, and
    simple statements of every kind -/
example : WFS
    (.blk 2 (.cons (.ife (.var "a") (.expr (.ass .NONE (.var "x") (.int 1 (some "1"))))
        (.ife (.var "c") .null (.ife (.var "d") (.blk 0 .nil) (.expr (.var "z")))))
      (.cons (.whl (.bin .LT (.var "i") (.int 3 (some "3"))) (.expr (.incpst .PLUS (.var "i"))))
      (.cons (.dowhl (.blk 0 (.cons .brk .nil)) (.var "j"))
      (.cons (.for_ none none none .cont)
      (.cons (.forin (.bin .IN (.var "k") (.var "A")) (.del (.idx "A" (.cons (.var "k") .nil))))
      (.cons (.prt false (.cons (.int 1 (some "1")) (.cons (.bin .GT (.var "y") (.var "z")) .nil)) none)
      (.cons (.prt true (.cons (.lit .STR "\"%d\"") (.cons (.var "y") .nil)) (some (.apfile, .bin .CONCAT (.var "p") (.lit .STR "\".txt\""))))
      (.cons (.prt false .nil (some (.pipe, .lit .STR "\"cat\"")))
      (.cons (.reset (.var "A")) (.cons (.ret none) (.cons (.exit_ true (some (.var "q"))) (.cons (.nextfile true) .nil))))))))))))) := by
  simp [WFS, WFSL, WFO, WFparse, WFparseL, Stmt.dropped, openIf, isForinHead, Ast.isVar, grpAlone, WFout, litKinds, foldable]

/-- a whole program as `deparse` / `deparse_func` write it - the `@global` line with the globals numbered from the number of
    built-in ones, functions with their `__p<i>` parameter lists, BEGIN and END blocks, pattern-less actions, patterns and ranges
    with or without an action, in any order and number - is accepted by parse_progunit's loop, which returns exactly the same units
    with every statement and expression read back as the statement and expression theorems say (`normI`).  Not in the model:
    by-reference and variadic parameters, @pragma lines, globals printed under their own names (HAWK_IMPLICIT off), getline. -/
theorem prog_roundtrip_partial (gb : Nat) (l : List Item) (h : ∀ i ∈ l, WFI gb i) (n : Nat) (hn : szP l ≤ n) :
    parseProg n gb (toksS (printProg l)) = .ok (l.map normI) :=
  rtP gb l h n hn

/-- one unit in context: whatever follows it is left alone, up to newlines -/
theorem unit_roundtrip_partial (gb : Nat) (i : Item) (h : WFI gb i) (n : Nat) (rest : List Tok) (hn : szI i ≤ n) :
    ∃ r, parseItem n gb (toksS (printItem i) ++ rest) = .ok (normI i, r) ∧ dropNl r = dropNl rest :=
  rtI gb i h n rest hn

example : ∀ i ∈ [Item.glob 22 2, .func "f" 2 (.blk 1 (.cons (.ret (some (.var "__p0"))) .nil)), .begin_ (.blk 0 .nil),
    .pat (.var "a") (some (.var "b")) (some (.blk 0 (.cons .next .nil))), .pat (.var "c") none none, .act (.blk 0 .nil),
    .end_ (.blk 0 (.cons (.exit_ false none) .nil))], WFI 22 i := by
  intro i hi
  simp only [List.mem_cons, List.not_mem_nil, or_false] at hi
  rcases hi with rfl | rfl | rfl | rfl | rfl | rfl | rfl <;>
    simp [WFI, WFact, isBlkP, WFS, WFSL, WFO, WFparse, Stmt.dropped]

end Hawk.Props.C17
