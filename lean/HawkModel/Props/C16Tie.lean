import HawkModel.Htb
import HawkModel.Gen.CFunsHtb
/-!
# C16 tie — the sizing arithmetic of lib/htb.c, machine-translated, equals the hand-written model

The definitions the C16 property theorems are about (`Hawk.Htb.init`, `newCapa`, `reorganize`, the bucket index and the
growth test of the keyed calls) compute what the C translated in `Gen/CFunsHtb.lean` computes (every unsigned operation
followed by its explicit `% 2^64`), for every input on which the C arithmetic does not wrap: the model works on unbounded
naturals, and the hypothesis is spelled out in each statement.
-/
namespace Hawk.Htb
open Hawk.Gen.C

/-- `if (capa <= 0) capa = 1;` of hawk_htb_init is the model's capacity adjustment -/
theorem tie_init_capa (capa factor : Nat) : (init capa factor).capa = htbInitCapa capa := by
  simp only [init, htbInitCapa, Nat.le_zero_eq]

/-- `if (factor > 100) factor = 100;` (an `int`) is the model's factor adjustment -/
theorem tie_init_factor (capa factor : Nat) :
    ((init capa factor).factor : Int) = htbInitFactor (factor : Int) := by
  simp only [init, htbInitFactor]
  split <;> split <;> omega

/-- `htb->threshold = htb->capa * htb->factor / 100; if (htb->capa > 0 && htb->threshold <= 0) htb->threshold = 1;`
    with the adjusted capacity and factor is the model's threshold, whenever `capa * 100` fits a 64-bit word -/
theorem tie_init_threshold (capa factor : Nat) (h : capa * 100 < 2 ^ 64) :
    (init capa factor).threshold =
      (let c := htbInitCapa capa
       let f := (htbInitFactor (factor : Int)).toNat
       let t := htbInitThreshold c f
       if htbInitThresholdFloor c t then 1 else t) := by
  rw [← tie_init_capa capa factor, ← tie_init_factor capa factor, Int.toNat_natCast]
  have hpos : 0 < (init capa factor).capa := by simp only [init]; split <;> omega
  have hlt : (init capa factor).capa * (init capa factor).factor < 18446744073709551616 := by
    simp only [init]
    exact Nat.lt_of_le_of_lt (Nat.mul_le_mul_left _ (by split <;> omega)) (by split <;> omega : _ * 100 < _)
  simp only [htbInitThreshold, htbInitThresholdFloor, Nat.mod_eq_of_lt hlt, hpos, true_and, Nat.le_zero_eq,
    decide_eq_true_eq]
  rfl

/-- the default growth rule of `reorganize` (`(capa >= 65536)? capa + 65536: capa << 1`) is `newCapa` without a sizer,
    whenever the new capacity fits a 64-bit word -/
theorem tie_reorg_newcapa (c : Cfg) (t : Htb) (hs : c.sizer = none) (h : t.capa + 65536 < 2 ^ 64) :
    newCapa c t = some (htbReorgNewCapa t.capa) := by
  simp only [htbReorgNewCapa, newCapa, hs, Nat.shiftLeft_eq, Nat.pow_one]
  split
  · rw [Nat.mod_eq_of_lt h]
  · rw [Nat.mod_eq_of_lt (by omega)]

/-- `htb->threshold = htb->capa * htb->factor / 100` after a successful reorganization is the model's new threshold -/
theorem tie_reorg_threshold (c : Cfg) (t : Htb) (n : Nat) (o o' : Oracle) (hn : newCapa c t = some n)
    (ho : o.next = (true, o')) (h : n * t.factor < 2 ^ 64) :
    (reorganize c t o).1.threshold = htbReorgThreshold n t.factor := by
  simp only [reorganize, hn, ho, htbReorgThreshold, Nat.mod_eq_of_lt h]

/-- `hc = htb->style->hasher(htb, kptr, klen) % htb->capa` in search, insert (before and after a reorganization), cbsert
    (both places) and delete, and `% new_capa` in the rehash loop of reorganize: for whatever the hasher callback returns
    (`h`, an input of the translated fragment) the bucket index is the model's `c.hash k % capa` -/
theorem tie_bucket_index (h capa : Nat) :
    htbIdxSearch h capa = h % capa ∧ htbIdxInsert h capa = h % capa ∧ htbIdxInsert2 h capa = h % capa ∧
    htbIdxCbsert h capa = h % capa ∧ htbIdxCbsert2 h capa = h % capa ∧ htbIdxDelete h capa = h % capa ∧
    htbIdxReorg h capa = h % capa :=
  ⟨rfl, rfl, rfl, rfl, rfl, rfl, rfl⟩

/-- `if (htb->threshold > 0 && htb->size >= htb->threshold)`: the "try to grow first" test of insert and cbsert is the
    model's -/
theorem tie_grow_test (t : Htb) :
    htbGrowTest t.threshold t.size = decide (t.threshold > 0 ∧ t.size ≥ t.threshold) ∧
    htbGrowTestCb t.threshold t.size = decide (t.threshold > 0 ∧ t.size ≥ t.threshold) := ⟨rfl, rfl⟩

/-- non-vacuity: a table of capacity 8, factor 75 -/
example : (init 8 75).threshold = 6 ∧ htbReorgNewCapa 8 = 16 ∧ htbReorgNewCapa 65536 = 131072 := by decide

end Hawk.Htb
