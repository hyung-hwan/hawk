import HawkModel.StrFnLemmas
/-!
# C13 — String builtins satisfy their defining equations

Generic theorems: any element type `α` (characters or bytes) and ANY regular-expression engine, which enters only
as a `Matcher α` (the reported match lies inside the subject at or after the start offset).  Typed theorems: the
value-kind dispatch of each builtin over `Val` and the interpreter state `State σ`, for an arbitrary `Env` (codec,
number formatting, regex compiler, case maps, space classes).

IGNORECASE: the regex-driven builtins only switch to the other compilation of the pattern, which is an arbitrary
`Matcher` in every theorem here; `index_ignorecase` and `split_ignorecase_id` cover the two that fold case themselves.

Frame ("none of them changes anything but its documented target"): length, substr, index, rindex, tolower and
toupper are pure functions of their arguments in the model (no state in their type); `subst_frame`,
`split_frame`, `match_frame` cover the three that write.  The correspondence run checks the same on the real
interpreter (every call dumps T, A, RSTART, RLENGTH, NF, $0, a sentinel and a signature of all other globals).
-/
set_option linter.unusedSectionVars false
set_option linter.unusedVariables false
namespace Hawk.StrFn
variable {α : Type} [DecidableEq α]

/-- index(s, p [, start]): 0 for a start before the string; otherwise the result is the 1-based position of the
    first occurrence of `p` at or after the start position, or 0 when there is none there.  Holds for every
    pattern, the empty one included (it occurs at every position up to length+1). -/
theorem index_first_occurrence_or_zero (s p : List α) (start : Option Int) :
    let b := indexBoundary false s.length start
    let r := indexCore false s p start
    (b ≤ 0 → r = 0) ∧
    (1 ≤ b →
      (r = 0 ∧ ∀ i : Nat, b - 1 ≤ (i : Int) → ¬ Occurs p s i) ∨
      (∃ i : Nat, r = (i : Int) + 1 ∧ b - 1 ≤ (i : Int) ∧ Occurs p s i ∧
        ∀ j : Nat, b - 1 ≤ (j : Int) → j < i → ¬ Occurs p s j)) := by
  intro b r
  have hr : r = _ := indexCore_forward (b := b) rfl p
  clear_value b r
  refine ⟨fun hb => by rw [hr, if_pos (Or.inl hb)], fun hb => ?_⟩
  by_cases hbn : b > (s.length : Int) + 1
  · exact Or.inl ⟨by rw [hr, if_pos (Or.inr hbn)], fun i hi ho => by have := ho.1; omega⟩
  · rw [if_neg (by omega)] at hr
    -- `k`: the 0-based offset the search starts from; occurrences in `s.drop k` are those of `s` from `k` on
    generalize hk : b.toNat - 1 = k at hr
    have hks : k ≤ s.length := by omega
    cases hf : find (s.drop k) p with
    | none =>
      rw [hf] at hr
      refine Or.inl ⟨hr, fun i hi ho => find_none hf (i - k) ((occurs_drop hks).2 ?_)⟩
      rwa [Nat.add_sub_cancel' (by omega)]
    | some i' =>
      rw [hf] at hr
      obtain ⟨h1, h2⟩ := find_some hf
      refine Or.inr ⟨k + i', hr, by omega, (occurs_drop hks).1 h1, fun j hj hji ho =>
        h2 (j - k) (by omega) ((occurs_drop hks).2 ?_)⟩
      rwa [Nat.add_sub_cancel' (by omega)]

theorem index_two_args (s p : List α) :
    let r := indexCore false s p none
    (r = 0 ∧ ∀ i, ¬ Occurs p s i) ∨
    (∃ i : Nat, r = (i : Int) + 1 ∧ Occurs p s i ∧ ∀ j, j < i → ¬ Occurs p s j) := by
  have h := (index_first_occurrence_or_zero s p none).2 (by simp [indexBoundary])
  simp only [indexBoundary] at h
  rcases h with ⟨h1, h2⟩ | ⟨i, h1, h2, h3, h4⟩
  · left; exact ⟨h1, fun i => h2 i (by simp)⟩
  · right; exact ⟨i, h1, h3, fun j hj => h4 j (by simp) hj⟩

/-- the empty pattern is found at the start position itself, for every start position inside the string or
    right behind it (so index("", "") = 1, as in gawk and mawk) -/
theorem index_empty_pattern (s : List α) (start : Option Int) :
    let b := indexBoundary false s.length start
    indexCore false s [] start = if 1 ≤ b ∧ b ≤ (s.length : Int) + 1 then b else 0 := by
  intro b
  rw [indexCore_forward (b := b) rfl, find_nil]
  clear_value b
  simp only
  omega

/-- rindex(s, p [, start]): 0 for a boundary outside the string; otherwise the 1-based position of the last
    occurrence of `p` lying wholly inside the first `b` characters of the subject (the window `w`), or 0 when
    there is none.  For a non-empty pattern. -/
theorem rindex_last_occurrence_or_zero (s p : List α) (start : Option Int) (hp : p ≠ []) :
    let b := indexBoundary true s.length start
    let r := indexCore true s p start
    let w := s.take b.toNat
    ((b ≤ 0 ∨ b > (s.length : Int)) → r = 0) ∧
    (1 ≤ b → b ≤ (s.length : Int) →
      (r = 0 ∧ ∀ i : Nat, ¬ Occurs p w i) ∨
      (∃ i : Nat, r = (i : Int) + 1 ∧ Occurs p w i ∧ ∀ j : Nat, i < j → ¬ Occurs p w j)) := by
  intro b r w
  have hr : r = if b ≤ 0 ∨ b > (s.length : Int) + 0 then 0
      else match rfind w p with
        | some i => (i : Int) + 1
        | none => 0 := rfl
  clear_value r
  refine ⟨fun hb => by rw [hr, if_pos (by omega)], fun hb1 hb2 => ?_⟩
  rw [if_neg (by omega)] at hr
  cases hf : rfind w p with
  | none => rw [hf] at hr; exact Or.inl ⟨hr, rfind_none hf⟩
  | some i => rw [hf] at hr; exact Or.inr ⟨i, hr, rfind_some hf⟩

/-- substr(s, start [, len]) is the clamped 1-based character range [lo, hi) -/
theorem substr_spec (s : List α) (start : Int) (len : Option Int) :
    substr s start len =
      (s.drop (substrLo s.length start - 1).toNat).take (substrHi s.length start len - substrLo s.length start).toNat := by
  simp only [substr]
  rw [substrHi_eq, Int.add_comm, Int.add_sub_cancel, substrLo_eq, Int.add_sub_cancel, Int.toNat_natCast, Int.toNat_natCast]

/-- pointwise form: the result has hi - lo characters and its k-th character is character lo + k of the subject -/
theorem substr_get (s : List α) (start : Int) (len : Option Int) :
    (substr s start len).length = (substrHi s.length start len - substrLo s.length start).toNat ∧
    ∀ k, k < (substrHi s.length start len - substrLo s.length start).toNat →
      (substr s start len)[k]? = s[(substrLo s.length start - 1).toNat + k]? := by
  have hb := substr_bounds s.length start len
  rw [substr_spec]
  refine ⟨?_, ?_⟩
  · simp only [List.length_take, List.length_drop]; omega
  · intro k hk
    rw [List.getElem?_take_of_lt hk, List.getElem?_drop]

/-- in range (1 ≤ start, 0 ≤ len) this is exactly the POSIX definition: at most `len` characters from position `start` -/
theorem substr_in_range (s : List α) (start len : Int) (h1 : 1 ≤ start) (h2 : 0 ≤ len) :
    substr s start (some len) = (s.drop (start - 1).toNat).take len.toNat :=
  substr_some s start len

/-- a start before the string counts as position 1 and does NOT shorten the length (the gawk reading; the
    one-true-awk reading would take max(start+len,1)-1 as the end) -/
theorem substr_start_before (s : List α) (start : Int) (len : Option Int) (h : start ≤ 1) :
    substr s start len = substr s 1 len := by
  have e : (start - 1).toNat = (1 - 1 : Int).toNat := by omega
  cases len with
  | none => rw [substr_none, substr_none, e]
  | some l => rw [substr_some, substr_some, e]

/-- split on a single non-blank character: the pieces re-joined with that character rebuild the
    string, there is exactly one piece more than occurrences of the character, and no piece contains it
    (so the decomposition is the unique one) -/
theorem split_join (isSp : α → Bool) (blank c : α) (hc : c ≠ blank) (s : List α) (hs : s ≠ []) :
    List.intercalate [c] (splitChars isSp blank [c] s) = s ∧
    (splitChars isSp blank [c] s).length = s.count c + 1 ∧
    ∀ t ∈ splitChars isSp blank [c] s, c ∉ t := by
  exact piecesLoop_single (tokChars_dec isSp blank [c]) c (funext (tokChars_single isSp blank c hc)) s 0 (Or.inr hs)

/-- the empty string has no pieces (not one empty piece) -/
theorem split_empty (isSp : α → Bool) (blank : α) (delim : List α) :
    splitChars isSp blank delim [] = [] := by
  unfold splitChars
  rw [piecesLoop_unfold, tokChars_nil]
  simp

section template
variable (bs amp : α) (mat : List α)

/-- `&` stands for the matched text -/
theorem expand_amp (h : bs ≠ amp) (t : List α) :
    expand bs amp mat (amp :: t) = mat ++ expand bs amp mat t := by
  have h' : amp ≠ bs := fun e => h e.symm
  rcases t with _ | ⟨b, _ | ⟨c, _ | ⟨d, r⟩⟩⟩ <;> simp [expand, h']

/-- `\&` is a literal `&` -/
theorem expand_bs_amp (h : bs ≠ amp) (t : List α) :
    expand bs amp mat (bs :: amp :: t) = amp :: expand bs amp mat t := by
  have h' : amp ≠ bs := fun e => h e.symm
  rcases t with _ | ⟨c, _ | ⟨d, r⟩⟩ <;> simp [expand, h']

/-- `\\&` is a literal backslash followed by the matched text -/
theorem expand_bs_bs_amp (h : bs ≠ amp) (t : List α) :
    expand bs amp mat (bs :: bs :: amp :: t) = bs :: (mat ++ expand bs amp mat t) := by
  have h' : amp ≠ bs := fun e => h e.symm
  rcases t with _ | ⟨d, r⟩ <;> simp [expand, h']

/-- `\\\&` is a literal `\&` -/
theorem expand_bs_bs_bs_amp (t : List α) :
    expand bs amp mat (bs :: bs :: bs :: amp :: t) = bs :: amp :: expand bs amp mat t := by
  simp [expand]

/-- any other character stands for itself -/
theorem expand_other (a : α) (h1 : a ≠ amp) (h2 : a ≠ bs) (t : List α) :
    expand bs amp mat (a :: t) = a :: expand bs amp mat t := by
  rcases t with _ | ⟨b, _ | ⟨c, _ | ⟨d, r⟩⟩⟩ <;> simp [expand, h1, h2]

/-- a backslash that does not start one of the three escapes above is a literal backslash -/
theorem expand_bs_other (h : bs ≠ amp) (t : List α)
    (h1 : ∀ r, t ≠ amp :: r) (h2 : ∀ r, t ≠ bs :: amp :: r) (h3 : ∀ r, t ≠ bs :: bs :: amp :: r) :
    expand bs amp mat (bs :: t) = bs :: expand bs amp mat t := by
  rcases t with _ | ⟨b, _ | ⟨c, _ | ⟨d, r⟩⟩⟩
  · simp [expand, h]
  · have : b ≠ amp := fun e => h1 [] (by rw [e])
    simp [expand, h, this]
  · have hb : b ≠ amp := fun e => h1 [c] (by rw [e])
    have hc : ¬ (b = bs ∧ c = amp) := fun ⟨e1, e2⟩ => h2 [] (by rw [e1, e2])
    simp [expand, h, hb]
    intro e1 e2; exact absurd ⟨e1, e2⟩ hc
  · have hb : b ≠ amp := fun e => h1 (c :: d :: r) (by rw [e])
    have hc : ¬ (b = bs ∧ c = amp) := fun ⟨e1, e2⟩ => h2 (d :: r) (by rw [e1, e2])
    have hd : ¬ (b = bs ∧ c = bs ∧ d = amp) := fun ⟨e1, e2, e3⟩ => h3 r (by rw [e1, e2, e3])
    simp [expand, h, hb]
    rw [if_neg hd, if_neg hc]

/-- a template without `&` is copied unchanged (backslashes included) -/
theorem expand_no_amp (t : List α) (h : ∀ x ∈ t, x ≠ amp) : expand bs amp mat t = t := by
  induction t with
  | nil => rw [expand]
  | cons a t ih =>
    have ha : a ≠ amp := h a List.mem_cons_self
    have hfree : ∀ u r, t ≠ u ++ amp :: r := fun u r e => h amp (by rw [e]; simp) rfl
    have ht := ih fun x hx => h x (List.mem_cons_of_mem a hx)
    by_cases hab : a = bs
    · subst hab
      rw [expand_bs_other a amp mat ha t (hfree []) (hfree [a]) (hfree [a, a]), ht]
    · rw [expand_other bs amp mat a ha hab, ht]

end template

/-- gsub/sub compute exactly the declarative substitution: the output is the subject with the matches of
    `matchSeq` (leftmost match at or after the cursor, an empty match directly after the previous match
    skipped, at most `limit` of them) replaced by the expanded template and everything between them copied;
    the returned count is the number of those matches.  For EVERY matcher obeying the interface law. -/
theorem gsub_leftmost_nonoverlapping (m : Matcher α) (bs amp : α) (s repl : List α) (limit : Option Nat) :
    substitute m bs amp s repl limit =
      (render bs amp s repl (matchSeq m s limit 0 none 0) 0, (matchSeq m s limit 0 none 0).length) := by
  unfold substitute
  rw [substLoop_render m bs amp s repl limit 0 none 0 [] 0 (Nat.le_refl 0) [] rfl]
  simp

/-- the replaced matches lie inside the subject, go left to right without overlapping, none is an empty
    match glued to the end of the previous one, each is the engine's answer from a cursor not before the end
    of the previous match, and there are at most `limit` of them -/
theorem matchSeq_wellformed (m : Matcher α) (s : List α) (limit : Option Nat) :
    NonOverlapping s.length 0 (matchSeq m s limit 0 none 0) ∧
    NoAdjacentEmpty none (matchSeq m s limit 0 none 0) ∧
    FromEngine m s 0 (matchSeq m s limit 0 none 0) ∧
    (∀ lim, limit = some lim → (matchSeq m s limit 0 none 0).length ≤ lim) :=
  matchSeq_wellformed_from m s limit 0 none 0

/-- sub (limit 1) replaces the first match only -/
theorem sub_first_match (m : Matcher α) (bs amp : α) (s repl : List α) :
    substitute m bs amp s repl (some 1) =
      match m.run s 0 with
      | none => (s, 0)
      | some (p, l) => (s.take p ++ expand bs amp ((s.drop p).take l) repl ++ s.drop (p + l), 1) := by
  rw [gsub_leftmost_nonoverlapping, matchSeq_unfold]
  cases hm : m.run s 0 with
  | none => simp [belowLimit, render]
  | some pl =>
    obtain ⟨p, l⟩ := pl
    by_cases hl : l = 0 <;> simp [belowLimit, hl, matchSeq_at_limit, render]

/-- match(): what is reported is exactly the engine's match on the suffix from the (adjusted) start, shifted
    back to positions of the whole subject: RSTART = start + p, RLENGTH = l, and the reported range lies inside
    the subject; (0, -1) exactly when the start is out of range or the engine finds nothing -/
theorem matchCore_spec (m : Matcher α) (s : List α) (start : Int) :
    let st := matchStart s.length start
    (matchCore m s start = (0, -1) ∧
       (st ≤ 0 ∨ st > (s.length : Int) + 1 ∨ m.run (s.drop (st.toNat - 1)) 0 = none)) ∨
    (∃ p l : Nat, 1 ≤ st ∧ st ≤ (s.length : Int) + 1 ∧ m.run (s.drop (st.toNat - 1)) 0 = some (p, l) ∧
       matchCore m s start = (st + p, (l : Int)) ∧ st + p + l ≤ (s.length : Int) + 1) := by
  intro st
  have hdef := matchCore_eq (st := st) rfl m
  clear_value st
  by_cases hc : st > (s.length : Int) + 1 ∨ st ≤ 0
  · left
    rw [hdef, if_pos hc]
    exact ⟨rfl, by omega⟩
  · rw [if_neg hc] at hdef
    cases hm : m.run (s.drop (st.toNat - 1)) 0 with
    | none =>
      left
      rw [hm] at hdef
      exact ⟨hdef, Or.inr (Or.inr rfl)⟩
    | some pl =>
      obtain ⟨p, l⟩ := pl
      right
      rw [hm] at hdef
      have hin := m.inside _ 0 p l hm
      simp only [List.length_drop] at hin
      refine ⟨p, l, by omega, by omega, rfl, ?_, by omega⟩
      rw [hdef]
      simp only [Prod.mk.injEq, and_true]
      omega

/-- two-argument match(s, r): the engine's match on the whole subject, 1-based -/
theorem matchCore_default (m : Matcher α) (s : List α) :
    matchCore m s 1 = match m.run s 0 with
      | none => (0, -1)
      | some (p, l) => ((p : Int) + 1, (l : Int)) := by
  have h1 : matchStart s.length 1 = 1 := by simp [matchStart]
  rw [matchCore_eq h1, if_neg (by omega)]
  simp only [show (1 : Int).toNat - 1 = 0 from rfl, List.drop_zero, Nat.zero_add]
  cases m.run s 0 <;> rfl

variable {σ : Type}

/-- match() sets RSTART to the value it returns and RLENGTH to the length of the match it reports, both
    being exactly `matchCore` of the subject (bytes for a byte string, characters otherwise) -/
theorem match_sets_rstart_rlength (E : Env) (a0 : Val) (pat : Pat) (start : Option Val) (wantArr : Bool)
    (st st' : State σ) (r : Val) (h : fnMatch E a0 pat start wantArr st = some (r, st')) :
    st'.rstart = r ∧
    ∃ stv : Int, startArg start = some stv ∧
      (match a0 with
       | .mbs b => r = .int (matchCore (pat.regex E).b b stv).1 ∧ st'.rlength = .int (matchCore (pat.regex E).b b stv).2
       | v => r = .int (matchCore (pat.regex E).c (v.toStr E) stv).1 ∧
              st'.rlength = .int (matchCore (pat.regex E).c (v.toStr E) stv).2) := by
  obtain ⟨stv, hs, rfl, rfl⟩ := fnMatch_some h
  refine ⟨rfl, stv, hs, ?_⟩
  cases a0 <;> exact ⟨rfl, rfl⟩

/-- the array form reports the same match: A[0] is the matched text (the characters RSTART .. RSTART+RLENGTH-1
    of the subject), A[0,"start"] = RSTART, A[0,"length"] = RLENGTH; an empty array when nothing matched -/
theorem match_array (E : Env) (a0 : Val) (pat : Pat) (start : Option Val)
    (st st' : State σ) (r : Val) (h : fnMatch E a0 pat start true st = some (r, st')) :
    ∃ stv, startArg start = some stv ∧
      let t := matchTriple E (pat.regex E) a0 stv
      st'.coll = (if t.1 = 0 then .map []
        else .map [(['0'], t.2.2), (['0'] ++ subsep ++ "start".toList, st'.rstart),
                   (['0'] ++ subsep ++ "length".toList, st'.rlength)]) := by
  obtain ⟨stv, hs, rfl, rfl⟩ := fnMatch_some h
  exact ⟨stv, hs, rfl⟩

/-- frame: match changes RSTART and RLENGTH (and the array argument when one is passed) and nothing else -/
theorem match_frame (E : Env) (a0 : Val) (pat : Pat) (start : Option Val) (wantArr : Bool)
    (st st' : State σ) (r : Val) (h : fnMatch E a0 pat start wantArr st = some (r, st')) :
    st'.target = st.target ∧ st'.rest = st.rest ∧ (wantArr = false → st'.coll = st.coll) := by
  obtain ⟨stv, hs, rfl, rfl⟩ := fnMatch_some h
  refine ⟨rfl, rfl, ?_⟩
  intro hw
  subst hw
  rfl

/-- frame: sub/gsub change only their target variable, and only when something was replaced -/
theorem subst_frame (E : Env) (limit : Option Nat) (pat : Pat) (a1 : Val) (st : State σ) :
    (fnSubst E limit pat a1 st).2.rstart = st.rstart ∧ (fnSubst E limit pat a1 st).2.rlength = st.rlength ∧
    (fnSubst E limit pat a1 st).2.coll = st.coll ∧ (fnSubst E limit pat a1 st).2.rest = st.rest ∧
    ((fnSubst E limit pat a1 st).1 = .int 0 → (fnSubst E limit pat a1 st).2 = st) := by
  -- either arm returns the count and, when it is positive, the state with a new target
  obtain ⟨cnt, v, h⟩ : ∃ (cnt : Nat) (v : Val),
      fnSubst E limit pat a1 st = (.int cnt, if cnt > 0 then { st with target := v } else st) := by
    by_cases hb : st.target.isBytes = true
    · exact ⟨_, _, if_pos hb⟩
    · exact ⟨_, _, if_neg hb⟩
  rw [h]
  by_cases hc : cnt > 0
  · simp only [hc, if_true, true_and, Val.int.injEq]
    intro h0
    omega
  · simp [hc]

/-- sub/gsub: the returned number is the count of `substitute` and the new target is its text, as a byte
    string when the target was a byte string/character and as a string otherwise -/
theorem subst_result (E : Env) (limit : Option Nat) (pat : Pat) (a1 : Val) (st : State σ) :
    if st.target.isBytes then
      (fnSubst E limit pat a1 st).1 = .int (substitute (pat.regex E).b 92 38 (st.target.toBcs E) (a1.toBcs E) limit).2 ∧
      ((substitute (pat.regex E).b 92 38 (st.target.toBcs E) (a1.toBcs E) limit).2 > 0 →
        (fnSubst E limit pat a1 st).2.target = .mbs (substitute (pat.regex E).b 92 38 (st.target.toBcs E) (a1.toBcs E) limit).1)
    else
      (fnSubst E limit pat a1 st).1 = .int (substitute (pat.regex E).c '\\' '&' (st.target.toStr E) (a1.toStr E) limit).2 ∧
      ((substitute (pat.regex E).c '\\' '&' (st.target.toStr E) (a1.toStr E) limit).2 > 0 →
        (fnSubst E limit pat a1 st).2.target = .str (substitute (pat.regex E).c '\\' '&' (st.target.toStr E) (a1.toStr E) limit).1) := by
  by_cases hb : st.target.isBytes = true
  · simp only [fnSubst, hb, if_true, true_and]
    intro hc
    rw [if_pos hc]
  · simp only [fnSubst, hb, Bool.false_eq_true, if_false, true_and]
    intro hc
    rw [if_pos hc]

/-- frame: split/splita change only the array variable; the return value is the number of pieces -/
theorem split_frame (E : Env) (useArray : Bool) (a0 : Val) (sep : Sep) (st st' : State σ) (r : Val)
    (h : fnSplit E useArray a0 sep st = some (r, st')) :
    st'.rstart = st.rstart ∧ st'.rlength = st.rlength ∧ st'.target = st.target ∧ st'.rest = st.rest ∧
    ∃ ps, splitPieces E a0 sep = some ps ∧ r = .int ps.length ∧
      st'.coll = (if useArray then .array (numberFrom 1 ps)
                  else .map ((numberFrom 1 ps).map fun (k, v) => (intRepr k, v))) := by
  revert h
  fun_cases fnSplit E useArray a0 sep st with
  | case1 => exact nofun
  | case2 ps hp items c =>
    intro h
    cases h
    exact ⟨rfl, rfl, rfl, rfl, ps, hp, rfl, rfl⟩

/-- length(v) is the number of bytes of a byte value and the number of characters of the text of any other value -/
theorem length_spec (E : Env) (v : Val) :
    fnLength E v = if v.isBytes then .int (v.toBcs E).length else .int (v.toStr E).length := by
  cases v <;> simp [fnLength, Val.isBytes, Val.toBcs, Val.toStr]

theorem mapCase_length (f : α → α) (s : List α) : (mapCase f s).length = s.length := by
  simp [mapCase]

theorem mapCase_idempotent (f : α → α) (hf : ∀ c, f (f c) = f c) (s : List α) :
    mapCase f (mapCase f s) = mapCase f s := by
  simp [mapCase, hf]

/-- tolower/toupper keep the length (as measured by length()) and the byte/character kind -/
theorem case_preserves_length (E : Env) (upper : Bool) (v : Val) :
    fnLength E (fnCase E upper v) = fnLength E v ∧ (fnCase E upper v).isBytes = v.isBytes := by
  cases v <;> simp [fnCase, fnLength, mapCase_length, Val.isBytes, Val.toStr]

/-- tolower ∘ tolower = tolower (and likewise toupper) for an idempotent case map -/
theorem tolower_idempotent (E : Env) (upper : Bool)
    (hc : ∀ c, (if upper then E.upperC else E.lowerC) ((if upper then E.upperC else E.lowerC) c) = (if upper then E.upperC else E.lowerC) c)
    (hb : ∀ b, (if upper then E.upperB else E.lowerB) ((if upper then E.upperB else E.lowerB) b) = (if upper then E.upperB else E.lowerB) b)
    (v : Val) :
    fnCase E upper (fnCase E upper v) = fnCase E upper v := by
  cases v <;> simp [fnCase, mapCase_idempotent _ hc, mapCase_idempotent _ hb, Val.toStr, hc, hb]

/-- substr keeps to the byte/character kind of its first argument and applies `substr` to its text with the
    numeric arguments truncated toward zero -/
theorem substr_kind (E : Env) (a0 a1 : Val) (a2 : Option Val) (r : Val) (h : fnSubstr E a0 a1 a2 = some r) :
    ∃ st ln, a1.toInt = some st ∧ optInt a2 = some ln ∧
      r = if a0.isBytes then .mbs (substr (a0.toBcs E) st ln) else .str (substr (a0.toStr E) st ln) := by
  unfold fnSubstr at h
  split at h
  · rename_i st ln h1 h2
    rw [← apply_ite some, Option.some.injEq] at h
    exact ⟨st, ln, h1, h2, h.symm⟩
  · cases h

/-- index/rindex compare bytes when the subject is a byte string/character and characters otherwise -/
theorem index_kind (E : Env) (rindex : Bool) (a0 a1 : Val) (a2 : Option Val) (r : Val)
    (h : fnIndex E rindex a0 a1 a2 = some r) :
    ∃ st, optInt a2 = some st ∧
      r = if a0.isBytes then .int (indexCore rindex (a0.toBcs E) (a1.toBcs E) st)
          else .int (indexCore rindex (a0.toStr E) (a1.toStr E) st) := by
  unfold fnIndex at h
  split at h
  · rename_i st h1
    rw [← apply_ite some, Option.some.injEq] at h
    exact ⟨st, h1, h.symm⟩
  · cases h

/-- fractional numeric arguments are truncated toward zero: 1.5 ↦ 1, 2.7 ↦ 2, -1.5 ↦ -1 -/
theorem toInt_truncates : (Val.flt 15 1).toInt = some 1 ∧ (Val.flt 27 1).toInt = some 2 ∧ (Val.flt (-15) 1).toInt = some (-1) := by
  decide

/-- non-vacuity of the matcher interface and an end-to-end instance: with the engine for a one-character
    pattern `c`, gsub replaces every occurrence of `c` by the expanded template, leaves all other
    characters, and returns the number of occurrences -/
theorem gsub_char (c bs amp : α) (s repl : List α) :
    substitute (charMatcher c) bs amp s repl none =
      (s.flatMap (fun x => if x = c then expand bs amp [c] repl else [x]), s.count c) := by
  unfold substitute
  rw [substLoop_char c bs amp s repl 0 none 0 []]
  simp

/-- split in blank mode (separator " ", the default FS): every piece is non-empty and free of space
    characters, and the pieces in order are exactly the non-space characters of the string - i.e. the
    maximal runs of non-blanks, leading and trailing blanks stripped -/
theorem split_blank (isSp : α → Bool) (blank : α) (hb : isSp blank = true) (s : List α) :
    (∀ t ∈ splitChars isSp blank [blank] s, t ≠ [] ∧ ∀ x ∈ t, isSp x = false) ∧
    (splitChars isSp blank [blank] s).flatten = s.filter (fun x => !isSp x) := by
  exact piecesLoop_blank isSp (tokChars_dec isSp blank [blank]) (funext (tokChars_blank isSp blank hb)) s 0 (Or.inl rfl)

/-- split(s, A, c) with a string subject and a one-character, non-blank separator value runs the
    single-character tokeniser on the characters (so `split_join` applies to what the builtin stores) -/
theorem split_dispatch_single_char (E : Env) (s : List Char) (c : Char) :
    splitPieces E (.str s) (.val (.str [c])) = some ((splitChars E.spaceC ' ' [c] s).map Val.str) ∧
    splitPieces E (.str s) (.val (.chr c)) = some ((splitChars E.spaceC ' ' [c] s).map Val.str) ∧
    splitPieces E (.str s) .fs = some ((splitChars E.spaceC ' ' [' '] s).map Val.str) := by
  refine ⟨?_, ?_, ?_⟩ <;> simp [splitPieces, Val.toStr, Val.isBytes]

example : substr [1, 2, 3, 4, 5] 0 (some 2) = [1, 2] := rfl
example : substr [1, 2, 3, 4, 5] (-1) (some 3) = [1, 2, 3] := rfl
example : substr [1, 2, 3, 4, 5] 4 (some 9) = [4, 5] := rfl
example : substr [1, 2, 3, 4, 5] 2 none = [2, 3, 4, 5] := rfl
example : indexCore false [1, 2, 3, 2, 3] [2, 3] none = 2 := rfl
example : indexCore false [1, 2, 3, 2, 3] [2, 3] (some (-2)) = 4 := rfl
example : indexCore true [1, 2, 3, 2, 3] [2, 3] none = 4 := rfl
example : indexCore false ([] : List Nat) [] none = 1 := rfl
example : indexCore false [1, 2, 3] [] (some 4) = 4 := rfl
example : indexCore false [1, 2, 3] [] (some 5) = 0 := rfl
example : indexCore true ([] : List Nat) [] none = 0 := rfl
example : Occurs [2, 3] [1, 2, 3] 1 := ⟨by decide, by decide⟩

example : List.intercalate [0] (splitChars (fun x => x == 9) 9 [0] [1, 0, 0, 2]) = [1, 0, 0, 2] :=
  (split_join (fun x => x == 9) 9 0 (by decide) [1, 0, 0, 2] (by decide)).1
example : (splitChars (fun x => x == 9) 9 [0] [1, 0, 0, 2]).length = 3 :=
  (split_join (fun x => x == 9) 9 0 (by decide) [1, 0, 0, 2] (by decide)).2.1

example : (substitute (charMatcher 7) 92 38 [7, 1, 7, 7] [38, 38] none) = ([7, 7, 1, 7, 7, 7, 7], 3) := by
  simp [gsub_char, expand]

example : expand 92 38 [7] [92, 92, 92, 38, 92, 92, 38, 92, 38, 38, 1, 92] = [92, 38, 92, 7, 38, 7, 1, 92] := by
  simp [expand]

/-- the ASCII byte case maps satisfy the idempotence hypothesis of `tolower_idempotent` -/
example : (∀ b, asciiLower (asciiLower b) = asciiLower b) ∧ (∀ b, asciiUpper (asciiUpper b) = asciiUpper b) :=
  ⟨asciiLower_idem, asciiUpper_idem⟩

/-- a matcher that never matches satisfies the interface law; sub/gsub then return the subject and 0 -/
example (s repl : List Nat) :
    substitute ⟨fun _ _ => none, by intro s k p l h; simp at h⟩ 92 38 s repl none = (s, 0) := by
  simp [gsub_leftmost_nonoverlapping, matchSeq_unfold, render]

/-- str::normspace (hawk_compact_xchars) keeps exactly the non-space characters, in order -/
theorem compact_keeps_nonspace (isSp : α → Bool) (s : List α) :
    (compact isSp s).filter (fun x => !isSp x) = s.filter (fun x => !isSp x) := by
  unfold compact
  rw [← compactAux_filter isSp s false false]
  have hflag := compactAux_flag isSp s false false (fun _ => rfl)
  generalize compactAux isSp false false s = r at hflag ⊢
  obtain ⟨o, f⟩ := r
  cases f with
  | false => rfl
  | true =>
    rcases hflag rfl with ⟨_, h2⟩ | ⟨o', c, h1, h2⟩
    · cases h2
    · subst h1
      simp [h2]

example : compact (fun x => x == 0) [0, 0, 1, 0, 0, 2, 3, 0] = [1, 0, 2, 3] := rfl
example : compact (fun x => x == 0 || x == 9) [9, 1, 9, 0, 2, 0] = [1, 9, 2] := rfl

/-- str::trim / ltrim / rtrim: the subject is (spaces) ++ result ++ (spaces), nothing but spaces is removed and
    only on the requested sides, and the result does not begin (left) / end (right) with a space -/
theorem trim_spec (isSp : α → Bool) (left right : Bool) (s : List α) :
    ∃ a b, s = a ++ trimChars isSp left right s ++ b ∧
      (∀ x ∈ a, isSp x = true) ∧ (∀ x ∈ b, isSp x = true) ∧
      (left = false → a = []) ∧ (right = false → b = []) ∧
      (left = true → ∀ x, (trimChars isSp left right s).head? = some x → isSp x = false) ∧
      (right = true → ∀ x, (trimChars isSp left right s).getLast? = some x → isSp x = false) := by
  simp only [trimChars]
  obtain ⟨a, ha, hsp, hnil, hhead⟩ : ∃ a, s = a ++ (if left then s.dropWhile isSp else s) ∧ (∀ x ∈ a, isSp x = true) ∧
      (left = false → a = []) ∧ (left = true → ∀ x, (if left then s.dropWhile isSp else s).head? = some x → isSp x = false) := by
    cases left with
    | false => exact ⟨[], rfl, nofun, fun _ => rfl, nofun⟩
    | true => exact ⟨s.takeWhile isSp, List.takeWhile_append_dropWhile.symm, fun _ => List.mem_takeWhile_imp, nofun,
        fun _ _ => List.head?_dropWhile_eq_some⟩
  generalize (if left then s.dropWhile isSp else s) = s1 at ha hhead ⊢
  obtain ⟨b, hb, hsp', hnil', hlast⟩ : ∃ b, s1 = (if right then trimRight isSp s1 else s1) ++ b ∧ (∀ x ∈ b, isSp x = true) ∧
      (right = false → b = []) ∧ (right = true → ∀ x, (if right then trimRight isSp s1 else s1).getLast? = some x → isSp x = false) := by
    cases right with
    | false => exact ⟨[], (List.append_nil s1).symm, nofun, fun _ => rfl, nofun⟩
    | true =>
      obtain ⟨b, hb, hsp', hlast⟩ := trimRight_spec isSp s1
      exact ⟨b, hb, hsp', nofun, fun _ => hlast⟩
  refine ⟨a, b, by rw [List.append_assoc, ← hb]; exact ha, hsp, hsp', hnil, hnil', fun hl x hx => hhead hl x ?_, hlast⟩
  rw [hb, List.head?_append, hx]
  rfl

example : trimChars (fun x => x == 0) true true [0, 0, 1, 0, 2, 0] = [1, 0, 2] := rfl
example : trimChars (fun x => x == 0) true false [0, 0, 1, 0, 2, 0] = [1, 0, 2, 0] := rfl
example : trimChars (fun x => x == 0) false true [0, 0, 1, 0, 2, 0] = [0, 0, 1, 0, 2] := rfl
example : trimChars (fun x => x == 0) true true [0, 0] = ([] : List Nat) := rfl

/-- str::subchar / str::tocharcode: a character is returned exactly for positions 1..length, and it is the
    character substr(s, pos, 1) consists of -/
theorem charAt_spec (s : List α) (pos : Int) :
    (∀ c, charAt s pos = some c ↔ (1 ≤ pos ∧ pos ≤ (s.length : Int) ∧ s[(pos - 1).toNat]? = some c)) ∧
    (1 ≤ pos → substr s pos (some 1) = (charAt s pos).toList) := by
  unfold charAt
  simp only
  by_cases h : 0 ≤ pos - 1 ∧ pos - 1 < (s.length : Int)
  · rw [if_pos h]
    refine ⟨fun c => ⟨fun hc => ⟨by omega, by omega, hc⟩, fun hc => hc.2.2⟩, fun _ => ?_⟩
    rw [substr_some, List.getElem?_eq_getElem (by omega), List.drop_eq_getElem_cons (by omega)]
    rfl
  · rw [if_neg h]
    refine ⟨fun c => ⟨nofun, fun ⟨h1, h2, _⟩ => by omega⟩, fun hp => ?_⟩
    rw [substr_some, List.drop_of_length_le (by omega)]
    rfl

example : charAt [7, 8, 9] 2 = some 8 := rfl
example : charAt [7, 8, 9] 0 = none ∧ charAt [7, 8, 9] 4 = none := by decide

/-- the is* class tests: 1 exactly for a non-empty text all of whose characters are in the class -/
theorem isClass_spec (p : α → Bool) (s : List α) :
    isClass p s = true ↔ s ≠ [] ∧ ∀ x ∈ s, p x = true := by
  cases s <;> simp [isClass]

example : isClass (fun x => x < 5) [1, 2] = true ∧ isClass (fun x => x < 5) [1, 7] = false ∧
    isClass (fun x => x < 5) ([] : List Nat) = false := by decide

/-- index/rindex under IGNORECASE are the case-sensitive search on the folded subject and pattern (so every
    index theorem above holds "up to case"), and with the identity folding they are index/rindex themselves -/
theorem index_ignorecase (fold : α → α) (rindex : Bool) (s p : List α) (start : Option Int) :
    indexCoreIc fold rindex s p start = indexCore rindex (s.map fold) (p.map fold) start ∧
    indexCoreIc id rindex s p start = indexCore rindex s p start := by
  simp [indexCoreIc]

example : indexCoreIc (fun x => x % 10) false [11, 22, 33] [2, 13] none = 2 := rfl

/-- the case-folding tokeniser with the identity folding is the plain one (IGNORECASE only changes which
    characters count as the delimiter), and the empty subject still has no pieces -/
theorem split_ignorecase_id (isSp : α → Bool) (blank : α) (delim s : List α) :
    tokCharsIc isSp blank id delim s = tokChars isSp blank delim s ∧
    splitCharsIc isSp blank id delim [] = [] := by
  exact ⟨congrFun (tokCharsIc_id isSp blank delim) s, (splitCharsIc_id isSp blank delim []).trans (split_empty isSp blank delim)⟩

example : splitCharsIc (fun x => x == 0) 0 (fun x => x % 10) [5] [1, 15, 2, 25, 3] = [[1], [2], [3]] := by
  simp [splitCharsIc, piecesLoop_unfold, tokCharsIc, delimMode, delimScan, tokNoSpacesIc]

/-- str::subchar picks the character at the position out of the bytes of a byte value and out of the characters
    of the text of any other value; nil outside (str::tocharcode reads the same `charAt`) -/
theorem subchar_spec (E : Env) (a0 a1 : Val) (r : Val) (h : fnSubchar E a0 a1 = some r) :
    ∃ pos, a1.toInt = some pos ∧
      r = (if a0.isBytes then (match charAt (a0.toBcs E) pos with | some b => Val.bchr b | none => Val.nil)
           else (match charAt (a0.toStr E) pos with | some c => Val.chr c | none => Val.nil)) := by
  unfold fnSubchar at h
  cases hp : a1.toInt with
  | none => simp [hp] at h
  | some pos =>
    simp only [hp, ← apply_ite some, Option.some.injEq] at h
    exact ⟨pos, rfl, h.symm⟩

example : fnSubchar toyEnv (.str ['a', 'b']) (.int 2) = some (.chr 'b') ∧
    fnSubchar toyEnv (.mbs [97, 98]) (.flt 15 1) = some (.bchr 97) ∧
    fnSubchar toyEnv (.str ['a', 'b']) (.int 3) = some .nil := by decide

/-- str::tocharcode of str::fromcharcode gives the codes back (two or more codes; valid 16-bit character codes) -/
theorem tocharcode_fromcharcode (E : Env) (codes : List Int) (h2 : 2 ≤ codes.length)
    (hv : ∀ c ∈ codes, validCharCode c = true) (i : Nat) (hi : i < codes.length) :
    ∃ v, fnFromcharcode (codes.map Val.int) = some v ∧
      fnTocharcode E v (some (.int (i + 1))) = some (.int codes[i]) := by
  obtain ⟨v, h1, hb, hs⟩ := fnFromcharcode_valid hv
  refine ⟨v, h1, ?_⟩
  simp only [fnTocharcode, optInt, Val.toInt, Option.map_some, hb, hs, Option.getD_some, Bool.false_eq_true, if_false]
  rw [charAt_succ, List.getElem?_map, List.getElem?_eq_getElem hi]
  simp only [Option.map_some, validCharCode_toNat (hv _ (List.getElem_mem hi))]

example : ∃ v, fnFromcharcode [.int 72, .int 233] = some v ∧ fnTocharcode toyEnv v (some (.int 2)) = some (.int 233) :=
  ⟨_, rfl, rfl⟩

/-- str::tombs yields a byte string and str::frommbs a string for every kind of value; an unknown encoding name
    gives the empty result; a byte string / string passes through unchanged; and frommbs undoes tombs on any
    string the codec decodes back from its encoding -/
theorem tombs_frommbs (E : Env) (v : Val) (s : List Char) (b : List UInt8) :
    (∃ x, fnTombs E v .absent = .mbs x) ∧ (∃ y, fnFrommbs E v .absent = .str y) ∧
    fnTombs E v .unknown = .mbs [] ∧ fnFrommbs E v .unknown = .str [] ∧
    fnTombs E v .utf8 = fnTombs E v .absent ∧ fnFrommbs E v .utf8 = fnFrommbs E v .absent ∧
    fnTombs E (.mbs b) .absent = .mbs b ∧ fnFrommbs E (.str s) .absent = .str s ∧
    (E.dec (E.enc s) = s → fnFrommbs E (fnTombs E (.str s) .absent) .absent = .str s) := by
  refine ⟨?_, ?_, by simp [fnTombs], by simp [fnFrommbs], by simp [fnTombs], by simp [fnFrommbs],
    by simp [fnTombs], by simp [fnFrommbs], ?_⟩
  · cases v <;> simp [fnTombs]
  · cases v <;> simp [fnFrommbs]
  · intro h; simp [fnTombs, fnFrommbs, Val.toBcs, Val.toStr, h]

example : fnFrommbs toyEnv (fnTombs toyEnv (.str ['a', 'b']) .absent) .absent = .str ['a', 'b'] :=
  rfl

/-- str::tonum returns a number as it is whatever the base says, nil as 0, and for a string kind the value of its
    sign-and-digits text in the base -/
theorem tonum_spec (E : Env) (base : Option Val) :
    (∀ i, fnTonum E (.int i) base = some (.int i)) ∧ (∀ m e, fnTonum E (.flt m e) base = some (.flt m e)) ∧
    fnTonum E .nil base = some (.int 0) ∧
    (∀ s bv, optInt base = some bv → 0 ≤ bv.getD 0 →
      fnTonum E (.str s) base = (simpleNum (bv.getD 0).toNat (s.map Char.toNat)).map Val.int) := by
  refine ⟨fun _ => rfl, fun _ _ => rfl, rfl, ?_⟩
  intro s bv hb h0
  simp only [fnTonum, hb, Val.isBytes, Val.toStr]
  rw [if_neg (by omega)]
  simp

example : fnTonum toyEnv (.str "ff".toList) (some (.int 16)) = some (.int 255) ∧
    fnTonum toyEnv (.str "-12".toList) none = some (.int (-12)) ∧
    fnTonum toyEnv (.mbs [49, 48, 49]) (some (.int 2)) = some (.int 5) ∧
    fnTonum toyEnv (.int 12) (some (.int 16)) = some (.int 12) := by decide

/-- str::trim/ltrim/rtrim/normspace keep to the byte/character kind of their argument and work on its text -/
theorem trim_kind (E : Env) (left right : Bool) (v : Val) :
    fnTrim E left right v = (if v.isBytes then .mbs (trimChars E.spaceB left right (v.toBcs E))
                             else .str (trimChars E.spaceC left right (v.toStr E))) ∧
    fnNormspace E v = (if v.isBytes then .mbs (compact E.spaceB (v.toBcs E)) else .str (compact E.spaceC (v.toStr E))) ∧
    fnTrimFlags E v none = some (fnTrim E true true v) ∧
    fnTrimFlags E v (some (.int 1)) = some (fnNormspace E v) ∧ fnTrimFlags E v (some (.int 0)) = some (fnTrim E true true v) := by
  refine ⟨rfl, rfl, rfl, ?_, ?_⟩ <;> simp [fnTrimFlags, optInt, Val.toInt]

example : fnTrim toyEnv true true (.str " a b ".toList) = .str "a b".toList ∧
    fnNormspace toyEnv (.mbs [32, 97, 32, 32, 98, 32]) = .mbs [97, 32, 98] := by decide

/-- the class tests answer 1/0 on the bytes of a byte value and on the characters of the text of any other -/
theorem isclass_kind (E : Env) (pc : Char → Bool) (pb : UInt8 → Bool) (v : Val) :
    fnIsClass E pc pb v = .int (if (if v.isBytes then isClass pb (v.toBcs E) else isClass pc (v.toStr E)) then 1 else 0) := by
  unfold fnIsClass
  split <;> rfl

example : fnIsClass toyEnv (fun c => c.isAlpha) (fun b => 97 ≤ b) (.str ['a', 'b']) = .int 1 ∧
    fnIsClass toyEnv (fun c => c.isAlpha) (fun b => 97 ≤ b) .nil = .int 0 := by decide

/-- str::frombcharcode: one code gives a byte character (REPAIR), otherwise a byte string of the codes -/
theorem frombcharcode_spec (a b : Nat) (ha : a < 256) (hb : b < 256) :
    fnFrombcharcode [.int a] = some (.bchr (UInt8.ofNat a)) ∧
    fnFrombcharcode [.int a, .int b] = some (.mbs [UInt8.ofNat a, UInt8.ofNat b]) ∧
    fnFrombcharcode [] = some (.mbs []) ∧ fnFromcharcode [] = some (.str []) := by
  refine ⟨?_, ?_, rfl, rfl⟩
  · simp [fnFrombcharcode, allInts, Val.toInt]; omega
  · simp [fnFrombcharcode, allInts, Val.toInt]; omega

example : fnFrombcharcode [.int 65] = some (.bchr 65) := rfl

/-- two-argument sub/gsub (target $0): the count and the new record are those of `substitute` on the record's
    characters (so `gsub_leftmost_nonoverlapping` and `sub_first_match` describe them), the record is left alone
    when nothing was replaced, and NF becomes the number of blank-separated fields of the resulting record
    (`split_blank` describes those).  Nothing else is returned, i.e. nothing else is written. -/
theorem subst0_spec (E : Env) (limit : Option Nat) (pat : Pat) (a1 : Val) (rec0 : List Char) :
    let r := substitute (pat.regex E).c '\\' '&' rec0 (a1.toStr E) limit
    (fnSubst0 E limit pat a1 rec0).1 = .int r.2 ∧
    (fnSubst0 E limit pat a1 rec0).2.1 = (if r.2 > 0 then r.1 else rec0) ∧
    (fnSubst0 E limit pat a1 rec0).2.2 = (splitChars E.spaceC ' ' [' '] (fnSubst0 E limit pat a1 rec0).2.1).length ∧
    (r.2 = 0 → (fnSubst0 E limit pat a1 rec0).2.1 = rec0) := by
  intro r
  unfold fnSubst0
  generalize hr : substitute (pat.regex E).c '\\' '&' rec0 (a1.toStr E) limit = res at r
  obtain ⟨out, cnt⟩ := res
  simp only [r, true_and]
  intro h; simp [h]

example : fnSubst0 toyEnv none (.rex ['x']) (.str ['y']) "a b".toList = (.int 0, "a b".toList, 2) := by
  simp [fnSubst0, gsub_leftmost_nonoverlapping, matchSeq_unfold, render, Pat.regex, toyEnv,
    splitChars, piecesLoop_unfold, tokChars, delimMode, delimScan, tokSpaces, nextOrNull]

end Hawk.StrFn
