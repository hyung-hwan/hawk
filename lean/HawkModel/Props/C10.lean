import HawkModel.OomRetry
import HawkModel.Gen.Unwind
import HawkModel.Gen.UnwindWide
import HawkModel.OomRelLemmas
import HawkModel.Props.C19
/-!
# C10 — Running out of memory is an error, never a crash or a leak

The theorems about unwind tables are stated once per table language, for every table that passes the decidable check
`wf` (each failure target releases exactly what is held at that point) and EVERY pattern of failing steps; the tables
generated from the C sources are instances because `wf` evaluates to `true` on them.  Beside the tables: the
collect-then-retry of gc_calloc_val / makemapval, ecs, arr.  Retry and error number over whole call trees: `Props/C10b.lean`.

What is NOT carried here: the `if (!p)` branches of the functions listed in `Gen.Wide.unhandled` and
`Gen.Wide.notEstablished` and of the functions with a single acquisition site; they are enumerated by the
fault-injection harness (harness/oom_h.c), which supports but does not replace these theorems.
-/
namespace Hawk.Oom

/-- **unwind_balanced** — for a table that passes the check, for every pattern of failing steps:
    if the constructor fails, what it released is exactly (a permutation without repetition of)
    what it had acquired. -/
theorem unwind_balanced (t : Table) (hwf : t.wf = true) (fail : Nat → Bool) :
    (run t fail).ok = false → Balanced (run t fail) :=
  (runFrom_spec t fail t.ops 0 [] _ hwf Inv.empty).1

/-- the two fault patterns of the property: exactly the k-th step fails -/
theorem unwind_balanced_failAt (t : Table) (hwf : t.wf = true) (k : Nat) :
    (run t (failAt k)).ok = false → Balanced (run t (failAt k)) :=
  unwind_balanced t hwf (failAt k)

/-- … and every step from the k-th on fails -/
theorem unwind_balanced_failFrom (t : Table) (hwf : t.wf = true) (k : Nat) :
    (run t (failFrom k)).ok = false → Balanced (run t (failFrom k)) :=
  unwind_balanced t hwf (failFrom k)

/-- **success_all_owned** — a successful run released nothing and holds exactly the resources the
    table can acquire, each once. -/
theorem success_all_owned (t : Table) (hwf : t.wf = true) (fail : Nat → Bool) :
    (run t fail).ok = true →
      (run t fail).released = [] ∧ (run t fail).acquired.Nodup ∧
      ∀ r, r ∈ (run t fail).acquired ↔ r ∈ t.resources := by
  intro hk
  obtain ⟨hr, hn, ha, _⟩ := (runFrom_spec t fail t.ops 0 [] _ hwf Inv.empty).2.2 hk
  exact ⟨hr, hn, fun r => by rw [run, ha]; rfl⟩

/-- **failure_reported** — no refusal is swallowed: if the constructor reports success then no
    acquisition and no fallible step failed (also for results that are stored first and tested later). -/
theorem failure_reported (t : Table) (hwf : t.wf = true) (fail : Nat → Bool)
    (hk : (run t fail).ok = true) (j : Nat) (op : Op) (hj : t.ops[j]? = some op) (hh : op.hard = true) :
    fail j = false :=
  ((runFrom_spec t fail t.ops 0 [] _ hwf Inv.empty).2.2 hk).2.2.2 j op hj hh

/-- the k-th step failing makes the constructor fail when that step is an acquisition or a fallible step -/
theorem failAt_fails (t : Table) (hwf : t.wf = true) (k : Nat) (op : Op)
    (hj : t.ops[k]? = some op) (hh : op.hard = true) : (run t (failAt k)).ok = false :=
  Bool.eq_false_iff.mpr fun hk => by simpa [failAt] using failure_reported t hwf (failAt k) hk k op hj hh

/-- … and so does "everything from the k-th on fails" -/
theorem failFrom_fails (t : Table) (hwf : t.wf = true) (k : Nat) (op : Op)
    (hj : t.ops[k]? = some op) (hh : op.hard = true) : (run t (failFrom k)).ok = false :=
  Bool.eq_false_iff.mpr fun hk => by simpa [failFrom] using failure_reported t hwf (failFrom k) hk k op hj hh

/-- **generated_tables_wf** — every table extracted from the working tree passes the check
    (finite computation: this is the whole quantifier). -/
theorem generated_tables_wf : Gen.all.all (fun c => c.table.wf) = true := by decide

/-- hence every extracted constructor is balanced under every failure pattern -/
theorem generated_balanced (c : Ctor) (hc : c ∈ Gen.all) (fail : Nat → Bool) :
    (run c.table fail).ok = false → Balanced (run c.table fail) :=
  unwind_balanced c.table (List.all_eq_true.mp generated_tables_wf c hc) fail

theorem generated_success_all_owned (c : Ctor) (hc : c ∈ Gen.all) (fail : Nat → Bool) :
    (run c.table fail).ok = true →
      (run c.table fail).released = [] ∧ ∀ r, r ∈ (run c.table fail).acquired ↔ r ∈ c.table.resources := by
  intro hk
  have := success_all_owned c.table (List.all_eq_true.mp generated_tables_wf c hc) fail hk
  exact ⟨this.1, this.2.2⟩

/-- the step ↔ callee bookkeeping the driver relies on is well-formed -/
theorem generated_callees_aligned : Gen.all.all (fun c => c.callees.length == c.table.ops.length) = true := by decide

/-- non-vacuity: failing the eighth acquisition of init_rtx releases the seven held ones in reverse order -/
example : (run Gen.init_rtx.table (failAt 7)).released = [6, 5, 4, 3, 2, 1, 0] ∧
          (run Gen.init_rtx.table (failAt 7)).acquired = [0, 1, 2, 3, 4, 5, 6] := by decide

/-- non-vacuity: the check rejects a table that leaks (label of step 1 forgets resource 0) … -/
example : Table.wf { ops := [.acq 0 (some 0), .acq 1 (some 1)], labels := [[], []] } = false := by decide
/-- … one that frees twice … -/
example : Table.wf { ops := [.acq 0 (some 0), .acq 1 (some 1)], labels := [[], [.always 0, .always 0]] } = false := by decide
/-- … and one that frees what is not held yet -/
example : Table.wf { ops := [.acq 0 (some 0), .acq 1 (some 1)], labels := [[.always 0], [.always 0]] } = false := by decide

/-- non-vacuity of the deferred form (hawk_init): the third `*_open` failing alone is noticed by the
    later test, and the seven other containers plus tokens and log buffer are released -/
example : (run Gen.hawk_init.table (failAt 7)).ok = false ∧
          (run Gen.hawk_init.table (failAt 7)).acquired = [0, 1, 2, 3, 4, 5, 7, 8, 9, 10, 11] := by decide

/-- **gc_calloc_retry** — gc_calloc_val makes at most two requests and at most two collections,
    never loops (it is a total, non-recursive function), returns a block exactly when one of the
    (at most two) requests was granted, counts the allocation only then, and before giving up it has
    run a full collection. -/
theorem gc_calloc_retry (g : Gc) (o : Oracle) :
    let r := gcCallocVal g o
    requests r.evs ≤ 2 ∧ collects r.evs ≤ 2 ∧
    (r.granted = true ↔ grants r.evs = 1) ∧ (r.granted = false ↔ grants r.evs = 0) ∧
    (r.granted = false → requests r.evs = 2 ∧ GcEv.collect 2 ∈ r.evs ∧ r.gc.p0 = 0) ∧
    (r.granted = true → r.gc.p0 ≥ 1) :=
  gcCallocVal_spec g o

/-- a single refusal never makes gc_calloc_val fail: the retry after the collection is served -/
theorem gc_calloc_single_refusal (g : Gc) (o : Oracle) (b : Bool) (h : o = [b]) :
    (gcCallocVal g o).granted = true := by
  subst h
  rw [← gcCallocValE_proj ⟨⟨.noerr⟩, g, 0, 0⟩ [b]]
  exact ((gcval_ok _ [b]).2.2 (by cases b <;> decide)).1

/-- **makeval_retry_bounded** — hawk_rtx_makemapval/makearrval: the `goto retry` is taken at most
    once, so at most six requests are made; on failure every granted value block was given back
    (`gc_free_val`), on success exactly the value block and the container's table are kept. -/
theorem makeval_retry_bounded (g : Gc) (o : Oracle) :
    let r := makeContainerVal g false o
    requests r.evs ≤ 6 ∧
    (r.granted = false → grants r.evs = frees r.evs) ∧
    (r.granted = true → grants r.evs = frees r.evs + 2) := by
  -- the model with error number, started from these counters, projects to this one
  obtain ⟨k, l⟩ := container_ok ⟨⟨.noerr⟩, g, 0, 0⟩ o
  have hb := k.balance_noChunk l
  rw [← makeContainerE_proj ⟨⟨.noerr⟩, g, 0, 0⟩ o]
  exact ⟨k.requests_le, fun hf => hb.trans (by rw [l.2.2 hf]; rfl), fun ht => hb.trans (by rw [k.owned_eq ht]; rfl)⟩

/-- FN(setcapa): either the capacity is what was asked for, or ENOMEM and nothing changed -/
theorem ecs_setcapa_cases (e : Ecs) (c : Nat) (o : Oracle) :
    ((e.setcapa c o).ret = .ok c ∧
      (((e.setcapa c o).ecs = e ∧ c = e.capa) ∨
       (e.setcapa c o).ecs = { chars := if c < e.len then e.chars.take c else e.chars, capa := c, hasPtr := true }))
    ∨ ((e.setcapa c o).ret = .error .enomem ∧ (e.setcapa c o).ecs = e) := by
  unfold Ecs.setcapa
  by_cases h : c = e.capa
  · simp [h]
  · simp only [h, ↓reduceIte]
    cases hn : o.next with
    | mk b o1 => cases b <;> simp

/-- **ecs_oom_atomic** — whichever requests are refused, an ecs operation that reports failure has
    left the string exactly as it was (contents, capacity, buffer). -/
theorem ecs_oom_atomic (e : Ecs) (o : Oracle) :
    (∀ c x, (e.setcapa c o).ret = .error x → (e.setcapa c o).ecs = e) ∧
    (∀ n x, (e.setlen n o).ret = .error x → (e.setlen n o).ecs = e) ∧
    (∀ s x, (e.ncpy s o).ret = .error x → (e.ncpy s o).ecs = e) ∧
    (∀ s x, (e.ncat s o).ret = .error x → (e.ncat s o).ecs = e) := by
  -- every path through these functions either gives `e` back or reports success
  refine ⟨fun c x => ?_, fun n x => ?_, fun s x => ?_, fun s x => ?_⟩
  · fun_cases Ecs.setcapa e c o with
    | case2 => exact fun _ => rfl
    | case1 | case3 => nofun
  · fun_cases Ecs.setlen e n o with
    | case3 => exact fun _ => rfl
    | case1 | case2 | case4 => nofun
  · fun_cases Ecs.ncpy e s o with
    | case1 => exact fun _ => rfl
    | case2 => nofun
  · fun_cases Ecs.ncat e s o with
    | case1 => exact fun _ => rfl
    | case2 => nofun

/-- the back-off loop of resize_for_ncat ends (accepted by the termination checker with measure
    `ncapa - mincapa`) and either obtains a capacity between mincapa and the first wish, keeping the
    contents, or fails with ENOMEM leaving the string untouched -/
theorem ecs_growLoop_spec (e : Ecs) (mincapa : Nat) (hlen : e.len ≤ mincapa) :
    ∀ (n ncapa : Nat) (o : Oracle), ncapa - mincapa = n → mincapa ≤ ncapa →
      (∃ c, (e.growLoop ncapa mincapa o).ret = .ok c ∧ mincapa ≤ c ∧ c ≤ ncapa ∧
            (((e.growLoop ncapa mincapa o).ecs = e ∧ c = e.capa) ∨
             (e.growLoop ncapa mincapa o).ecs = { chars := e.chars, capa := c, hasPtr := true }))
      ∨ ((e.growLoop ncapa mincapa o).ret = .error .enomem ∧ (e.growLoop ncapa mincapa o).ecs = e) :=
  fun _ ncapa o _ => Ecs.growLoop_spec e mincapa hlen ncapa o

/-- **ecs_refused_grow_fails** — appending needs room and every request is refused: ncat reports
    ENOMEM and the string is unchanged.  (`List.replicate k false` refuses the next k requests;
    the loop makes at most `ncapa - mincapa + 1 ≤ e.capa + 1` of them.) -/
theorem ecs_refused_grow_fails (e : Ecs) (s : List Nat) (hneed : s.length > e.capa - e.len) (hwf : e.len ≤ e.capa) :
    (e.ncat s (List.replicate (e.capa + 1) false)).ret = .error .enomem ∧
    (e.ncat s (List.replicate (e.capa + 1) false)).ecs = e :=
  Ecs.ncat_refused e s hneed _ (Nat.lt_succ_self _)

/-- successful append: the contents are the old contents followed by the new characters (no sizer,
    so nothing is truncated), the length is reported, and the representation invariant holds -/
theorem ecs_ncat_ok (e : Ecs) (s : List Nat) (o : Oracle) (hwf : e.WF) (n : Nat)
    (hok : (e.ncat s o).ret = .ok n) :
    (e.ncat s o).ecs.chars = e.chars ++ s ∧ n = e.len + s.length ∧ (e.ncat s o).ecs.WF := by
  have hl := hwf.1
  have key : ∀ r, r = e.resizeForNcat s.length o → ∀ v, r.ret = .ok v →
      r.ecs.chars = e.chars ∧ e.len + s.length ≤ r.ecs.capa ∧ (r.ecs.capa > 0 → r.ecs.hasPtr = true) := by
    rintro r rfl v
    fun_cases Ecs.resizeForNcat e s.length o with
    | case1 hneed mincapa ncapa =>
      intro hv
      have hmin : mincapa ≤ ncapa := by simp only [ncapa]; split <;> omega
      rcases Ecs.growLoop_spec e mincapa (by omega) ncapa o hmin with ⟨c, _, h2, _, ⟨h4, hc⟩ | h4⟩ | ⟨h1, _⟩
      · rw [h4]; exact ⟨rfl, by omega, hwf.2⟩
      · rw [h4]; exact ⟨rfl, h2, fun _ => rfl⟩
      · rw [h1] at hv; cases hv
    | case2 _ hz =>
      intro hv
      rcases ecs_setcapa_cases e 1 o with ⟨_, ⟨_, hc⟩ | he⟩ | ⟨hr, _⟩
      · omega
      · rw [he, if_neg (by omega)]; exact ⟨rfl, by omega, fun _ => rfl⟩
      · rw [hr] at hv; cases hv
    | case3 hneed hz => exact fun _ => ⟨rfl, show e.len + s.length ≤ e.capa by omega, hwf.2⟩
  revert hok
  fun_cases Ecs.ncat e s o with
  | case1 => nofun
  | case2 r v hr room s' =>
    intro hok
    obtain ⟨k1, k2, k3⟩ := key r rfl v hr
    have hlen : r.ecs.len = e.len := congrArg List.length k1
    have hs : s' = s := if_neg (show ¬ s.length > r.ecs.capa - r.ecs.len by omega)
    injection hok with hok
    refine ⟨by rw [k1, hs], by rw [← hok, hlen, hs], ?_, k3⟩
    show (r.ecs.chars ++ s').length ≤ r.ecs.capa
    rw [List.length_append, hs]
    exact (show r.ecs.len + s.length ≤ r.ecs.capa from hlen ▸ k2)

/-- **ecs_oom_atomic_more** — the remaining growing operations: a failed nrcat or amend leaves the string
    exactly as it was (amend shrinks in place and grows through setlen before it moves anything). -/
theorem ecs_oom_atomic_more (e : Ecs) (o : Oracle) :
    (∀ s x, (e.nrcat s o).ret = .error x → (e.nrcat s o).ecs = e) ∧
    (∀ pos len repl x, (e.amend pos len repl o).ret = .error x → (e.amend pos len repl o).ecs = e) := by
  refine ⟨fun s x => ?_, fun pos len repl x => ?_⟩
  · fun_cases Ecs.nrcat e s o with
    | case1 => exact fun _ => rfl
    | case2 => nofun
  · fun_cases Ecs.amend e pos len repl o with
    | case2 => exact fun _ => rfl
    | case1 | case3 | case4 => nofun

/-- non-vacuity: a refused growth inside amend is reported and changes nothing -/
example : (Ecs.amend { chars := [1, 2, 3], capa := 3, hasPtr := true } 1 1 [7, 8, 9] [false]).ret = .error .enomem ∧
          (Ecs.amend { chars := [1, 2, 3], capa := 3, hasPtr := true } 1 1 [7, 8, 9] [false]).ecs
            = { chars := [1, 2, 3], capa := 3, hasPtr := true } := by constructor <;> rfl

/-- what amend computes when it succeeds, on concrete instances of its three branches
    (shrinking, growing, same length): old[0,pos) ++ repl ++ old[pos+len, ..) -/
example : (Ecs.amend { chars := [1, 2, 3, 4, 5], capa := 8, hasPtr := true } 1 3 [9] []).ecs.chars = [1, 9, 5] ∧
          (Ecs.amend { chars := [1, 2, 3, 4, 5], capa := 8, hasPtr := true } 1 1 [7, 8, 9] []).ecs.chars = [1, 7, 8, 9, 3, 4, 5] ∧
          (Ecs.amend { chars := [1, 2, 3, 4, 5], capa := 8, hasPtr := true } 3 2 [7, 8] []).ecs.chars = [1, 2, 3, 7, 8] := by decide

/-- **ecs_nccat_prefix** — nccat appends character by character: when it succeeds the string is the old one
    followed by `n` copies; when a growth is refused on the way the string is the old one followed by
    fewer than `n` copies (it is never damaged, but the operation is NOT all-or-nothing), and the
    representation invariant holds either way. -/
theorem ecs_nccat_prefix (c : Nat) : ∀ (n : Nat) (e : Ecs) (o : Oracle), e.WF →
    (∃ j, j ≤ n ∧ (e.nccat c n o).ecs.chars = e.chars ++ List.replicate j c ∧
          ((e.nccat c n o).ret = .ok (e.len + n) ∧ j = n ∨ (e.nccat c n o).ret = .error .enomem ∧ j < n)) ∧
    (e.nccat c n o).ecs.WF := by
  intro n
  induction n with
  | zero => intro e o hwf; exact ⟨⟨0, Nat.le_refl _, by simp [Ecs.nccat], Or.inl ⟨by simp [Ecs.nccat], rfl⟩⟩, by simpa [Ecs.nccat] using hwf⟩
  | succ n ih =>
    intro e o hwf
    unfold Ecs.nccat
    simp only
    cases hr : (e.ncat [c] o).ret with
    | error x =>
      have hat := (ecs_oom_atomic e o).2.2.2 [c] x hr
      cases x
      simp only [hat]
      exact ⟨⟨0, Nat.zero_le _, by simp, Or.inr ⟨by simp, Nat.succ_pos _⟩⟩, hwf⟩
    | ok v =>
      obtain ⟨h1, h2, h3⟩ := ecs_ncat_ok e [c] o hwf v hr
      simp only
      obtain ⟨⟨j, hj, hc, hcase⟩, hw⟩ := ih (e.ncat [c] o).ecs (e.ncat [c] o).rest h3
      refine ⟨⟨j + 1, by omega, ?_, ?_⟩, hw⟩
      · rw [hc, h1, List.replicate_succ]; simp
      · have hlen : (e.ncat [c] o).ecs.len = e.len + 1 := by simp [Ecs.len, h1]
        rcases hcase with ⟨hk, hjn⟩ | ⟨hk, hjn⟩
        · left; refine ⟨?_, by omega⟩; rw [hk, hlen]; congr 1; omega
        · right; exact ⟨hk, by omega⟩

/-- non-vacuity: an empty string without a buffer, the only growth request refused -/
example : (Ecs.nccat { chars := [], capa := 0, hasPtr := false } 9 3 [false]).ret = .error .enomem := by
  simp [Ecs.nccat, Ecs.ncat, Ecs.resizeForNcat, Ecs.growLoop, Ecs.setcapa, Oracle.next, Ecs.len]

/-! ### every multi-acquisition function of lib/*.c that extract/unwind_wide.py can express

  `Gen.Wide.all` (first table language) and `Gen.Wide.allFt` (second language, with releases of temporaries on
  the main path; one table per acyclic path through the function) are regenerated on every check.  The functions
  the translator cannot express and the ones whose table does not pass the law are listed by name in
  `Gen.Wide.unhandled` / `Gen.Wide.notEstablished` and in the evidence (measured coverage). -/

/-- every wide table of the first language passes the check, hence is balanced under every failure pattern -/
theorem wide_balanced (c : Ctor) (hc : c ∈ Gen.Wide.all) (fail : Nat → Bool) :
    (run c.table fail).ok = false → Balanced (run c.table fail) :=
  unwind_balanced c.table (List.all_eq_true.mp Gen.Wide.all_wf c hc) fail

/-- … and reports every failing acquisition / fallible step (no success return) -/
theorem wide_failure_reported (c : Ctor) (hc : c ∈ Gen.Wide.all) (k : Nat) (op : Op)
    (hj : c.table.ops[k]? = some op) (hh : op.hard = true) :
    (run c.table (failAt k)).ok = false ∧ (run c.table (failFrom k)).ok = false :=
  ⟨failAt_fails c.table (List.all_eq_true.mp Gen.Wide.all_wf c hc) k op hj hh,
   failFrom_fails c.table (List.all_eq_true.mp Gen.Wide.all_wf c hc) k op hj hh⟩

/-- **ft_unwind_balanced** — second table language (functions that release temporaries on the main path): for a
    table that passes the check and EVERY pattern of failing steps, a failing run releases exactly what is
    still held at the failing step, each once, and never again what the main path had already released. -/
theorem ft_unwind_balanced (t : Ft.Table) (hwf : t.wf = true) (fail : Nat → Bool) :
    (Ft.run t fail).ok = false → Ft.Balanced (Ft.run t fail) :=
  (Ft.runFrom_spec t fail t.ops 0 [] [] hwf List.nodup_nil nofun).1

/-- **ft_failure_reported** — no refusal is swallowed: a run that reports success had no failing acquisition and no
    failing fallible step; in particular "the k-th step fails" and "every step from the k-th on fails" make the
    function fail when step k is an acquisition or a fallible step. -/
theorem ft_failure_reported (t : Ft.Table) (fail : Nat → Bool) (hk : (Ft.run t fail).ok = true)
    (j : Nat) (op : Ft.Op) (hj : t.ops[j]? = some op) (hh : op.hard = true) : fail j = false :=
  Ft.ok_no_hard_failure t fail t.ops 0 [] [] hk j op hj hh

theorem ft_failAt_fails (t : Ft.Table) (k : Nat) (op : Ft.Op) (hj : t.ops[k]? = some op) (hh : op.hard = true) :
    (Ft.run t (failAt k)).ok = false ∧ (Ft.run t (failFrom k)).ok = false :=
  ⟨Bool.eq_false_iff.mpr fun hk => by simpa [failAt] using ft_failure_reported t (failAt k) hk k op hj hh,
   Bool.eq_false_iff.mpr fun hk => by simpa [failFrom] using ft_failure_reported t (failFrom k) hk k op hj hh⟩

/-- a successful run released nothing on a failure exit (what it still holds belongs to its result) -/
theorem ft_success_no_unwind (t : Ft.Table) (hwf : t.wf = true) (fail : Nat → Bool) :
    (Ft.run t fail).ok = true → (Ft.run t fail).released = [] ∧ (Ft.run t fail).held.Nodup ∧
      ∀ r, r ∈ (Ft.run t fail).freed → r ∉ (Ft.run t fail).held :=
  (Ft.runFrom_spec t fail t.ops 0 [] [] hwf List.nodup_nil nofun).2

/-- **wide_ft_balanced** — every function table extracted from lib/*.c in the second language is balanced under
    every failure pattern (the generated file decides `wf` for each of them). -/
theorem wide_ft_balanced (f : Ft.Fn) (hf : f ∈ Gen.Wide.allFt) (fail : Nat → Bool) :
    (Ft.run f.table fail).ok = false → Ft.Balanced (Ft.run f.table fail) :=
  ft_unwind_balanced f.table (List.all_eq_true.mp Gen.Wide.allFt_wf f hf) fail

/-- non-vacuity: the check of the second language rejects a leak of a temporary (the failure exit of the second
    acquisition forgets the first), a double release (the temporary is released on the main path AND by a later
    failure exit) and accepts the correct function -/
example : Ft.Table.wf { ops := [.acq 0 0, .acq 1 1, .rel 0], labels := [[], []] } = false := by decide
example : Ft.Table.wf { ops := [.acq 0 0, .rel 0, .acq 1 1], labels := [[], [0]] } = false := by decide
example : Ft.Table.wf { ops := [.acq 0 0, .acq 1 1, .rel 0, .guard 2], labels := [[], [0], [1]] } = true := by decide
example : (Ft.run { ops := [.acq 0 0, .acq 1 1, .rel 0, .guard 2], labels := [[], [0], [1]] } (failAt 3)).released = [1] ∧
          (Ft.run { ops := [.acq 0 0, .acq 1 1, .rel 0, .guard 2], labels := [[], [0], [1]] } (failAt 3)).freed = [0] := by decide

/-- **ft_partial_fill_released** — the element-wise filled object (`Op.acqp`, the `for (i..) { x[i] = make(); if (!x[i]) goto oops; }`
    shape of hawk_rtx_callwith*strarr): in a table that passes the check, when the filling step itself fails the
    failure exit releases the elements filled so far (`r`) together with everything acquired before. -/
theorem ft_partial_fill_released (t : Ft.Table) (fail : Nat → Bool) :
    ∀ (ops : List Ft.Op) (i : Nat) (held freed : List Nat) (r l : Nat) (rest : List Ft.Op),
      ops = .acqp r l :: rest → Ft.wfFrom t ops held freed = true → held.Nodup → (∀ q, q ∈ freed → q ∉ held) →
      fail i = true →
      (Ft.runFrom t fail ops i held freed).ok = false ∧
      r ∈ (Ft.runFrom t fail ops i held freed).released ∧
      ∀ q, q ∈ held → q ∈ (Ft.runFrom t fail ops i held freed).released := by
  intro ops i held freed r l rest hops hw _ _ hf
  subst hops
  simp only [Ft.wfFrom, Bool.and_eq_true] at hw
  have hm := (Ft.exit_released t (held ++ [r]) freed l hw.1.2).2
  simp only [Ft.runFrom, hf, if_true]
  exact ⟨rfl, (hm r).mpr (by simp), fun q hq => (hm q).mpr (by simp [hq])⟩

/-- non-vacuity (the table of hawk_rtx_callwithbcstrarr: block `v`, its elements, the call): the check accepts it,
    rejects the variant whose failure exit forgets the elements, and a failure while filling releases both -/
example : Ft.Table.wf { ops := [.acq 0 0, .acqp 1 1, .guard 1], labels := [[], [1, 0]] } = true := by decide
example : Ft.Table.wf { ops := [.acq 0 0, .acqp 1 1, .guard 1], labels := [[], [0]] } = false := by decide
example : (Ft.run { ops := [.acq 0 0, .acqp 1 1, .guard 1], labels := [[], [1, 0]] } (failAt 1)).released = [1, 0] ∧
          (Ft.run { ops := [.acq 0 0, .acqp 1 1, .guard 1], labels := [[], [1, 0]] } (failAt 1)).held = [0, 1] := by decide

/-- **arr_insert_oom_atomic** — hawk_arr_insert under any allocator behaviour: an insert that does
    not report success left size, tally, capacity and every cell as they were
    (corollary of `Hawk.Arr.insert_spec`). -/
theorem arr_insert_oom_atomic (a : Hawk.Arr.Arr) (pos v : Nat) (o : Hawk.Arr.Oracle) (h : Hawk.Arr.WF a)
    (hfail : (Hawk.Arr.insert a pos v o).ret ≠ .ok pos) : (Hawk.Arr.insert a pos v o).arr = a := by
  have := Hawk.Arr.insert_spec a pos v o h
  simp only at this
  rcases this with h1 | h2 | h3
  · exact absurd h1.1 hfail
  · exact h2.2.1
  · exact h3.2.1

end Hawk.Oom
