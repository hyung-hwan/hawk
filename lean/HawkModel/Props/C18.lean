import HawkModel.SedPrint
import HawkModel.SedParseNoInternal
/-!
  C18 — theorems about the reference executor `Hawk.Sed.exec` (HawkModel/Sed.lean), which the
  correspondence check ties to lib/sed.c (hawk-sed CLI) and to GNU `sed --posix`, and about the script compiler
  `Hawk.Sed.parseScript` (HawkModel/SedParse.lean), tied to hawk_sed_comp by the dump of harness/sedc_h.c.
  Every theorem about the executor quantifies over ALL matchers (the regex engine is a parameter), all states, all inputs.
-/
namespace Hawk.Sed.C18
open Hawk.Sed

/-- `range_spec`: for every kind of second address and every sequence of evaluations (line number, does addr1
    match, does addr2 match, is it the last line) the a1_matched state machine transcribed from `match_address`
    selects exactly the lines of the POSIX ranges (`rangeSpec`: a range opens at a line matching addr1 while closed;
    it is that single line if addr2 is a line number ≤ the current line or `$` on the last line; otherwise it runs
    through the first LATER evaluation matching addr2 — or stops, unselected, at a later evaluation that has passed
    a line-number addr2 —; never closed = extends to the end). -/
theorem range_spec (k : A2Kind) (obs : List RangeObs) :
    rangeRun k false obs = rangeSpec k obs := by
  fun_induction rangeSpec k obs <;> simp_all [rangeRun, rangeStep, rangeRun_open]

/-- addr2 is looked at from the NEXT evaluation on: on the opening line only addr1 (and the one-line rule) counts -/
theorem range_open_ignores_addr2 (k : A2Kind) (o : RangeObs) (rest : List RangeObs) (b : Bool) :
    rangeRun k false ({ o with m2 := b } :: rest) = rangeRun k false (o :: rest) := by
  simp [rangeRun, rangeStep, oneLine]

/-- a range that is never closed extends to the end of the input -/
theorem range_extends_to_end (k : A2Kind) (rest : List RangeObs)
    (h : ∀ o ∈ rest, o.m2 = false ∧ passed k o = false) :
    rangeRun k true rest = rest.map fun _ => true := by
  induction rest with
  | nil => simp [rangeRun]
  | cons o r ih =>
    have ho := h o (by simp)
    simp [rangeRun, rangeStep, ho.1, ho.2]
    exact ih fun x hx => h x (by simp [hx])

/-- addr2 a line number ≤ the line on which addr1 matches: exactly that one line, and the range is closed again -/
theorem range_one_line (n : Nat) (o : RangeObs) (h1 : o.m1 = true) (hn : n ≤ o.lineno) :
    rangeStep (.line n) false o = (false, true, true) := by
  simp [rangeStep, h1, oneLine, hn]

/-- while closed, a line not matching addr1 is not selected and leaves the range closed -/
theorem range_closed_stays (k : A2Kind) (o : RangeObs) (h1 : o.m1 = false) :
    rangeStep k false o = (false, false, false) := by
  simp [rangeStep, h1]

/-- the executor's `matchAddress` IS this machine: for a two-address command it evaluates (lazily, as the C does)
    addr2 when the range is open and addr1 when it is closed, and moves `rstate[pc]` / selects / sets c_ready
    exactly as `rangeStep` says -/
theorem matchAddress_is_rangeStep (m : Matcher) (c : Cmd) (pc : Nat) (st st' : St) (sel cr : Bool)
    (h1 : c.a1 ≠ .none) (h2 : c.a2 ≠ .none)
    (h : matchAddress m c pc st = some (st', sel, cr)) :
    ∃ st1 b, matchA m (if st.rstate.getD pc false then c.a2 else c.a1) st = some (st1, b) ∧
      let r := rangeStep c.a2.kind (st.rstate.getD pc false) ⟨st.lineno, b, b, st.input.isEmpty⟩
      st'.rstate = st1.rstate.set pc r.1 ∧ sel = r.2.1 ∧ cr = r.2.2 := by
  unfold matchAddress at h
  simp only [h1, h2, if_false] at h
  split at h
  · cases h
  · rename_i st1 b hm
    refine ⟨st1, b, hm, ?_⟩
    cases h
    simp

/-- `range_spec` end to end: run `sed -n 'addr1,addr2 p'` (any two addresses: line numbers, `$`, non-empty regexes; any
    matcher) on ANY input of newline-terminated lines: the output is exactly the lines of the POSIX ranges
    `rangeSpec`, computed from which lines satisfy addr1 / addr2 — whatever fuel ≥ 2 per cycle and size cap -/
theorem range_print_spec (m : Matcher) (a1 a2 : Addr) (h1 : a1 ≠ .none) (h2 : a2 ≠ .none) (p1 : a1.plain) (p2 : a2.plain)
    (cap fuel : Nat) (input : List Str) (hl : ∀ l ∈ input, endsNl l = true) :
    (exec m [{ a1 := a1, a2 := a2, neg := false, op := .print }] true cap (fuel + 2) input).out =
      selectLines input (rangeSpec a2.kind (obsOf m a1 a2 0 input)) := by
  rw [← range_spec]
  refine execLoop_rule (·.out)
    (fun st => (∃ act, st.rstate = [act]) ∧ st.appq = [] ∧ (st.out = [] ∨ endsNl st.out = true) ∧ ∀ l ∈ st.input, endsNl l = true)
    (fun st => st.out ++ selectLines st.input (rangeRun a2.kind (st.rstate.getD 0 false) (obsOf m a1 a2 st.lineno st.input)))
    ?_ ?_ _ _ ⟨⟨false, rfl⟩, rfl, Or.inl rfl, hl⟩ (Nat.le_refl _)
  · intro st _ hin
    simp [finish, hin, obsOf, rangeRun, selectLines]
  · intro st l rest ⟨⟨act, hr⟩, ha, ho, hl⟩ hin
    obtain ⟨st2, hc, hi2, hn2, ha2, hr2, ho2⟩ := range_print_cycle m a1 a2 h1 h2 p1 p2 cap fuel
      { st with input := rest, ps := l, lineno := st.lineno + 1, substDone := false } act hr _ rfl
    simp only at hi2 hn2 ha2 hr2 ho2
    rw [hin] at hl
    have hout : (emitOutput true st2 false).out = st2.out := by simp [emitOutput, ha2, ha]
    refine ⟨st2, hc, ⟨⟨_, by simpa [emitOutput] using hr2⟩, rfl, ?_, ?_⟩, ?_⟩
    · rw [hout, ho2]
      split
      · rw [emit_terminated _ _ ho]; exact Or.inr (endsNl_append _ _ (hl l (List.mem_cons_self ..)))
      · exact ho
    · rw [emitOutput_input, hi2]
      exact fun x hx => hl x (List.mem_cons_of_mem _ hx)
    · rw [hout, ho2, emitOutput_input, hi2, hin, hr]
      simp only [emitOutput, hr2, hn2, obsOf, rangeRun, selectLines, List.getD_cons_zero]
      split
      · rw [emit_terminated _ _ ho]; simp
      · simp

/-- `x;x` is the identity -/
theorem xchg_xchg (m : Matcher) (q cr : Bool) (st : St) :
    execCmd m q .xchg cr (execCmd m q .xchg cr st).1 = (st, .next) := by
  simp [execCmd]

/-- `h;g` leaves the pattern space unchanged (and the hold space equal to it) -/
theorem hold_get (m : Matcher) (q cr : Bool) (st : St) :
    (execCmd m q .get cr (execCmd m q .hold cr st).1).1 = { st with hold := st.ps } := by
  simp [execCmd]

/-- `g;h` leaves the hold space unchanged (and the pattern space equal to it) -/
theorem get_hold (m : Matcher) (q cr : Bool) (st : St) :
    (execCmd m q .hold cr (execCmd m q .get cr st).1).1 = { st with ps := st.hold } := by
  simp [execCmd]

/-- `G` appends newline + hold space to the pattern space: in POSIX terms (buffers without their terminator)
    `ps' = ps ++ "\n" ++ hold`; the hold space is unchanged -/
theorem getAppend_spec (m : Matcher) (q cr : Bool) (st : St) (hh : endsNl st.hold = true) :
    let st' := (execCmd m q .getAppend cr st).1
    body st'.ps = body st.ps ++ '\n' :: body st.hold ∧ st'.hold = st.hold ∧ endsNl st'.ps = true :=
  ⟨body_termin_append _ _ hh, rfl, endsNl_append _ _ hh⟩

/-- `H` appends newline + pattern space to the hold space; the pattern space is unchanged -/
theorem holdAppend_spec (m : Matcher) (q cr : Bool) (st : St) (hp : endsNl st.ps = true) :
    let st' := (execCmd m q .holdAppend cr st).1
    body st'.hold = body st.hold ++ '\n' :: body st.ps ∧ st'.ps = st.ps ∧ endsNl st'.hold = true :=
  ⟨body_termin_append _ _ hp, rfl, endsNl_append _ _ hp⟩

/-- on ordinary (newline-terminated) buffers G and H are the plain concatenations the C code performs -/
theorem getAppend_terminated (m : Matcher) (q cr : Bool) (st : St) (hp : endsNl st.ps = true) :
    (execCmd m q .getAppend cr st).1.ps = st.ps ++ st.hold := by
  simp [execCmd, termin, hp]

/-- only h, H and x write the hold space -/
theorem hold_frame (m : Matcher) (q cr : Bool) (op : Op) (st : St)
    (h1 : op ≠ .hold) (h2 : op ≠ .holdAppend) (h3 : op ≠ .xchg) :
    (execCmd m q op cr st).1.hold = st.hold :=
  (execCmd_ctl m q cr op st).hold h1 h2 h3

/-- `-n` matters to no command except `n` (whose autoprint it suppresses) -/
theorem quiet_frame (m : Matcher) (cr : Bool) (op : Op) (st : St) (h : op ≠ .next) :
    execCmd m true op cr st = execCmd m false op cr st := by
  cases op
  case next => contradiction
  all_goals rfl

/-- `-n` only suppresses the autoprint: the end-of-cycle output under -n is the output of a cycle whose pattern
    space is not printed; the append queue is flushed all the same -/
theorem quiet_only_autoprint (st : St) :
    emitOutput true st false = emitOutput false st true ∧
    (emitOutput true st false).appq = [] ∧
    (emitOutput true st false).out = st.appq.foldl emit st.out := by
  simp [emitOutput]

/-- end of cycle on newline-terminated data: the pattern space, then the queued `a` texts in order -/
theorem end_of_cycle_output (st : St) (ho : st.out = [] ∨ endsNl st.out = true) (hp : endsNl st.ps = true)
    (ha : ∀ t ∈ st.appq, endsNl t = true) :
    (emitOutput false st false).out = st.out ++ st.ps ++ st.appq.flatten ∧ (emitOutput false st false).appq = [] := by
  simp only [emitOutput, Bool.not_false, Bool.and_self, if_true, and_true]
  rw [emit_terminated _ _ ho, foldl_emit_terminated _ _ (Or.inr (endsNl_append _ _ hp)) ha]

/-- `y` maps the line body character by character and keeps the terminator: the length never changes -/
theorem trans_length (pairs : List (Char × Char)) (ps : Str) : (doTrans pairs ps).length = ps.length := by
  have := congrArg List.length (trimLine_append ps)
  simp [doTrans] at *
  omega

/-- `subst_occurrence`: for every matcher, regex, replacement, flags and pattern space, `do_subst` produces the
    declarative replacement over the non-overlapping leftmost match sequence `matchSeq` of the line body (the line
    terminator is kept): the gaps are copied, exactly the occurrences chosen by the flags are replaced by the expanded
    replacement (`&`, `\1`..`\9`) — the N-th one only (`selOcc N k ↔ k = N`), or every one with `g`
    (`selOcc 0 k`) —, and the returned flag (which sets the `t` flag) says whether a chosen occurrence exists. -/
theorem subst_occurrence (m : Matcher) (re rpl : Str) (g : Bool) (occ : Nat) (ps : Str) :
    doSubst m re rpl g occ ps =
      (render (trimLine ps).1 rpl (selOcc (if g then 0 else occ)) 0 1 (matchSeq m re (trimLine ps).1 0 none) ++ (trimLine ps).2,
       anyFrom (if g then 0 else occ) 1 (matchSeq m re (trimLine ps).1 0 none).length) := by
  simp [doSubst, substLoop_spec]

/-- `subst_occurrence` end to end: `sed 's/re/rpl/flags'` (non-empty regex, any matcher) on ANY input of terminated lines
    writes, line by line, the substituted pattern spaces — which `subst_occurrence` characterises declaratively -/
theorem subst_script_spec (m : Matcher) (re rpl : Str) (g : Bool) (occ : Nat) (hre : re ≠ []) (cap fuel : Nat)
    (input : List Str) (hl : ∀ l ∈ input, endsNl l = true) :
    (exec m [{ op := .subst re rpl g occ false none }] false cap (fuel + 2) input).out =
      (input.map fun l => (doSubst m re rpl g occ l).1).flatten := by
  rw [subst_script_out m re rpl g occ hre, ← List.foldl_map, foldl_emit_terminated _ _ (Or.inl rfl)]
  · rfl
  · simpa using fun l h => doSubst_endsNl m re rpl g occ l (hl l h)

/-- a replacement happens iff the wanted occurrence exists: with g at least one match, with N at least N matches -/
theorem subst_replaced_iff (m : Matcher) (re rpl : Str) (g : Bool) (occ : Nat) (ps : Str) (hocc : 1 ≤ occ) :
    (doSubst m re rpl g occ ps).2 = true ↔
      (if g then 1 else occ) ≤ (matchSeq m re (trimLine ps).1 0 none).length := by
  rw [subst_occurrence]
  simp only [anyFrom_eq]
  cases g <;> simp <;> omega

/-- no match: the pattern space is unchanged and nothing is reported as replaced -/
theorem subst_no_match (m : Matcher) (re rpl : Str) (g : Bool) (occ : Nat) (ps : Str)
    (h : matchSeq m re (trimLine ps).1 0 none = []) : doSubst m re rpl g occ ps = (ps, false) := by
  rw [subst_occurrence, h]
  simp [render, anyFrom, trimLine_append]

/-- the text outside the matches is never touched: with nothing chosen the rendering is the identity -/
theorem render_identity (s rpl : Str) (m : Matcher) (re : Str) :
    render s rpl (fun _ => false) 0 1 (matchSeq m re s 0 none) = s := by
  have := render_none s rpl (fun _ => false) 0 1 _ (matchSeq_chain m re s 0 none) (fun _ _ => rfl)
  simpa using this

/-- the match sequence is what POSIX asks for: inside the subject, left to right, non-overlapping -/
theorem matchSeq_ordered (m : Matcher) (re s : Str) : Chain s 0 (matchSeq m re s 0 none) :=
  matchSeq_chain m re s 0 none

/-- an empty regex in `s` means the last regex used at run time (by an address or an `s`): same effect as writing it out -/
theorem subst_empty_regex_reuses_last (m : Matcher) (q cr : Bool) (rex rpl : Str) (g : Bool) (occ : Nat) (p : Bool)
    (w : Option Str) (st : St) (hl : st.lastRe = some rex) (hne : rex ≠ []) :
    execCmd m q (.subst [] rpl g occ p w) cr st = execCmd m q (.subst rex rpl g occ p w) cr st := by
  simp [execCmd, hl, hne]

/-- ... and with no previous regex it is a run-time error (HAWK_SED_ENPREX), the state is left alone -/
theorem subst_empty_regex_no_previous (m : Matcher) (q cr : Bool) (rpl : Str) (g : Bool) (occ : Nat) (p : Bool)
    (w : Option Str) (st : St) (hl : st.lastRe = none) :
    execCmd m q (.subst [] rpl g occ p w) cr st = (st, .fail) := by
  simp [execCmd, hl]

/-- a non-empty regex used by an address or an `s` becomes the last regex -/
theorem last_regex_recorded (m : Matcher) (p : Str) (st st' : St) (b : Bool) (hne : p ≠ [])
    (h : matchA m (.re p) st = some (st', b)) : st'.lastRe = some p := by
  simp [matchA, hne] at h
  rw [← h.1]

/-- every command moves the flag exactly as its event says (`s` sets it iff it replaced something; reading a line
    with n / N and taking a `t` branch clear it; nothing else touches it) -/
theorem flag_step (m : Matcher) (q cr : Bool) (op : Op) (st : St) :
    (execCmd m q op cr st).1.substDone = flagStep st.substDone (flagEvent m op st) :=
  (execCmd_ctl m q cr op st).flag

/-- the flag `t` tests is set iff a replacement happened since the last input line was read or the last `t`
    was taken: going back through the history, a successful `s` is met before any reset -/
theorem flag_spec (evs : List FlagEv) (f0 : Bool) :
    evs.foldl flagStep f0 = sinceLast evs.reverse f0 := by
  induction evs generalizing f0 with
  | nil => simp [sinceLast]
  | cons e r ih => simp [ih, sinceLast_snoc]

/-- a new cycle starts with the flag cleared (read_line clears subst_done) — see `execLoop`: the state handed to
    `cycleRun` has `substDone := false`; stated here for the first cycle -/
theorem flag_initial (prog : Prog) (input : List Str) : (initSt prog input).substDone = false := rfl

/-- `N` with no next line (POSIX): the pending `a` texts are written, the pattern space is NOT printed
    (it is dropped) and the script ends -/
theorem nextAppend_at_eof (m : Matcher) (q cr : Bool) (st : St) (h : st.input = []) :
    execCmd m q .nextAppend cr st =
      ({ st with out := st.appq.foldl emit st.out, appq := [], ps := [] }, .over) := by
  simp [execCmd, emitOutput, h]

/-- `N` with a next line: pending appends are written, the line is appended to the pattern space, the line number
    advances, the `t` flag is cleared and execution continues with the next command -/
theorem nextAppend_reads (m : Matcher) (q cr : Bool) (st : St) (l : Str) (r : List Str) (h : st.input = l :: r) :
    execCmd m q .nextAppend cr st =
      ({ st with out := st.appq.foldl emit st.out, appq := [], input := r, ps := st.ps ++ l,
                 lineno := st.lineno + 1, substDone := false }, .next) := by
  simp [execCmd, emitOutput, h]

/-- `n` with no next line: the pattern space is printed once (unless -n), the appends follow, the script ends with an
    empty pattern space (so the end-of-cycle autoprint adds nothing) -/
theorem next_at_eof (m : Matcher) (q cr : Bool) (st : St) (h : st.input = []) :
    execCmd m q .next cr st =
      ({ st with out := st.appq.foldl emit (if q then st.out else emit st.out st.ps), appq := [], ps := [] }, .over) := by
  cases q <;> simp [execCmd, emitOutput, h]

/-- `D` on a pattern space without an embedded newline acts like `d` (in the C's representation: the only newline
    is the line terminator at the very end, or there is none) -/
theorem deleteFirst_like_delete (m : Matcher) (q cr : Bool) (st : St)
    (h : afterFirstNl st.ps = none ∨ afterFirstNl st.ps = some []) :
    execCmd m q .deleteFirst cr st = execCmd m q .delete cr st := by
  rcases h with h | h <;> simp [execCmd, h]

/-- `D` otherwise removes the first line and restarts the script without reading input -/
theorem deleteFirst_restarts (m : Matcher) (q cr : Bool) (st : St) (rest : Str)
    (h : afterFirstNl st.ps = some rest) (hne : rest ≠ []) :
    execCmd m q .deleteFirst cr st = ({ st with ps := rest }, .again) := by
  simp [execCmd, h, hne]

/-- `i` writes at once, `a` queues: a command changes the output / the queue only as follows -/
theorem insert_append_effect (m : Matcher) (q cr : Bool) (t : Str) (st : St) :
    execCmd m q (.insert t) cr st = ({ st with out := emit st.out t }, .next) ∧
    execCmd m q (.append t) cr st = ({ st with appq := st.appq ++ [t] }, .next) := by
  simp [execCmd]

/-- `r file` queues the content of the file behind what is queued already, exactly as `a` queues its text -/
theorem readFile_effect (m : Matcher) (q cr : Bool) (f : Str) (c : Option Str) (st : St) :
    execCmd m q (.readFile f c) cr st = execCmd m q (.append (c.getD [])) cr st := by
  simp [execCmd]

/-- ... and a file that cannot be opened is silently nothing: the flush writes what it would write without it -/
theorem readFile_missing (m : Matcher) (q cr skip : Bool) (f : Str) (st : St) :
    emitOutput q (execCmd m q (.readFile f none) cr st).1 skip = emitOutput q st skip := by
  have h0 : ∀ o : Str, emit o [] = o := fun o => by simp [emit]
  simp [execCmd, emitOutput, List.foldl_append, h0]

/-- `c`: the text is written (even under -n) on a complete selection — one address, the end of a range, or a negated
    command — and not in the middle of a range; the pattern space is deleted and the cycle ends without autoprint text -/
theorem change_effect (m : Matcher) (q cr : Bool) (t : Str) (st : St) :
    execCmd m q (.change t) cr st =
      ({ st with out := if cr then emit st.out t else st.out, ps := [] }, .over) := by
  cases cr <;> simp [execCmd]

/-- `q` with pending appends: `$!N`-free two-command script `a text; q` on any input whose first line is terminated:
    the first line is printed, then the queued text, then sed stops (exit status ok), for every fuel ≥ 3 -/
theorem quit_prints_then_appends (m : Matcher) (cap fuel : Nat) (t l : Str) (rest : List Str)
    (hl : endsNl l = true) :
    let r := exec m [{ op := .append t }, { op := .quit }] false cap (fuel + 3) (l :: rest)
    r.out = emit l t ∧ r.status = .ok := by
  simp [exec, execLoop, initSt, cycleRun, matchAddress, execCmd, emitOutput, finish, emit_nil_out, wfilesOf, initFiles]
  split <;> simp

/-- `exec_total`: with fuel, execution always returns: a normal end, a run-time error (empty regex with no previous
    regex), or an explicit out-of-fuel report.  (True by construction: `exec` is a total Lean function, structurally
    recursive on the fuel and on the cycle budget; this theorem only names the three outcomes.) -/
theorem exec_total (m : Matcher) (prog : Prog) (q : Bool) (cap fuel : Nat) (input : List Str) :
    (exec m prog q cap fuel input).status = .ok ∨ (exec m prog q cap fuel input).status = .error ∨
    (exec m prog q cap fuel input).status = .outOfFuel := by
  cases (exec m prog q cap fuel input).status <;> simp

/-- scripts from source are rejected at compile time or executed -/
theorem run_total (m : Matcher) (src : List SCmd) (q : Bool) (cap fuel : Nat) (input : List Str) :
    (∃ e, run m src q cap fuel input = .error e ∧ compile src = .error e) ∨
    (∃ prog, compile src = .ok prog ∧ run m src q cap fuel input = .ok (exec m prog q cap fuel input)) := by
  unfold run
  cases h : compile src with
  | error e => exact Or.inl ⟨e, rfl, rfl⟩
  | ok prog => exact Or.inr ⟨prog, rfl, rfl⟩

/-- scripts without backward branches (every b/t jumps forward, no D) never run out of fuel once the fuel per
    cycle exceeds the script length — whatever the input, the matcher and the size cap -/
theorem forward_never_out_of_fuel (m : Matcher) (prog : Prog) (q : Bool) (cap fuel : Nat) (input : List Str)
    (hf : forwardOnly prog) (hfuel : prog.length < fuel) :
    (exec m prog q cap fuel input).status ≠ .outOfFuel :=
  execLoop_forward m prog q cap fuel hf hfuel _ _

/-- the cycle budget of `execLoop` (an artefact of structural recursion) never cuts an execution short:
    every cycle consumes at least one input line, so any budget ≥ the number of remaining lines gives the same result -/
theorem budget_irrelevant (m : Matcher) (prog : Prog) (q : Bool) (cap fuel : Nat) :
    ∀ (b : Nat) (st : St), st.input.length ≤ b →
      execLoop m prog q cap fuel (b + 1) st = execLoop m prog q cap fuel b st := by
  intro b
  induction b with
  | zero =>
    intro st h
    have : st.input = [] := by simpa using h
    simp [execLoop, this]
  | succ b ih =>
    intro st h
    rw [execLoop, execLoop]
    split
    · rfl
    · rename_i l rest hin
      simp only
      split
      · rename_i st2 hc
        apply ih
        have := cycleRun_input_le m prog q cap fuel 0
          { st with input := rest, ps := l, lineno := st.lineno + 1, substDone := false }
        rw [hc] at this
        simp [CycleEnd.st] at this
        rw [emitOutput_input]
        rw [hin] at h
        simp at h
        omega
      all_goals rfl

/-- `2,3p` evaluated on lines 1..4: lines 2 and 3 -/
example : rangeRun (.line 3) false
    [⟨1, false, false, false⟩, ⟨2, true, false, false⟩, ⟨3, false, true, false⟩, ⟨4, false, false, true⟩]
    = [false, true, true, false] := by decide

/-- `2,3p` when line 3 is swallowed by N (evaluations on lines 1, 2, 4): line 2 only, the range closes unselected -/
example : rangeRun (.line 3) false
    [⟨1, false, false, false⟩, ⟨2, true, false, false⟩, ⟨4, false, false, true⟩] = [false, true, false] := by decide

/-- the end-to-end statement on a concrete script: `sed -n '2,3p'` prints lines 2 and 3 of a four-line input
    (for every matcher, fuel and cap) -/
example (m : Matcher) (cap fuel : Nat) :
    (exec m [{ a1 := .line 2, a2 := .line 3, neg := false, op := .print }] true cap (fuel + 2)
      [['a', '\n'], ['b', '\n'], ['c', '\n'], ['d', '\n']]).out = ['b', '\n', 'c', '\n'] := by
  rw [range_print_spec m (.line 2) (.line 3) (by simp) (by simp) (by simp [Addr.plain]) (by simp [Addr.plain]) cap fuel _
    (by simp [endsNl]), ← range_spec]
  simp [obsOf, addrHolds, rangeRun, rangeStep, oneLine, Addr.kind, selectLines]

/-- `3,1p`: one line -/
example : rangeRun (.line 1) false [⟨3, true, false, false⟩, ⟨4, false, false, true⟩] = [true, false] := by decide

/-- a forward-only script with a forward branch exists (hypothesis of `forward_never_out_of_fuel`) -/
example : forwardOnly [{ op := .print }, { op := .branch 3 }, { op := .delete }, { op := .noop }] := by
  intro i c h
  match i, h with
  | 0, h => cases h; simp
  | 1, h => cases h; simp
  | 2, h => cases h; simp
  | 3, h => cases h; simp
  | n + 4, h => simp at h

/-- ... and a script with a backward branch really can run out of fuel (`:a;ba`) -/
example : (exec (fun _ _ _ => none) [{ op := .noop }, { op := .branch 0 }] false 100 5 [['a', '\n']]).status = .outOfFuel := by
  decide

/-- G on a one-line input: "a\n\n" (hold space starts as the empty line) -/
example : (exec (fun _ _ _ => none) [{ op := .getAppend }] false 100 5 [['a', '\n']]).out = ['a', '\n', '\n'] := by
  decide

/-- `a` and `r` share one queue, flushed in order after the line: a X / r file(R) / a Y on one line -/
example : (exec (fun _ _ _ => none)
    [{ op := .append ['X', '\n'] }, { op := .readFile ['f'] (some ['R', '\n']) }, { op := .readFile ['g'] none },
     { op := .append ['Y', '\n'] }] false 100 9 [['a', '\n']]).out = ['a', '\n', 'X', '\n', 'R', '\n', 'Y', '\n'] := by
  decide

/-- `$!N` then print: an unterminated last line is written as it came, the autoprint supplies no newline -/
example : (exec (fun _ _ _ => none) [{ a1 := .last, neg := true, op := .nextAppend }] false 100 5 [['a', '\n'], ['b']]).out
    = ['a', '\n', 'b'] := by
  decide

/-- what hawk_sed_comp accepts is balanced: `{` / `}` nest, the group level never goes below zero and ends at zero -/
theorem parse_balanced (tr : Traits) (s : Str) (cs : List PCmd) (h : parseScript tr s = .ok cs) :
    balanced (cs.map PCmd.toS) 0 = true :=
  accepts_balanced cs 0 [] ((compLoop_reads tr s 0 []).ok h).2

/-- no label is defined twice in an accepted script (HAWK_SED_ELABDU otherwise); the empty label `:` is no label -/
theorem parse_labels_unique (tr : Traits) (s : Str) (cs : List PCmd) (h : parseScript tr s = .ok cs)
    (name : Str) (hn : name ≠ []) : countLabel (cs.map PCmd.toS) name ≤ 1 := by
  simpa using accepts_labels cs 0 [] ((compLoop_reads tr s 0 []).ok h).2 name hn

/-- every accepted command: the first address is not line 0, there is no second address without a first, and
    labels and `}` carry no address -/
theorem parse_well_addressed (tr : Traits) (s : Str) (cs : List PCmd) (h : parseScript tr s = .ok cs) :
    ∀ c ∈ cs, c.wellAddressed :=
  ((compLoop_reads tr s 0 []).ok h).1.wellAddressed

theorem wellAddressed_good (c : PCmd) (h : c.wellAddressed) : c.toS.good := by
  obtain ⟨h0, h12, hm⟩ := h
  cases c with | mk a1 a2 neg op =>
  refine ⟨?_, ?_⟩
  · cases a1 with
    | line n =>
      cases n with
      | zero => simp at h0
      | succ n => simp [addrOk, PCmd.toS, PAddr.toAddr]
    | none => simp at h12; simp [addrOk, PCmd.toS, PAddr.toAddr, h12]
    | last | re => simp [addrOk, PCmd.toS, PAddr.toAddr]
  · intro hmark
    simp at hm
    simp [PCmd.toS, hm (toS_mark _ hmark), PAddr.toAddr]

/-- `compileText_total`: the compiler is total, and its outcomes are exactly those of the C: a syntax error of
    hawk_sed_comp, a label that does not exist (HAWK_SED_ELABNF of init_command_block_for_exec), or a program.
    In particular an accepted script never fails in brace matching, duplicate labels or address checks later on. -/
theorem compileText_total (tr : Traits) (s : Str) :
    (∃ e, compileText tr s = .error (.inl e)) ∨ compileText tr s = .error (.inr .noLabel) ∨ ∃ p, compileText tr s = .ok p := by
  unfold compileText
  cases hp : parseScript tr s with
  | error e => exact Or.inl ⟨e, rfl⟩
  | ok cs =>
    right
    have hg : ∀ c ∈ cs.map PCmd.toS, c.good := by
      intro c hc
      obtain ⟨pc, hpc, rfl⟩ := List.mem_map.mp hc
      exact wellAddressed_good pc (parse_well_addressed tr s cs hp pc hpc)
    rcases compile_ok_or_noLabel _ hg (parse_balanced tr s cs hp) (parse_labels_unique tr s cs hp) with ⟨p, hp'⟩ | hp'
    · right; exact ⟨p, by simp [hp']⟩
    · left; simp [hp']

/-- `compile_targets_inside`: every branch of a compiled script (b, t, and the skip-branch a `{` is compiled to) goes to the
    end of the script or to the position of a label / `}` command inside it; the program has one command per source command -/
theorem compile_targets_inside (cs : List PCmd) (p : Prog) (h : compile (cs.map PCmd.toS) = .ok p) :
    p.length = cs.length ∧ ∀ k ∈ p, ∀ t, (k.op = .branch t ∨ k.op = .tbranch t) →
      t = cs.length ∨ ∃ c, cs[t]? = some c ∧ c.op.isMark = true := by
  have := compile_targets (cs.map PCmd.toS) p (by
    intro c hc
    obtain ⟨pc, _, rfl⟩ := List.mem_map.mp hc
    exact toS_noRawBranch pc) h
  refine ⟨by simpa using this.1, ?_⟩
  intro k hk t ht
  rcases this.2 k hk t ht with e | ⟨c', hc', hop⟩
  · left; simpa using e
  · right
    rw [List.getElem?_map, Option.map_eq_some_iff] at hc'
    obtain ⟨c, hcs, rfl⟩ := hc'
    exact ⟨c, hcs, toS_mark c hop⟩

/-- ... in particular, from script text: every branch target of a compiled script lies inside the script or at its end -/
theorem compileText_targets_inside (tr : Traits) (s : Str) (p : Prog) (h : compileText tr s = .ok p) :
    ∀ k ∈ p, ∀ t, (k.op = .branch t ∨ k.op = .tbranch t) → t ≤ p.length := by
  unfold compileText at h
  split at h
  · cases h
  · rename_i cs hcs
    split at h
    · cases h
    · rename_i p' hp'
      cases h
      have := compile_targets_inside cs p hp'
      intro k hk t ht
      rcases this.2 k hk t ht with e | ⟨c, hc, _⟩
      · omega
      · have := (List.getElem?_eq_some_iff.mp hc).1
        omega

/-- non-vacuity: scripts are accepted (`p`), and the three outcomes of `compileText_total` all occur -/
example : parseScript {} ['p'] = .ok [{ op := .simple 'p' }] := by
  have h : parseCmd {} ['p'] = .ok ({ op := .simple 'p' }, []) := by rfl
  unfold parseScript compLoop
  simp [h, isSpace, compLoop, Except.map]

example : parseScript {} ['}'] = .error .EGRNBA := by
  have h : parseCmd {} ['}'] = .ok ({ op := .rbrace }, []) := by rfl
  unfold parseScript compLoop
  simp [h, isSpace]

example : compileText {} ['b', 'x'] = .error (.inr .noLabel) := by
  have h : parseCmd {} ['b', 'x'] = .ok ({ op := .branch 'b' (some ['x']) }, []) := by rfl
  unfold compileText parseScript compLoop
  simp [h, isSpace, compLoop, Except.map]
  rfl

/-- `print_parse_roundtrip_partial`: compiling the printed form of a command list gives the command list back, for every list
    of `Plain` commands that hawk_sed_comp's bookkeeping accepts (`accepts`: blocks nest, at most 128 deep, no label twice).
    Plain = one or two addresses (or none) out of `$`, the line numbers 1 .. 2^64-1 and `/regex/` with or without the I
    modifier, for regexes free of backslash, newline, `/`, `[` and `]` (the empty regex included); any negation; the
    argument-less commands q Q = d D p P l h H g G x n N z; `a` `i` `c` with any text ending in a newline (backslashes and
    embedded newlines are escaped by the printer); `r` `R` `w` `W` with any non-empty NUL-free file name (terminators,
    spaces, backslashes and newlines escaped by the printer); `y` with any pair list (printed between `/`, with `/` `\\`
    and newline escaped); `s/re/rpl/flags` with such a regex, a replacement free of backslash, newline and `/`, every
    combination of g p i k and every occurrence number get_subst can produce (1 .. 65535, none with g), no w file;
    `b` `t` with or without a label; `:label`; `{` and `}`.  Every trait setting without -a (with -a `1,2q` is an error).
    MISSING for the full statement: regexes / replacements that need escaping or contain bracket expressions
    (pickup_rex's bracket-state machine has no proved inverse), the `w` flag of `s`, delimiters other than `/`;
    for those the round trip is only exercised on the real compiler (text -> dump, three chunkings), not proved. -/
theorem print_parse_roundtrip_partial (tr : Traits) (hs : tr.strict = false) (cs : List PCmd) (h : ∀ c ∈ cs, c.Plain)
    (ha : accepts cs 0 [] = true) : parseScript tr (printCmds cs) = .ok cs :=
  compLoop_of_script (printCmds_script tr hs cs h) 0 [] ha

/-- ... and the program made of it is the resolution of the list itself -/
theorem print_compile_roundtrip_partial (tr : Traits) (hs : tr.strict = false) (cs : List PCmd) (h : ∀ c ∈ cs, c.Plain)
    (ha : accepts cs 0 [] = true) (p : Prog)
    (hp : compile (cs.map PCmd.toS) = .ok p) : compileText tr (printCmds cs) = .ok p := by
  simp [compileText, print_parse_roundtrip_partial tr hs cs h ha, hp]

/-- non-vacuity: `12,$!{` / `a\` X / `bx` / `}` / `:x` is a Plain, accepted list, and its printed form is the expected text -/
def sampleCmds : List PCmd :=
  [⟨.line 12, .last, true, .lbrace⟩, ⟨.none, .none, false, .text 'a' ['X', '\\', '\n']⟩,
   ⟨.last, .none, false, .file 'w' ['f', ';', '1', ' ']⟩, ⟨.re ['a', '.'] true, .re [] false, false, .subst ['b', '*'] ['&', 'x'] true true false true 3 none⟩, ⟨.none, .none, true, .trans [('a', '/'), ('\n', '\\')]⟩,
   ⟨.none, .none, false, .branch 'b' (some ['x'])⟩, ⟨.none, .none, false, .rbrace⟩, ⟨.none, .none, false, .label ['x']⟩]

example : (∀ c ∈ sampleCmds, c.Plain) ∧ accepts sampleCmds 0 [] = true := by
  refine ⟨?_, by decide⟩
  intro c hc
  simp [sampleCmds] at hc
  rcases hc with rfl | rfl | rfl | rfl | rfl | rfl | rfl | rfl <;>
    simp [PCmd.Plain, PAddr.plain, POp.plain, POp.isMark, labelName, fileName, plainRe, plainRpl, occOK, endsNl, isLabChar, isCmdTermC, isSpace]

/-- `line_address_roundtrip`: a line-number address printed in decimal is read back by get_address as that number (below 2^64,
    where hawk_oow_t wraps), whatever non-digit text follows.  (The step of `print_parse_roundtrip_partial` for line-number addresses.) -/
theorem line_address_roundtrip (n : Nat) (hn : n < 2 ^ 64) (t : Str) (ht : ∀ c, t.head? = some c → isDigit c = false) :
    getAddress (toDec n ++ t) = some (.line n, t) :=
  getAddress_print_line n hn t ht

example : getAddress (toDec 42 ++ ['p']) = some (.line 42, ['p']) :=
  line_address_roundtrip 42 (by decide) _ (by intro c h; simp at h; subst h; decide)

/-- one script fragment: the compiler sees it with a newline supplied if it does not end in one (the empty script is one empty line) -/
theorem deliver_single (f : Str) : deliver [f] = f ++ (if endsNl f then [] else ['\n']) := by
  unfold deliver deliverGo endsNl
  cases h : f.getLast? with
  | none => simp [deliverGo]
  | some c => by_cases hc : c = '\n' <;> simp [deliverGo, hc]

/-- cutting a script between two commands (after a newline) into two -e / -f pieces changes nothing: the pieces are
    compiled exactly as their concatenation (whatever pieces follow, whatever was read before) -/
theorem deliver_cut (f1 f2 : Str) (rest : List Str) (last : Char) (h : endsNl f1 = true) :
    deliverGo (f1 :: f2 :: rest) last = deliverGo ((f1 ++ f2) :: rest) last := by
  unfold endsNl at h
  have h0 : f1.getLast? = some '\n' := by simpa using h
  have h1 : f1.getLast?.getD last = '\n' := by simp [h0]
  cases f2 with
  | nil => simp [deliverGo, h0]
  | cons c r =>
    cases hx : (c :: r).getLast? with
    | none => simp at hx
    | some x =>
      have h2 : (f1 ++ c :: r).getLast? = some x := by simp [List.getLast?_append, hx]
      simp [deliverGo, h0, h2, hx]

/-- a piece that does not end in a newline is separated from the next piece by one: `-e p -e p` is `p\np\n` -/
theorem deliver_separates (f1 : Str) (rest : List Str) (c : Char) (body : Str) (hf : f1 = body ++ [c]) (hc : c ≠ '\n') :
    deliver (f1 :: rest) = f1 ++ '\n' :: deliverGo rest c := by
  subst hf
  simp [deliver, deliverGo, hc]

/-- `y`: each character is replaced by the partner of the FIRST pair whose source it is, all others are kept -/
theorem transChar_spec (pairs : List (Char × Char)) (c : Char) :
    transChar pairs c = ((pairs.find? fun p => p.1 = c).map (·.2)).getD c := by
  induction pairs with
  | nil => simp [transChar]
  | cons p rest ih =>
    obtain ⟨a, b⟩ := p
    unfold transChar
    by_cases h : c = a
    · simp [h]
    · have h' : ¬ a = c := fun e => h e.symm
      simp [h, h', ih]

/-- `y` works character by character on the line body: position i of the result depends on position i of the pattern space only -/
theorem trans_pointwise (pairs : List (Char × Char)) (ps : Str) (i : Nat) (hi : i < (trimLine ps).1.length) :
    (doTrans pairs ps)[i]? = ((trimLine ps).1[i]?).map (transChar pairs) := by
  unfold doTrans
  simp [List.getElem?_append_left, hi]

/-- `progress_guard_dead`: the two tests that make `compLoop`'s recursion well-founded always succeed — a command that
    hawk_sed_comp accepts consumes at least its command character (every reader returns a rest at most as long as what it was given:
    get_address, pickup_rex, get_text, get_label, get_branch_target, get_file, the option loop of get_subst, get_transet),
    and what follows a comment is at most as long as the text the comment stands in.  So the `PErr.internal` branches of `compLoop` are never taken. -/
theorem progress_guard_dead (tr : Traits) (c : Char) (r : Str) :
    (∀ cmd s', parseCmd tr (c :: r) = .ok (cmd, s') → s'.length ≤ r.length) ∧ (skipComment r).length ≤ r.length :=
  ⟨fun _ _ h => ((parseCmd_reads tr c r).ok h).1, skipComment_len r⟩

/-- `compiler_never_internal`: the model of hawk_sed_comp never reports `PErr.internal` — no reader produces that value and
    the progress guard is dead — so every error of `parseScript` is an error number of the C compiler (or `unsupported`
    for the cut command) -/
theorem compiler_never_internal (tr : Traits) (s : Str) : parseScript tr s ≠ .error .internal :=
  fun h => compLoop_no_internal tr s 0 [] h

/-- `last regex` bookkeeping of match_a: the regex address that is EVALUATED (addr1 of a closed range or of a one-address
    command, addr2 of an open range) becomes the last regex whether or not it matched — `sel` is not consulted -/
theorem address_regex_recorded (m : Matcher) (c : Cmd) (pc : Nat) (st st' : St) (sel cr : Bool) (p : Str) (hne : p ≠ [])
    (h1 : c.a1 ≠ .none)
    (hev : (if c.a2 ≠ .none ∧ st.rstate.getD pc false = true then c.a2 else c.a1) = .re p)
    (h : matchAddress m c pc st = some (st', sel, cr)) : st'.lastRe = some p := by
  revert h
  fun_cases matchAddress m c pc st
  all_goals
    intro h
    cases h
  case case1 => contradiction
  case case3 hm =>
    rw [if_neg (fun h => h.1 ‹_›)] at hev
    exact last_regex_recorded m p st _ _ hne (hev ▸ hm)
  case case5 hm _ _ _ =>
    simp only [ne_eq, ‹¬c.a2 = Addr.none›, not_false_eq_true, true_and] at hev
    exact (last_regex_recorded m p st _ _ hne (hev ▸ hm) :)

/-- non-vacuity: `/x/p` on a line that does not match (a matcher that never matches): not selected, `x` is the last regex -/
example : (matchAddress (fun _ _ _ => none) { a1 := .re ['x'], op := .print } 0 { input := [], ps := ['a', '\n'] }).map
    (fun r => (r.1.lastRe, r.2.1)) = some (some ['x'], false) := by
  rfl

/-- ... and what is recorded does not depend on the regex engine at all: two matchers that disagree on every match leave the
    same last regex behind (a change that records it "only on a match" breaks this law) -/
theorem last_regex_matcher_independent (m1 m2 : Matcher) (a : Addr) (st : St) :
    (matchA m1 a st).map (·.1.lastRe) = (matchA m2 a st).map (·.1.lastRe) := by
  cases a with
  | re p =>
    by_cases hp : p = []
    · cases hl : st.lastRe <;> simp [matchA, hp, hl]
    · simp [matchA, hp]
  | _ => simp [matchA]

/-- `s` records its (non-empty) regex as the last regex whether or not anything was replaced -/
theorem subst_regex_recorded (m : Matcher) (q cr : Bool) (re rpl : Str) (g : Bool) (occ : Nat) (p : Bool) (w : Option Str)
    (st : St) (hne : re ≠ []) : (execCmd m q (.subst re rpl g occ p w) cr st).1.lastRe = some re := by
  rcases execCmd_subst m q cr st re rpl g occ p w with ⟨hre, _⟩ | ⟨rex, _, _, _, hre, e⟩
  all_goals rw [if_neg hne] at hre; cases hre
  rw [e]

/-- the class of "recorded only when matched": `/p/!s//rpl/flags` — on the lines NOT matching p the empty regex of `s` is p —
    runs every cycle exactly like `/p/!s/p/rpl/flags`, for every matcher, state and negation flag -/
theorem empty_subst_after_address (m : Matcher) (q : Bool) (cap fuel : Nat) (p rpl : Str) (neg g : Bool) (occ : Nat) (pf : Bool)
    (w : Option Str) (st : St) (hne : p ≠ []) :
    cycleRun m [{ a1 := .re p, neg := neg, op := .subst [] rpl g occ pf w }] q cap fuel 0 st =
    cycleRun m [{ a1 := .re p, neg := neg, op := .subst p rpl g occ pf w }] q cap fuel 0 st := by
  suffices H : ∀ fuel pc st,
      cycleRun m [{ a1 := .re p, neg := neg, op := .subst [] rpl g occ pf w }] q cap fuel pc st =
      cycleRun m [{ a1 := .re p, neg := neg, op := .subst p rpl g occ pf w }] q cap fuel pc st from H fuel 0 st
  intro fuel
  induction fuel with
  | zero => intro pc st; rfl
  | succ f ih =>
    intro pc st
    cases pc with
    | succ k => simp [cycleRun]
    | zero =>
      have key : ∀ cr, execCmd m q (.subst [] rpl g occ pf w) cr { st with lastRe := some p } =
          execCmd m q (.subst p rpl g occ pf w) cr { st with lastRe := some p } :=
        fun cr => subst_empty_regex_reuses_last m q cr p rpl g occ pf w _ rfl hne
      simp [cycleRun, matchAddress, matchA, hne, key, ih]

/-- `s///g`: every match of the non-overlapping leftmost match sequence is replaced (for any matcher: `Matcher.at` keeps only
    answers obeying the interface law, and `matchSeq_ordered` says the sequence is left-to-right and non-overlapping) -/
theorem subst_global (m : Matcher) (re rpl : Str) (occ : Nat) (ps : Str) :
    (doSubst m re rpl true occ ps).1 =
      render (trimLine ps).1 rpl (fun _ => true) 0 1 (matchSeq m re (trimLine ps).1 0 none) ++ (trimLine ps).2 := by
  rw [subst_occurrence]
  have : selOcc 0 = fun _ => true := by funext k; simp [selOcc]
  simp [this]

/-- the append queue has no capacity: a cycle of ANY number of `a` commands queues all their texts in order
    (hawk keeps the first 16 in an array and the rest in a list: `free_appends` must reset both) -/
theorem appends_all_queued (m : Matcher) (q : Bool) (cap : Nat) (ts : List Str) :
    ∀ (pre : Prog) (st : St) (fuel : Nat), ts.length + 1 ≤ fuel →
      cycleRun m (pre ++ ts.map fun t => { op := .append t }) q cap fuel pre.length st =
        .over { st with appq := st.appq ++ ts } := by
  induction ts with
  | nil =>
    intro pre st fuel hf
    cases fuel with
    | zero => omega
    | succ f => simp [cycleRun]
  | cons t r ih =>
    intro pre st fuel hf
    cases fuel with
    | zero => omega
    | succ f =>
      have hidx : (pre ++ (t :: r).map fun t => ({ op := .append t } : Cmd))[pre.length]? = some { op := .append t } := by simp
      have := ih (pre ++ [{ op := .append t }]) { st with appq := st.appq ++ [t] } f (by simp at hf ⊢; omega)
      simp only [List.length_append, List.length_singleton, List.append_assoc, List.singleton_append] at this
      rw [cycleRun, hidx]
      simp only [matchAddress, execCmd]
      simp [this]

/-- the queue is flushed, entirely, at the end of every cycle: the next cycle starts with an empty queue -/
theorem queue_empty_after_cycle (q : Bool) (st : St) (skip : Bool) : (emitOutput q st skip).appq = [] := rfl

/-- `appends_all_queued` end to end, across cycles: a script of any number of `a` commands (17, 100, ...) writes, for EVERY
    input line, the line and then all the texts in order — nothing is lost in a later cycle, the queue starts empty each time -/
theorem appends_every_cycle (m : Matcher) (cap : Nat) (ts : List Str) (input : List Str) :
    (exec m (ts.map fun t => { op := .append t }) false cap (ts.length + 1) input).out =
      input.foldl (fun o l => ts.foldl emit (emit o l)) [] := by
  refine execLoop_rule (·.out) (·.appq = []) (fun st => st.input.foldl (fun o l => ts.foldl emit (emit o l)) st.out)
    ?_ ?_ _ _ rfl (Nat.le_refl _)
  · intro st _ hin
    simp [finish, hin]
  · intro st l rest hq hin
    have hc := appends_all_queued m false cap ts [] { st with input := rest, ps := l, lineno := st.lineno + 1, substDone := false }
      (ts.length + 1) (Nat.le_refl _)
    simp only [List.nil_append, List.length_nil] at hc
    exact ⟨_, hc, rfl, by simp [emitOutput, hq, hin]⟩

/-- the order of the contributions of one cycle: `i` text at once, `p` copy, `=` line number at the point of the command;
    then, at the end of the cycle, the autoprint and after it the queue (`a` text, `r` file) in the order queued -/
theorem cycle_output_order (m : Matcher) (cap fuel : Nat) (ti ta f : Str) (c : Option Str) (st : St) :
    let prog : Prog := [{ op := .insert ti }, { op := .append ta }, { op := .readFile f c }, { op := .print }, { op := .lineno }]
    let mid := emit (emit (emit st.out ti) st.ps) (toString st.lineno).toList ++ ['\n']
    cycleRun m prog false cap (fuel + 6) 0 st = .over { st with out := mid, appq := st.appq ++ [ta] ++ [c.getD []] } ∧
    (emitOutput false { st with out := mid, appq := st.appq ++ [ta] ++ [c.getD []] } false).out =
      (st.appq ++ [ta, c.getD []]).foldl emit (emit mid st.ps) := by
  constructor
  · simp [cycleRun, matchAddress, execCmd]
  · simp [emitOutput]

/-- hold / pattern space algebra: `x;g` is `h` on the buffers (the pattern space survives, the hold space becomes a copy of it) -/
theorem xchg_get_is_hold (m : Matcher) (q cr : Bool) (st : St) :
    let s2 := (execCmd m q .get cr (execCmd m q .xchg cr st).1).1
    s2.ps = st.ps ∧ s2.hold = st.ps := by
  simp [execCmd]

/-- `x;h` is `g` on the buffers (the hold space survives, the pattern space becomes a copy of it) -/
theorem xchg_hold_is_get (m : Matcher) (q cr : Bool) (st : St) :
    let s2 := (execCmd m q .hold cr (execCmd m q .xchg cr st).1).1
    s2.ps = st.hold ∧ s2.hold = st.hold := by
  simp [execCmd]

end Hawk.Sed.C18
