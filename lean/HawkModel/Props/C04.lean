import HawkModel.ReadIoLemmas
/-!
# C04 — records depend only on the input bytes, not on how they arrive

"The sequence of records, and the NR, FNR and FILENAME seen with each, produced from a given list of input files
is the same however the underlying reads are split into chunks and however short each read is, in every
record-separator mode; and the end of an input file always ends the current record."

Model: `HawkModel/ReadIo.lean` (`hawk_rtx_readio`, `match_long_rs`, console chain with the repair of
`patches/c04-console-file-end-ends-record.diff`).  Specification: `specRecord`/`specAll`/`specChain` in
`HawkModel/ReadIoLemmas.lean` — functions of the characters only.

* a *chunking* of a character sequence `s` is a `cs : Stream` with `cs.flatten = s` and no empty chunk (an empty
  chunk is the handler returning 0, i.e. end of input);
* newline / single character / paragraph mode: proved without hypotheses;
* regular expression mode: proved for `Stable` matchers only (`…_partial`); literal separators are stable;
  `ab(cd)?` is not, and for it the property is false of the model and of the code (known finding
  `regex-rs-unstable`).
-/
namespace Hawk.ReadIo

/-- no read returns 0 before the end of the input -/
def NoEmpty (cs : Stream) : Prop := ∀ c ∈ cs, c ≠ []

instance (cs : Stream) : Decidable (NoEmpty cs) := by unfold NoEmpty; infer_instance

theorem wf_init : WF {} := by intro h; cases h

theorem pending_init (cs : Stream) (hne : NoEmpty cs) : pending {} cs = cs.flatten := by
  simp [pending, delivered_of_noEmpty hne]

theorem modeOK_of_auto {mode : Mode} (hm : mode.isAuto) : ModeOK mode := by
  cases mode <;> simp_all [ModeOK, Mode.isAuto]

theorem modeProg_of_auto {mode : Mode} (hm : mode.isAuto) : ModeProg mode := by
  cases mode <;> simp_all [ModeProg, Mode.isAuto]

/-- In newline, single-character and paragraph mode the records read from a stream are the records
of its characters, whatever the chunking. -/
theorem records_chunk_independent (mode : Mode) (hm : mode.isAuto) (cs : Stream) (hne : NoEmpty cs) :
    readAll mode {} cs = specAll mode cs.flatten := by
  rw [readAll_spec (modeOK_of_auto hm) {} cs wf_init, pending_init cs hne]

/-- the same, stated without the specification: two chunkings of the same characters give the same records;
in particular every chunking agrees with the single read `[s]` -/
theorem records_same_for_all_chunkings (mode : Mode) (hm : mode.isAuto) (cs cs' : Stream)
    (hne : NoEmpty cs) (hne' : NoEmpty cs') (h : cs.flatten = cs'.flatten) :
    readAll mode {} cs = readAll mode {} cs' := by
  rw [records_chunk_independent mode hm cs hne, records_chunk_independent mode hm cs' hne', h]

/-- chunk independence holds from every state the reader can be in, not only at the start: what is returned by one
call is the first record of the characters still pending, and the rest stays pending -/
theorem readRecord_depends_on_pending_only (mode : Mode) (hm : mode.isAuto) (st : InState) (cs : Stream) (hwf : WF st) :
    (readRecord mode st cs).1 = (specRecord mode (pending st cs)).1 ∧
    pending (readRecord mode st cs).2.1 (readRecord mode st cs).2.2 = (specRecord mode (pending st cs)).2 ∧
    WF (readRecord mode st cs).2.1 :=
  readRecord_spec (modeOK_of_auto hm) st cs hwf

/-- every record consumes at least one character, so `specAll` is the plain iteration of `specRecord` (its guard,
and the guard of `readAll`, never fires in these modes) -/
theorem spec_unfolds (mode : Mode) (hm : mode.isAuto) (t : List Char) :
    specAll mode t =
      match (specRecord mode t).1 with
      | none => []
      | some r => r :: specAll mode (specRecord mode t).2 :=
  specAll_eq (modeProg_of_auto hm) t

/-- **Regex RS, partial.** Chunk independence for a regular-expression RS whose matcher is `Stable`.
Missing for the full property: matchers that are not stable — there the statement is false, see
`unstable_counterexample`. -/
theorem records_chunk_independent_regex_partial (m : Matcher) (hS : Stable m) (cs : Stream) (hne : NoEmpty cs) :
    readAll (.regex m) {} cs = specAll (.regex m) cs.flatten := by
  rw [readAll_spec (mode := .regex m) hS {} cs wf_init, pending_init cs hne]

theorem records_same_for_all_chunkings_regex_partial (m : Matcher) (hS : Stable m) (cs cs' : Stream)
    (hne : NoEmpty cs) (hne' : NoEmpty cs') (h : cs.flatten = cs'.flatten) :
    readAll (.regex m) {} cs = readAll (.regex m) {} cs' := by
  rw [records_chunk_independent_regex_partial m hS cs hne, records_chunk_independent_regex_partial m hS cs' hne', h]

/-- a literal multi-character RS is stable (and makes progress), so it is covered -/
theorem stable_of_literal (w : List Char) : Stable (litMatcher w) := stable_litMatcher w

theorem progress_of_literal (w : List Char) (hw : w ≠ []) : Progress (litMatcher w) := progress_litMatcher hw

theorem records_chunk_independent_literal (w : List Char) (cs : Stream) (hne : NoEmpty cs) :
    readAll (.regex (litMatcher w)) {} cs = specAll (.regex (litMatcher w)) cs.flatten :=
  records_chunk_independent_regex_partial _ (stable_of_literal w) cs hne

/-- `ab(cd)?` is not stable: `abc` has the match `ab`, which ends before the end of the text, and appending `d`
changes it to `abcd` -/
theorem abcd_not_stable : ¬ Stable abcdMatcher := by
  intro h
  have := (h ['a', 'b', 'c'] ['d'] 0 2 (by decide)).mp (by decide)
  revert this
  decide

/-- **The property is false for RS = `ab(cd)?`** (of the model, and — replayed by the check through the chunking
console handler — of the code): the characters `xabcd` read as `xabc`,`d` give the records `x`,`cd`; read in one
piece they give the single record `x`. -/
theorem unstable_counterexample :
    ∃ cs cs' : Stream, NoEmpty cs ∧ NoEmpty cs' ∧ cs.flatten = cs'.flatten ∧
      readAll (.regex abcdMatcher) {} cs ≠ readAll (.regex abcdMatcher) {} cs' := by
  refine ⟨[['x', 'a', 'b', 'c'], ['d']], [['x', 'a', 'b', 'c', 'd']], by decide, by decide, by decide, ?_⟩
  have h1 : readAll (.regex abcdMatcher) {} [['x', 'a', 'b', 'c'], ['d']] = [['x'], ['c', 'd']] := by
    rw [readAll_cons_of (r := ['x']) (st' := ⟨['x', 'a', 'b', 'c'], 3, false⟩) (cs' := [['d']]) (by decide) (by decide)]
    rw [readAll_cons_of (r := ['c', 'd']) (st' := ⟨['d'], 1, true⟩) (cs' := []) (by decide) (by decide)]
    rw [readAll_nil_of (st' := ⟨['d'], 1, true⟩) (cs' := []) (by decide)]
  have h2 : readAll (.regex abcdMatcher) {} [['x', 'a', 'b', 'c', 'd']] = [['x']] := by
    rw [readAll_cons_of (r := ['x']) (st' := ⟨['x', 'a', 'b', 'c', 'd'], 5, true⟩) (cs' := []) (by decide) (by decide)]
    rw [readAll_nil_of (st' := ⟨['x', 'a', 'b', 'c', 'd'], 5, true⟩) (cs' := []) (by decide)]
  rw [h1, h2]
  decide

/-- **Single-character RS, declaratively**: no record contains RS, and writing the records back, each followed by RS,
reproduces the input (plus one RS at the very end if the input did not end with one): the records are the pieces
between the separators, and a final piece without terminator is a record iff it is not empty. -/
theorem spec_single_is_split (rs : Char) :
    ∀ (n : Nat) (t : List Char), t.length = n →
      (∀ r ∈ specAll (.single rs) t, rs ∉ r) ∧
      (specAll (.single rs) t).flatMap (· ++ [rs]) = terminated rs t := by
  intro n
  induction n using Nat.strongRecOn with
  | ind n ih =>
    intro t hn
    rcases first_sep rs t with h | ⟨a, b, rfl, h⟩
    · rw [specAll_single_last rs h]
      by_cases ht : t = []
      · simp [ht, terminated]
      · have hl : t.getLast? ≠ some rs := fun hl => h (List.mem_of_getLast? hl)
        simp [ht, terminated, h, hl]
    · rw [specAll_single_sep rs h]
      obtain ⟨i1, i2⟩ := ih b.length (by rw [← hn]; simp; omega) b rfl
      refine ⟨by simpa [h] using i1, ?_⟩
      simp only [List.flatMap_cons, i2, terminated]
      by_cases hb : b = []
      · simp [hb]
      · simp only [hb, false_or, List.append_eq_nil_iff, List.cons_ne_nil, and_false, getLast?_sep a rs hb]
        split <;> simp

/-- **Newline mode, declaratively**: the records are the lines (pieces between newlines, a final piece without
newline being a record iff it is not empty), and every line that *was* terminated by a newline has one CR before
that newline removed. A final line without newline keeps its CR. -/
theorem spec_newline_is_lines_with_cr_stripped :
    ∀ (n : Nat) (t : List Char), t.length = n →
      specAll .dflt t =
        if t = [] ∨ t.getLast? = some '\n' then (specAll (.single '\n') t).map stripCR
        else (specAll (.single '\n') t).dropLast.map stripCR ++ (specAll (.single '\n') t).getLast?.toList := by
  intro n
  induction n using Nat.strongRecOn with
  | ind n ih =>
    intro t hn
    rcases first_sep '\n' t with h | ⟨a, b, rfl, h⟩
    · rw [specAll_dflt_last h, specAll_single_last '\n' h]
      by_cases ht : t = []
      · simp [ht]
      · have hl : t.getLast? ≠ some '\n' := fun hl => h (List.mem_of_getLast? hl)
        simp [ht, hl]
    · rw [specAll_dflt_sep h, specAll_single_sep '\n' h, ih b.length (by rw [← hn]; simp; omega) b rfl]
      by_cases hb : b = []
      · simp [hb, specAll_nil (.single '\n')]
      · have hS := specAll_single_ne_nil '\n' b hb
        simp only [hb, false_or, List.append_eq_nil_iff, List.cons_ne_nil, and_false, getLast?_sep a '\n' hb]
        split
        · simp
        · rw [List.dropLast_cons_of_ne_nil hS, List.getLast?_cons_of_ne_nil hS]
          simp

/-- **The console chain.** For every list of files and every chunking of each, the program sees exactly: the records of
the first file (each file split on its own characters), with NR counting on, FNR restarting at 1 and FILENAME the
file's name; then those of the second file; and so on. -/
theorem console_records_eq_spec (mode : Mode) (hm : mode.isAuto) (f : String × Stream) (fs : List (String × Stream)) :
    runConsole mode (openConsole [] (f :: fs)) = specChain mode 0 (fileChars (f :: fs)) :=
  runConsole_open (modeOK_of_auto hm) (modeProg_of_auto hm) f fs

/-- with no file argument the records of standard input are seen, FILENAME empty -/
theorem console_stdin_eq_spec (mode : Mode) (hm : mode.isAuto) (stdin : Stream) :
    runConsole mode (openConsole stdin []) = number 0 0 "" (specAll mode (delivered stdin)) := by
  rw [runConsole_spec (modeOK_of_auto hm) (modeProg_of_auto hm) _ rfl wf_init]
  simp [openConsole, specView, Console.view, fileChars, specChain, pending]

/-- the same for a stable, progressing regex RS -/
theorem console_records_eq_spec_regex_partial (m : Matcher) (hS : Stable m) (hP : Progress m)
    (f : String × Stream) (fs : List (String × Stream)) :
    runConsole (.regex m) (openConsole [] (f :: fs)) = specChain (.regex m) 0 (fileChars (f :: fs)) :=
  runConsole_open (mode := .regex m) hS hP f fs

def shiftNr (k : Nat) (s : Seen) : Seen := { s with nr := s.nr + k }

theorem number_shift (k nr fnr : Nat) (name : String) (rs : List Record) :
    number (nr + k) fnr name rs = (number nr fnr name rs).map (shiftNr k) := by
  induction rs generalizing nr fnr with
  | nil => rfl
  | cons r rs ih =>
    simp only [number, List.map_cons, shiftNr]
    rw [← ih]
    simp [Nat.add_right_comm]

theorem specChain_shift (mode : Mode) (k nr : Nat) (fs : List (String × List Char)) :
    specChain mode (nr + k) fs = (specChain mode nr fs).map (shiftNr k) := by
  induction fs generalizing nr with
  | nil => rfl
  | cons f fs ih =>
    obtain ⟨name, s⟩ := f
    simp only [specChain, List.map_append]
    rw [number_shift, ← ih]
    simp [Nat.add_right_comm]

/-- **The end of an input file ends the current record**: what is seen from `f :: fs` is what is seen from `f` alone
followed by what is seen from `fs` alone (NR shifted by the number of records of `f`): no record, FNR or FILENAME of
a later file depends on how the earlier file ended, with or without a trailing separator. -/
theorem file_end_ends_record (mode : Mode) (hm : mode.isAuto) (f g : String × Stream) (fs : List (String × Stream)) :
    runConsole mode (openConsole [] (f :: g :: fs)) =
      runConsole mode (openConsole [] [f]) ++
        (runConsole mode (openConsole [] (g :: fs))).map (shiftNr (runConsole mode (openConsole [] [f])).length) := by
  rw [console_records_eq_spec mode hm f (g :: fs), console_records_eq_spec mode hm f [],
    console_records_eq_spec mode hm g fs, ← specChain_shift]
  exact specChain_append mode 0 (fileChars [f]) (fileChars (g :: fs))

/-- every record the program sees lies within one file: it is one of the records of the file FILENAME names -/
theorem record_within_one_file (mode : Mode) (nr : Nat) (files : List (String × List Char)) :
    ∀ s ∈ specChain mode nr files, ∃ f ∈ files, s.filename = f.1 ∧ s.rb ∈ specAll mode f.2 := by
  induction files generalizing nr with
  | nil => intro s hs; simp [specChain] at hs
  | cons f fs ih =>
    obtain ⟨name, t⟩ := f
    intro s hs
    simp only [specChain, List.mem_append] at hs
    rcases hs with hs | hs
    · exact ⟨(name, t), by simp, mem_number hs⟩
    · obtain ⟨f, hf, h⟩ := ih _ s hs
      exact ⟨f, by simp [hf], h⟩

/-- **`nextfile` drops the rest of the file, whatever of it had already been read into the buffer**: after it the program
sees exactly the records of the next file (split on its own characters, FNR from 1, NR going on) and of the files after
it — nothing that the read buffer or the handler still held of the abandoned file. -/
theorem nextfile_drops_rest_of_file (mode : Mode) (hm : mode.isAuto) (con : Console) (name : String) (cs : Stream)
    (fs : List (String × Stream)) (he : con.eos = false) (hf : con.files = (name, cs) :: fs) :
    ∃ c2, nextFile con = some c2 ∧
      runConsole mode c2 =
        number con.nr 0 name (specAll mode (delivered cs)) ++
          specChain mode (con.nr + (specAll mode (delivered cs)).length) (fileChars fs) := by
  refine ⟨{ con with st := { buf := [], pos := 0, eof := false }, cur := cs, files := fs, fnr := 0, filename := name },
    (by simp [nextFile, he, hf]), ?_⟩
  rw [runConsole_spec (modeOK_of_auto hm) (modeProg_of_auto hm) _
    (show ({ con with st := { buf := [], pos := 0, eof := false }, cur := cs, files := fs, fnr := 0, filename := name } : Console).eos = false
      from he) wf_init]
  simp [specView, Console.view, pending_fresh]

/-- with no further file `nextfile` ends the input (the main loop stops, END runs) -/
theorem nextfile_without_further_file (con : Console) (hf : con.files = []) : nextFile con = none := by
  simp [nextFile, hf]

/-- **A program that uses `nextfile` (at any records it likes) sees the same records for every chunking of every file.** -/
theorem script_chunk_independent (mode : Mode) (hm : mode.isAuto) (nf : Seen → Bool)
    (f g : String × Stream) (fs gs : List (String × Stream)) (h : fileChars (f :: fs) = fileChars (g :: gs)) :
    runScript mode nf (openConsole [] (f :: fs)) = runScript mode nf (openConsole [] (g :: gs)) := by
  obtain ⟨n1, c1⟩ := f
  obtain ⟨n2, c2⟩ := g
  simp only [fileChars, List.map_cons, List.cons.injEq, Prod.mk.injEq] at h
  obtain ⟨⟨hn, hd⟩, hr⟩ := h
  apply runScript_view (modeOK_of_auto hm) nf _ _ wf_init wf_init
  simp [Console.view, openConsole, pending, hd, hn, fileChars, hr]

/-- the same from any two reader states holding the same characters (in the buffer, in the handler, in the files to come) -/
theorem script_depends_on_characters_only (mode : Mode) (hm : mode.isAuto) (nf : Seen → Bool) (c1 c2 : Console)
    (w1 : WF c1.st) (w2 : WF c2.st) (hv : c1.view = c2.view) : runScript mode nf c1 = runScript mode nf c2 :=
  runScript_view (modeOK_of_auto hm) nf c1 c2 w1 w2 hv

/-- regex RS: the same under `Stable` (missing: unstable matchers, see `unstable_counterexample`) -/
theorem script_chunk_independent_regex_partial (m : Matcher) (hS : Stable m) (nf : Seen → Bool) (c1 c2 : Console)
    (w1 : WF c1.st) (w2 : WF c2.st) (hv : c1.view = c2.view) :
    runScript (.regex m) nf c1 = runScript (.regex m) nf c2 :=
  runScript_view (mode := .regex m) hS nf c1 c2 w1 w2 hv

/-- non-vacuity: one read has put all of `a\nb\nc\n` into the buffer; after the first record `nextfile` is executed; the next
record is `d` of f2 with FNR 1 — `b` and `c`, though buffered, are not seen -/
example :
    let c0 := openConsole [] [("f1", [['a', '\n', 'b', '\n', 'c', '\n']]), ("f2", [['d', '\n']])]
    let c1 := (readRecordConsole .dflt c0).2
    (pending c1.st c1.cur = ['b', '\n', 'c', '\n']) ∧
    ((nextFile c1).map fun c2 => ((readRecordConsole .dflt c2).1, (readRecordConsole .dflt c2).2.nr,
      (readRecordConsole .dflt c2).2.fnr, (readRecordConsole .dflt c2).2.filename)) = some (some ['d'], 2, 1, "f2") := by
  decide

/-- non-vacuity of the view hypothesis: two different chunkings are two consoles with the same view -/
example : (openConsole [] [("f1", [['a', '\n'], ['b']]), ("f2", [['c']])]).view =
    (openConsole [] [("f1", [['a'], ['\n', 'b']]), ("f2", [['c']])]).view := by
  simp [Console.view, openConsole, pending, delivered, fileChars]

/-- the hypotheses of the regex theorems are satisfiable by a matcher that does find separators -/
example : Stable (litMatcher ['a', 'b']) ∧ Progress (litMatcher ['a', 'b']) ∧
    litMatcher ['a', 'b'] ['x', 'a', 'b', 'y'] = some (1, 2) :=
  ⟨stable_of_literal _, progress_of_literal _ (by decide), by decide⟩

/-- CR LF split across two reads: the CR that arrived with the first read is dropped from the record buffer -/
example : readRecord .dflt {} [['a', '\r'], ['\n', 'b']] = (some ['a'], ⟨['\n', 'b'], 1, false⟩, []) := by decide

/-- paragraph mode: leading newlines skipped, the blank-line run ends the record, CR before NL dropped -/
example : (readRecord (.para false) {} [['\n', 'a', '\r'], ['\n', 'b', '\n'], ['\n', '\n', 'c']]).1 = some ['a', '\n', 'b'] := by
  decide

/-- the repaired chain on the files of the reproducer: `a2` ends with its file -/
example : (readRecordConsole .dflt
    (readRecordConsole .dflt (openConsole [] [("f1", [['a', '1', '\n', 'a', '2']]), ("f2", [['b', '1', '\n']])])).2).1
    = some ['a', '2'] := by decide

/-- what the unrepaired std.c handler did (it opened the next file inside one READ, so `rio.c` saw one stream):
for f1 = `a1\na2`, f2 = `b1\n` the second record was `a2b1` -/
theorem unrepaired_chain_joins_records :
    unrepairedRecords .dflt [("f1", [['a', '1', '\n', 'a', '2']]), ("f2", [['b', '1', '\n']])] =
      [['a', '1'], ['a', '2', 'b', '1']] := by
  unfold unrepairedRecords
  rw [records_chunk_independent .dflt rfl _ (by decide)]
  rw [specAll_cons_of (r := ['a', '1']) (rest := ['a', '2', 'b', '1', '\n']) (by decide) (by decide)]
  rw [specAll_cons_of (r := ['a', '2', 'b', '1']) (rest := []) (by decide) (by decide)]
  rw [specAll_nil_of (rest := []) (by decide)]

/-! ## RS / FS, CONVFMT and IGNORECASE assigned in any order: the separator in force is the one fixed at the last assignment

Model: `set_separator` (run.c, with `patches/c04-rs-fs-text-fixed-at-assignment.diff`), `resolve_rs` / `resolve_brs`
and the dispatch of `hawk_rtx_readio` / `hawk_rtx_readiobytes`, `split_record`'s `how`.  `ok` (which texts
`hawk_rtx_buildrex` accepts) and the conversion of values to texts (`Val.text`, `Val.btext`: any functions of CONVFMT)
are arbitrary. -/

/-- **The way of reading is the one fixed at the last RS assignment** (and the way of splitting the one fixed at the
last FS assignment): after every history of assignments to RS, FS, CONVFMT and IGNORECASE - values of any type, any
CONVFMT texts, failing assignments included - the character reader, the byte reader and `split_record` go by the
text the value had under the CONVFMT *of the assignment*, whatever CONVFMT is now; and when that text calls for a
regular expression it is the one compiled from that very text. -/
theorem mode_fixed_at_last_assignment (ok : List Char → Bool) (ops : List SepOp) :
    selRead (env0.run ok ops) =
      specSel (sepText (last0.run ok ops).rs) (env0.run ok ops).ignorecase (sepText (last0.run ok ops).rs) ∧
    selReadBytes (env0.run ok ops) =
      specSel (sepText (last0.run ok ops).rs) (env0.run ok ops).ignorecase (sepBText (last0.run ok ops).rs) ∧
    howSplit (env0.run ok ops) = specHow (env0.run ok ops).ignorecase (sepText (last0.run ok ops).fs) :=
  (tracks_run ok ops env0 last0 tracks_init).dispatch

/-- **The regex mode is only entered with a compiled regular expression**: no history makes a reader or the splitter
call the matcher with `rtx->gbl.rs[..]` / `fs[..]` null, and the expression used is the one compiled from the text
that selected the mode. -/
theorem regex_mode_only_with_compiled_regex (ok : List Char → Bool) (ops : List SepOp) :
    selRead (env0.run ok ops) ≠ .crash ∧ selReadBytes (env0.run ok ops) ≠ .crash ∧ howSplit (env0.run ok ops) ≠ .crash ∧
    (∀ src ic, selRead (env0.run ok ops) = .regex src ic →
      (env0.run ok ops).rs.rex = some src ∧ (env0.run ok ops).rs.text = some src) :=
  (tracks_run ok ops env0 last0 tracks_init).regex_compiled

/-- **Records after any history do not depend on the chunking** (newline, paragraph and single-character ways of
reading): whatever was assigned to RS, FS, CONVFMT and IGNORECASE in whatever order, if the text fixed at the last RS
assignment has at most one character (or RS is nil) the reader has a mode, it is not the regex mode, and two chunkings
of the same characters give the same records. -/
theorem records_after_any_history_chunk_independent (ok : List Char → Bool) (mk : List Char → Bool → Matcher) (crlf : Bool)
    (ops : List SepOp) (hlen : ∀ t, sepText (last0.run ok ops).rs = some t → t.length ≤ 1) :
    ∃ mode, (selRead (env0.run ok ops)).toMode mk crlf = some mode ∧ mode.isAuto = true ∧
      ∀ cs cs' : Stream, NoEmpty cs → NoEmpty cs' → cs.flatten = cs'.flatten → readAll mode {} cs = readAll mode {} cs' := by
  obtain ⟨mode, h1, h2, -⟩ := (tracks_run ok ops env0 last0 tracks_init).reader_mode mk crlf
  exact ⟨mode, h1, h2 hlen, records_same_for_all_chunkings mode (h2 hlen)⟩

/-- the same with a regex RS whose matchers are `Stable` (missing: unstable matchers, see `unstable_counterexample`):
after every history the reader has a mode - it never meets a null regular expression - and the records do not depend
on the chunking -/
theorem records_after_any_history_regex_partial (ok : List Char → Bool) (mk : List Char → Bool → Matcher) (crlf : Bool)
    (hS : ∀ src ic, Stable (mk src ic)) (ops : List SepOp) :
    ∃ mode, (selRead (env0.run ok ops)).toMode mk crlf = some mode ∧
      ∀ cs cs' : Stream, NoEmpty cs → NoEmpty cs' → cs.flatten = cs'.flatten → readAll mode {} cs = readAll mode {} cs' := by
  obtain ⟨mode, h1, -, h3⟩ := (tracks_run ok ops env0 last0 tracks_init).reader_mode mk crlf
  refine ⟨mode, h1, fun cs cs' hne hne' h => ?_⟩
  rw [readAll_spec (h3 hS) {} cs wf_init, readAll_spec (h3 hS) {} cs' wf_init, pending_init cs hne, pending_init cs' hne', h]

/-- the float 2.5 as far as its text goes: `2` under CONVFMT `%d`, `2.5` otherwise -/
def flt25 : Val :=
  ⟨false, fun f => if f = ['%', 'd'] then ['2'] else ['2', '.', '5'], fun f => if f = ['%', 'd'] then [50] else [50, 46, 53]⟩

/-- `BEGIN { CONVFMT = "%d"; RS = 2.5; CONVFMT = "%.6g"; getline x < "FILE" }` -/
def crashHistory : List SepOp := [.convfmt ['%', 'd'], .setRS flt25, .convfmt defaultFmt]

/-- **The unrepaired readers entered the regex mode without a regular expression** (a null pointer dereference in
`match_long_rs`, reproduced by the check on the unchanged tree): the assignment saw the one-character text `2` and
compiled nothing, the read saw `2.5`.  The repaired reader splits at `2`.  The FS twin: `split_record` met a null
`fs`, or split by the text of the day with the expression compiled at the assignment. -/
theorem unrepaired_reader_enters_regex_mode_without_regex :
    selReadUnrepaired (env0.run (fun _ => true) crashHistory) = .crash ∧
    selReadBytesUnrepaired (env0.run (fun _ => true) crashHistory) = .crash ∧
    selRead (env0.run (fun _ => true) crashHistory) = .single '2' ∧
    howSplitUnrepaired (env0.run (fun _ => true) [.convfmt ['%', 'd'], .setFS flt25, .convfmt defaultFmt]) = .crash ∧
    howSplit (env0.run (fun _ => true) [.convfmt ['%', 'd'], .setFS flt25, .convfmt defaultFmt]) = .chars ['2'] ∧
    howSplitUnrepaired (env0.run (fun _ => true) [.setFS flt25, .convfmt ['%', 'd']]) = .chars ['2'] ∧
    howSplit (env0.run (fun _ => true) [.setFS flt25, .convfmt ['%', 'd']]) = .rex ['2', '.', '5'] false := by
  refine ⟨by decide, by decide, by decide, by decide, by decide, by decide, by decide⟩

/-- non-vacuity: histories after which the reader is in each of its modes; a rejected expression changes nothing; a
single character of two bytes is a regular expression for the byte reader -/
example :
    selRead (env0.run (fun _ => true) []) = .dflt ∧
    selRead (env0.run (fun _ => true) [.setRS (strVal []), .convfmt ['%', 'd']]) = .para ∧
    selRead (env0.run (fun _ => true) [.setRS (strVal ['a', 'b']), .ignorecase true, .sameRS]) = .regex ['a', 'b'] true ∧
    selRead (env0.run (fun t => t != ['a', '(']) [.setRS (strVal ['x']), .setRS (strVal ['a', '('])]) = .single 'x' ∧
    selRead (env0.run (fun _ => true) [.setRS (strVal ['x']), .setRS nilVal]) = .dflt ∧
    selReadBytes (env0.run (fun _ => true) [.setRS ⟨false, fun _ => ['é'], fun _ => [195, 169]⟩]) = .regex ['é'] false ∧
    selRead (env0.run (fun _ => true) [.setRS ⟨false, fun _ => ['é'], fun _ => [195, 169]⟩]) = .single 'é' := by
  refine ⟨by decide, by decide, by decide, by decide, by decide, by decide, by decide⟩

end Hawk.ReadIo
