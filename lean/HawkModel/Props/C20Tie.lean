import HawkModel.XmaTieLemmas
/-!
# C20 tie — the size-class and rounding arithmetic of lib/xma.c, machine-translated, equals the hand-written model

`HawkModel/Gen/CFunsXma.lean` is regenerated from the checked tree's lib/xma.c on every check.  `szlog2`, `getxfi`, `roundReq`,
`initSize` compute exactly what the translated C computes, for every 64-bit input (the rounding theorems even for every
natural number: both sides wrap at 2^64); the size expressions of the split and merge branches are those of the model
under the guards the code has tested.
-/
namespace Hawk.Xma
open Hawk.Gen.C Hawk.Xma.Tie

/-- `HAWK_ALIGN_POW2(size, ALIGN)` in hawk_xma_alloc (`(size + ALIGN - 1) & ~(ALIGN - 1)` on a machine word) -/
theorem tie_alloc_round (s : Nat) :
    xmaAllocRound s = ((s + (ALIGN - 1)) % WORD) / ALIGN * ALIGN := by
  have e : (((s + 16) % 18446744073709551616 + 18446744073709551616 - 1) % 18446744073709551616)
      = (s + 15) % 18446744073709551616 := by omega
  unfold xmaAllocRound
  rw [e, CTie.and_mask64 _ 4 18446744073709551600 (by omega) (by decide) (by omega)]
  rfl

/-- the request rounding of hawk_xma_alloc (`if (size < MINALLOCSIZE) size = MINALLOCSIZE; size = HAWK_ALIGN_POW2(size, ALIGN);`,
    `sizeof` of the block structs laid out by clang) is `roundReq` -/
theorem tie_alloc_roundReq (n : Nat) : roundReq n = xmaAllocRound (xmaAllocMin n) := by
  have hm : xmaAllocMin n = (if n < MINALLOC then MINALLOC else n) := rfl
  rw [hm, tie_alloc_round _]
  rfl

/-- the same two statements in _realloc_merge -/
theorem tie_realloc_roundReq (n : Nat) : roundReq n = xmaReallocRound (xmaReallocMin n) := by
  rw [tie_alloc_roundReq n]; rfl

/-- `if (size < ALIGN) return NULL` (the rounding wrapped around) in both places is the model's test -/
theorem tie_wrapped (size : Nat) :
    xmaAllocWrapped size = decide (size < ALIGN) ∧ xmaReallocWrapped size = decide (size < ALIGN) := by
  by_cases h : size < 16 <;> simp [xmaAllocWrapped, xmaReallocWrapped, ALIGN, h]

/-- hawk_xma_init with zoneptr = NULL: `zonesize = HAWK_ALIGN_POW2(zonesize, ALIGN); if (zonesize < FBLKMINSIZE) zonesize = FBLKMINSIZE;`
    is `initSize` -/
theorem tie_init_size (z : Nat) : initSize z = xmaInitMin (xmaInitRound z) := by
  have h1 : xmaInitRound z = xmaAllocRound z := rfl
  have h2 : ∀ x, xmaInitMin x = (if x < FBLKMIN then FBLKMIN else x) := fun _ => rfl
  rw [h2, h1, tie_alloc_round z]
  rfl

/-- alloc_from_freelist: `rem = cand->size - size; if (rem >= FBLKMINSIZE)` chooses between splitting the candidate and
    handing it out whole exactly as `takeBlk` does (the scan guarantees `size <= cand->size`) -/
theorem tie_take_split (s : Xma) (size o : Nat) (rp : List Blk) (b : Blk) (q : List Blk)
    (h : size ≤ b.size) (hb : b.size < 2 ^ 64) :
    takeBlk s size o rp b q =
      (if xmaTakeSplit (xmaTakeRem b.size size) then takeSplit s size o rp b q else takeWhole s o rp b q) := by
  have e : xmaTakeRem b.size size = b.size - size := CTie.sub_word h hb
  have hF : FBLKMIN = 32 := rfl
  simp only [takeBlk, e, xmaTakeSplit, hF, decide_eq_true_eq]

/-- ... and `y->size = rem - MBLKHDRSIZE` is the size `takeSplit` gives the split-off free block -/
theorem tie_take_ysize (bs size : Nat) (h : size ≤ bs) (hb : bs < 2 ^ 64) (hr : bs - size ≥ FBLKMIN) :
    xmaTakeYSize (xmaTakeRem bs size) = bs - size - HDR := by
  have e : xmaTakeRem bs size = bs - size := CTie.sub_word h hb
  rw [e]
  exact CTie.sub_word (Nat.le_trans (by decide) hr) (Nat.lt_of_le_of_lt (Nat.sub_le _ _) hb)

/-- _realloc_merge, growing into the free next block `n`: `req = size - blk->size`, `rem = (MBLKHDRSIZE + n->size) - req`,
    `y->size = rem - MBLKHDRSIZE` are the expressions of `reallocMerge` under its guards (`size > b.size`, `req <= n.size`;
    block sizes are 63-bit fields) -/
theorem tie_grow (size bs ns : Nat) (hs : size < 2 ^ 64) (hg : size > bs) (hn : ns < 2 ^ 63) (hreq : size - bs ≤ ns) :
    xmaGrowReq size bs = size - bs ∧
    xmaGrowRem ns (xmaGrowReq size bs) = (HDR + ns) - (size - bs) ∧
    ((HDR + ns) - (size - bs) ≥ FBLKMIN →
      xmaGrowYSize (xmaGrowRem ns (xmaGrowReq size bs)) = (HDR + ns) - (size - bs) - HDR) := by
  have e1 : xmaGrowReq size bs = size - bs := CTie.sub_word (Nat.le_of_lt hg) hs
  have h16 : 16 + ns < 18446744073709551616 := by omega
  have e2 : xmaGrowRem ns (size - bs) = (HDR + ns) - (size - bs) := by
    unfold xmaGrowRem
    rw [Nat.mod_eq_of_lt h16]
    exact CTie.sub_word (by omega) h16
  rw [e1, e2]
  exact ⟨rfl, rfl, fun h => CTie.sub_word (Nat.le_trans (by decide) h) (Nat.lt_of_le_of_lt (Nat.sub_le _ _) h16)⟩

/-- _realloc_merge, shrinking: `rem = blk->size - size`, the leftover joined with a free next block (`rem + n->size`) or
    made a block of its own (`rem - MBLKHDRSIZE`) -/
theorem tie_shrink (size bs ns : Nat) (hb : bs < 2 ^ 63) (hl : size < bs) (hn : ns < 2 ^ 63) :
    xmaShrinkRem bs size = bs - size ∧
    xmaShrinkYSizeMerge (xmaShrinkRem bs size) ns = (bs - size) + ns ∧
    (bs - size ≥ FBLKMIN → xmaShrinkYSize (xmaShrinkRem bs size) = bs - size - HDR) := by
  have hb' : bs < 18446744073709551616 := by omega
  have e1 : xmaShrinkRem bs size = bs - size := CTie.sub_word (Nat.le_of_lt hl) hb'
  rw [e1]
  exact ⟨rfl, Nat.mod_eq_of_lt (by omega),
    fun h => CTie.sub_word (Nat.le_trans (by decide) h) (Nat.lt_of_le_of_lt (Nat.sub_le _ _) hb')⟩

/-- hawk_xma_free, the three coalescing cases: the size stored into the surviving block (`x->size += bs` with
    `ns = HDR + org + HDR`, `bs = ns + y->size`; `blk->size += HDR + y->size`; `x->size += HDR + org`) is the size
    `freeCore` gives it, for blocks of one zone (the sum fits the 63-bit size field, so the store does not truncate) -/
theorem tie_free_sizes (xs bs ys : Nat) (h : xs + bs + ys + 32 < 2 ^ 63) :
    xmaFreeBoth xs (xmaFreeBs (xmaFreeNs bs) ys) = xs + ((HDR + bs + HDR) + ys) ∧
    xmaFreeNext bs ys = bs + (HDR + ys) ∧
    xmaFreePrev xs bs = xs + (HDR + bs) := by
  have hH : HDR = 16 := rfl
  simp only [xmaFreeBoth, xmaFreeBs, xmaFreeNs, xmaFreeNext, xmaFreePrev, hH]
  omega

/-- **szlog2**: the translated C function (binary search for the highest set bit with masks and shifts on `hawk_oow_t`,
    the running exponent in an `int`) returns the model's `szlog2` for every 64-bit argument -/
theorem tie_szlog2 (n : Nat) (hn : n < 2 ^ 64) : Hawk.Gen.C.szlog2 n = szlog2 n := by
  rcases Nat.eq_zero_or_pos n with rfl | h0
  · decide  -- no set bit for `SzInv` to locate: both sides take every step
  have i1 : SzInv n (2 * 32) (63, n) := SzInv.init hn h0
  have i2 : SzInv n (2 * 16) _ := i1.step
  have i3 : SzInv n (2 * 8) _ := i2.step
  have i4 : SzInv n (2 * 4) _ := i3.step
  have i5 : SzInv n (2 * 2) _ := i4.step
  have i6 : SzInv n (2 * 1) _ := i5.step
  rw [szlog2_eq hn, gen_szlog2_eq, clast_eq, step_ok i1 (by decide), step_ok i2 (by decide),
    step_ok i3 (by decide), step_ok i4 (by decide), step_ok i5 (by decide), step_ok i6 (by decide)]
  have hl : _ + 1 ≤ 64 := i6.step.le
  dsimp only
  omega

/-- `xma->bdec = szlog2(FIXED * ALIGN)` as hawk_xma_init computes it is the model's `bdec` -/
theorem tie_init_bdec : xmaInitBdec = bdec :=
  show Hawk.Gen.C.szlog2 512 = szlog2 512 from tie_szlog2 512 (by decide)

/-- **getxfi**: the translated C function, given the `bdec` that hawk_xma_init stores, is the model's `getxfi` on every
    64-bit size (same wrap-arounds: `size / ALIGN - 1` for `size < ALIGN`, `szlog2(size) - bdec + FIXED`) -/
theorem tie_getxfi (size : Nat) (hs : size < 2 ^ 64) : Hawk.Gen.C.getxfi size bdec = getxfi size := by
  unfold Hawk.Gen.C.getxfi
  rw [tie_szlog2 size hs, Nat.mod_add_mod]
  rfl

end Hawk.Xma
