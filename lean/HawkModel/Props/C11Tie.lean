import HawkModel.Cmp
import HawkModel.Gen.CFunsCmp
/-!
# C11 tie — the leaf comparators of lib/run.c, machine-translated, equal the hand-written model

The operands of the `__cmp_<l>_<r>` routines are decoded from `hawk_val_t*` by macros
(`HAWK_RTX_GETINTFROMVAL` ...): the translator takes the decoded locals (`v1`, `v2`, `v`) as inputs of their
declared C type (option `abstract=`) and translates everything after the decoding; `hawk_rtx_seterrnum(...)`
is dropped (`ignore=`), it only records the error number.  The theorems say that the three-way helpers and the
hint table the C11 theorems are about (`cmp3Int`, `cmp3Nat`, `ensureNotEqual`, `neg`) are what the C computes.
-/
namespace Hawk.Cmp
open Hawk.Gen.C

/-- `__cmp_ensure_not_equal`: the `switch (op_hint)` returns the model's value for each of the seven `cmp_op_t` codes -/
theorem tie_ensure_not_equal (h : Hint) : cmpEnsureNotEqual h.code = ensureNotEqual h := by
  cases h <;> rfl

/-- ... and for every other value of the operand the `default:` arm answers -1, as for `CMP_OP_NONE` -/
theorem tie_ensure_not_equal_default (n : Nat) (hn : n = 0 ∨ 6 < n) : cmpEnsureNotEqual n = -1 := by
  unfold cmpEnsureNotEqual
  omega

/-- `__cmp_int_int`: `(v1 > v2)? 1: ((v1 < v2)? -1: 0)` on `hawk_int_t` is `cmp3Int`, whatever the hint -/
theorem tie_int_int (hint : Nat) (a b : Int) : cmpIntInt hint a b = cmp3Int a b := rfl

/-- `__cmp_nil_int`: `(v < 0)? 1: ((v > 0)? -1: 0)` is `cmp3Int 0 v` -/
theorem tie_nil_int (hint : Nat) (v : Int) : cmpNilInt hint v = cmp3Int 0 v := rfl

/-- `__cmp_char_char` on `hawk_oochu_t` (promoted to `int` by the C) is `cmp3Nat` -/
theorem tie_char_char (hint a b : Nat) : cmpCharChar hint a b = cmp3Nat a b := by
  simp only [cmpCharChar, cmp3Nat, Int.ofNat_eq_natCast]
  omega

/-- `__cmp_bchr_bchr` on `hawk_bchu_t` is `cmp3Nat` -/
theorem tie_bchr_bchr (hint a b : Nat) : cmpBchrBchr hint a b = cmp3Nat a b :=
  tie_char_char hint a b

/-- `__cmp_char_bchr` (a `hawk_oochu_t` against a `hawk_bchu_t`) is `cmp3Nat` -/
theorem tie_char_bchr (hint a b : Nat) : cmpCharBchr hint a b = cmp3Nat a b :=
  tie_char_char hint a b

/-- the mirrored routines (`n = callee(..swapped..); if (n == CMP_ERROR) return CMP_ERROR; return -n;`):
    on every result a leaf routine can produce (`-1, 0, 1`) the sentinel test is false and the returned value is the
    model's `neg` -/
theorem tie_mirror_neg (n : Int) (hn : n = -1 ∨ n = 0 ∨ n = 1) :
    cmpMirrorIsErr n = false ∧ neg (.ok n) = .ok (cmpMirrorNeg n) := by
  rcases hn with h | h | h <;> subst h <;> exact ⟨by decide, rfl⟩

/-- the sentinel `CMP_ERROR` itself is recognised (and is none of the three results) -/
theorem tie_mirror_err : ∃ e : Int, cmpMirrorIsErr e = true ∧ e ≠ -1 ∧ e ≠ 0 ∧ e ≠ 1 :=
  ⟨-99, by decide, by decide, by decide, by decide⟩

end Hawk.Cmp
