import HawkModel.ExprBlockLemmas
import HawkModel.Gen.OpTables
/-!
# Property C08 - an expression's value does not depend on where its operands are stored

"Evaluating an expression yields the same value and type, or the same error, whether its operands are
written as literals (and possibly folded at parse time) or are read from undeclared variables, declared
globals, locals, function parameters, by-reference parameters, or map and array elements; `x op= y`
behaves as `x = x op y`, and the increment and decrement forms as the corresponding add-and-assign."

All theorems hold for every float implementation (`FloatOps F`) and every `Ext` (string/number conversion,
comparison, matching, FLEXMAP setting).  The model (`HawkModel/Expr.lean`) follows the code under /repo, which has the
zero and minus-one divisor guards in the folder and the evaluator (`patches/int-div-overflow`) and folds `float \ integer`
from the float view (`patches/fold-idiv-flt-int`).

The storage layer below the expressions (`HawkModel/ExprBlock.lean`): the flat frame of block-level locals, laid out
by `parse_block` and reset by `run_block0`, simulates lexically scoped locals for every program of the model language,
every placement of the non-locals and every garbage left in the frame by earlier blocks, loop iterations and calls; the
dispatch tables and the block constants are generated.

Two clauses hold only with a side condition, and the condition is necessary (witness theorems below):
* `fold_expr_error_partial`: a parse-time folding error is the run-time error of the folded operator
  application - but the parser reports it even when the run time would never evaluate that application
  (`fold_eager_error_witness`: `0 && (1 / 0)`), as gawk does.
* `compound_assign_partial`: `x op= y` is `x = x op y` when `y` does not itself assign to `x`;
  `eval_assignment` evaluates `y` before it reads `x` (`compound_assign_order_witness`: `x += (x = 5)`), as gawk does.
-/
set_option linter.unusedSectionVars false
namespace Hawk.Expr
open FloatOps Hawk.Gen.OpTables
variable {F : Type} [FloatOps F]

/-- the model's operator type lists `hawk_binop_type_t` in declaration order -/
theorem binop_enum_matches : BinOp.all.map BinOp.cname = binopEnum := by decide

/-- the model's assignment operator type lists `hawk_assop_type_t` in declaration order -/
theorem assop_enum_matches : AssOp.all.map AssOp.cname = assopEnum := by decide

/-- every case of `evalBinop` transcribes the function `eval_binary` dispatches to for that opcode,
and the opcodes with a NULL table entry are exactly the ones `eval` handles on the operand nodes -/
theorem binop_table_matches : BinOp.all.map BinOp.cfun = evalBinaryTable := by decide

/-- a compound assignment applies, through `eval_assignment`'s own table, the very function that
`eval_binary` applies for the corresponding binary operator -/
theorem assop_maps_to_binop : ∀ a ∈ AssOp.all, a ≠ .none →
    evalAssignTable[AssOp.all.idxOf a]? = some ((assopToBinop a).cfun) ∧
    evalBinaryTable[BinOp.all.idxOf (assopToBinop a)]? = some ((assopToBinop a).cfun) ∧
    ((assopToBinop a).cfun).isSome = true ∧
    (assopToBinop a).cname = a.cname := by decide +kernel

/-- the parser maps the assignment tokens to the assignment opcodes in enum order -/
theorem parse_assop_table_matches : parseAssopTable = assopEnum ∧ assnTokens = assopEnum := by decide

/-- `eval_incpre` and `eval_incpst` use +1 / -1 (integer and float) exactly as `incDelta`;
`eval_assignment` evaluates the right-hand side first, as `eval` does -/
theorem incdec_table_matches :
    incpre = [IncOp.plus, IncOp.minus].map (fun o => (o.cname, incDelta o, incDelta o)) ∧
    incpst = incpre ∧ incopEnum = [IncOp.plus, IncOp.minus].map IncOp.cname ∧ assignRhsFirst = true := by decide

/-- whenever `fold_constants_for_binop` folds, the run-time operator on the two literal values yields exactly
the folded value (same type, same number) - for every operator, every pair of literal nodes, whatever the
inactive views of the nodes contain -/
theorem fold_sound (X : Ext F) (op : BinOp) (a b : LitNode F) (v : Val F)
    (h : (foldBinop op a b).value? = some v) : evalBinop X op a.val b.val = .ok v := by
  have hs := foldBinop_spec op a b
  generalize foldBinop op a b = res at h hs
  cases res with
  | int l | flt l => injection h with h; subst h; exact hs X
  | _ => cases h

/-- the folder fails the parse only where the run-time operator fails with the same error -/
theorem fold_error_matches (X : Ext F) (op : BinOp) (a b : LitNode F) (e : Err)
    (h : foldBinop op a b = .error e) : evalBinop X op a.val b.val = .error e := by
  have hs := foldBinop_spec op a b
  rw [h] at hs; exact hs.2 X

/-- the only error the folder reports is division by zero -/
theorem fold_error_is_divby0 (op : BinOp) (a b : LitNode F) (e : Err)
    (h : foldBinop op a b = .error e) : e = .divby0 := by
  have hs := foldBinop_spec op a b
  rw [h] at hs; exact hs.1

/-- the folder performs no unguarded `/` or `%`: the partial machine division is defined wherever it is used -/
theorem fold_total (op : BinOp) (a b : LitNode F) : foldBinop op a b ≠ .crash :=
  foldBinop_ne_crash op a b

/-- the run-time integer `/`, `\`, `%` (and every other table operator) never execute a trapping division either -/
theorem eval_total (X : Ext F) (op : BinOp) (l r : Val F)
    (hcmp : ∀ c, X.cmp c l r ≠ .error .crash) : evalBinop X op l r ≠ .error .crash :=
  evalBinop_ne_error X op l r nofun nofun hcmp

/-- the literal folding of `parse_unary` always folds, and to the value `eval_unary` computes -/
theorem fold_unary_sound (X : Ext F) (op : UnrOp) (a : LitNode F) :
    ∃ v, (foldUnary op a).value? = some v ∧ evalUnary X op a.val = .ok v :=
  foldUnary_spec X op a

/-- whole expressions: if the parse (with folding, through any nesting of parentheses, unary and binary
operators, conditionals and assignments) succeeds, the folded tree evaluates exactly like the unfolded one -
same value or same error, same final state - under every storage and from every state -/
theorem fold_expr_sound {S R : Type} (X : Ext F) (st : Storage S R F) (e e' : Expr R F)
    (h : foldExpr e = .ok e') (s : S) : eval X st e' s = eval X st e s :=
  foldExpr_sound X st e e' h s

theorem FoldFails.spec {R : Type} {e : Expr R F} {op : BinOp} {l r : Expr R F} {a b : LitNode F} {err : Err}
    (h : FoldFails e op l r a b err) :
    foldExpr l = .ok (.lit a) ∧ foldExpr r = .ok (.lit b) ∧ foldBinop op a b = .error err := by
  induction h with
  | here h1 h2 h3 => exact ⟨h1, h2, h3⟩
  | un _ ih | binL _ ih | binR _ ih | cndC _ ih | cndT _ ih | cndF _ ih | asg _ ih => exact ih

/-- a parse-time folding error is division by zero, it stems from one operator application `l op r` inside
the expression whose operands are constant (they evaluate to the literal values `a`, `b` from every state
without changing it), and the run time fails with the same error when it evaluates that application.
PARTIAL with respect to the English property: the parser reports the error even if the run time would never
evaluate `l op r` (see `fold_eager_error_witness`). -/
theorem fold_expr_error_partial {S R : Type} (X : Ext F) (st : Storage S R F) (e : Expr R F) (err : Err)
    (h : foldExpr e = .error err) :
    err = .divby0 ∧ ∃ op l r a b, FoldFails e op l r a b err ∧
      (∀ s, eval X st l s = .ok (a.val, s)) ∧ (∀ s, eval X st r s = .ok (b.val, s)) ∧
      (∀ s, eval X st (.bin op l r) s = .error err) := by
  obtain ⟨op, l, r, a, b, hf⟩ := foldExpr_error e err h
  obtain ⟨h1, h2, h3⟩ := hf.spec
  have hl : ∀ s, eval X st l s = .ok (a.val, s) := fun s => (foldExpr_sound X st l _ h1 s).symm
  have hr : ∀ s, eval X st r s = .ok (b.val, s) := fun s => (foldExpr_sound X st r _ h2 s).symm
  have he := fold_error_matches X op a b err h3
  have hd := fold_error_is_divby0 op a b err h3
  subst hd
  refine ⟨rfl, op, l, r, a, b, hf, hl, hr, fun s => ?_⟩
  rw [eval_bin_const X st op l r a.val b.val s (hl s) (hr s) (by rw [he]; nofun), he]
  rfl

/-- the side condition of `fold_expr_error_partial` is necessary: `0 && (1 / 0)` fails to parse with
"divide by zero" although its evaluation yields 0 without dividing -/
theorem fold_eager_error_witness (X : Ext F) (σ : Store F) :
    let e : Expr Nat F := .bin .land (.lit (LitNode.mkInt 0)) (.bin .div (.lit (LitNode.mkInt 1)) (.lit (LitNode.mkInt 0)))
    foldExpr e = .error .divby0 ∧ eval X slotStorage e σ = .ok (.int 0, σ) :=
  ⟨rfl, rfl⟩

/-- Let `e` be an expression over abstract operand slots, `σ` the slot values, and `π`, `π'` two placements of the
slots on variable references - plain named variables, globals, locals, parameters, elements of maps or arrays, in any
mixture - that do not alias. If the environments store `σ` under the respective placement, then evaluating `e` placed
by `π` and `e` placed by `π'` gives what the reference semantics on bare slots gives: the same value, or the same
error; and both final environments store the same final slot values (assignments, compound assignments, increments
land in the right place). -/
theorem storage_independent (X : Ext F) (π π' : Nat → Ref) (hπ : NoAlias π) (hπ' : NoAlias π')
    (e : Expr Nat F) (env env' : Env F) (σ : Store F) (h : Holds π env σ) (h' : Holds π' env' σ) :
    match eval X slotStorage e σ with
    | .ok (v, σ') => ∃ env₁ env₁',
        eval X (envStorage X) (e.map π) env = .ok (v, env₁) ∧
        eval X (envStorage X) (e.map π') env' = .ok (v, env₁') ∧
        Holds π env₁ σ' ∧ Holds π' env₁' σ'
    | .error err =>
        eval X (envStorage X) (e.map π) env = .error err ∧
        eval X (envStorage X) (e.map π') env' = .error err := by
  refine Lift.elim₂ (eval_sim X (access_placed X π hπ) e env σ h) (eval_sim X (access_placed X π' hπ') e env' σ h')
    ?_ fun _ a1 a2 => ⟨a1, a2⟩
  rintro ⟨_, e1⟩ ⟨_, e2⟩ ⟨v, σ'⟩ ⟨rfl, b1⟩ ⟨rfl, b2⟩ a1 a2
  exact ⟨e1, e2, a1, a2, b1, b2⟩

/-- every accessor returns the stored value: reading a slot through any well-kinded reference
(`eval_named`, `eval_gbl`, `eval_lcl`, `eval_arg`, `eval_indexed` on a map or an array) yields the slot value -/
theorem read_returns_stored (X : Ext F) (π : Nat → Ref) (env : Env F) (σ : Store F) (h : Holds π env σ) (i : Nat) :
    ∃ env₁, eval X (envStorage X) (.var (π i)) env = .ok (σ i, env₁) := by
  obtain ⟨e', h1, _, _⟩ := envRead_good env (π i) (σ i) (h i)
  exact ⟨e', h1⟩

/-- Calling `function f(&p0, .., &p(n-1)) { return e }` with the variables placed by `π` as arguments gives the value
(or error) of `e` on the bare slots, and after the call the argument variables hold the final slot values (copy-back
in `hawk_rtx_evalcall`); every other slot's variable is unchanged. -/
theorem byref_independent (X : Ext F) (π : Nat → Ref) (hπ : NoAlias π) (n : Nat) (e : Expr Nat F)
    (env : Env F) (σ : Store F) (h : Holds π env σ) (hnil : ∀ i, n ≤ i → σ i = .nil) :
    match eval X slotStorage e σ with
    | .ok (v, σ') => ∃ env', evalCallByRef X ((List.range n).map π) (e.map argπ) env = .ok (v, env') ∧
        (∀ i, i < n → Good env' (π i) (σ' i)) ∧ (∀ i, n ≤ i → Good env' (π i) (σ i))
    | .error err => evalCallByRef X ((List.range n).map π) (e.map argπ) env = .error err := by
  refine (byref_sim X π hπ n e env σ h hnil).elim ?_ fun _ a => a
  rintro ⟨_, env'⟩ ⟨_, _⟩ ⟨rfl, g⟩ a
  exact ⟨env', a, g⟩

/-- Writing the operands selected by `L` (none of them an assignment target) as literals of their values, parsing the
result (which folds constant sub-expressions) and evaluating it gives exactly what evaluating the original expression
over the slots gives - provided the parse succeeds (for a failing parse see `fold_expr_error_partial`). -/
theorem literal_placement (X : Ext F) (L : Nat → Bool) (σ : Store F) (e e' : Expr Nat F)
    (hL : ∀ i, L i = true → i ∉ e.targets) (hf : foldExpr (substLit L σ e) = .ok e') :
    eval X slotStorage e' σ = eval X slotStorage e σ := by
  rw [foldExpr_sound X slotStorage _ e' hf σ]
  exact substLit_sound X L σ e hL σ (fun _ _ => rfl)

/-- `x op= y` evaluates like `x = x op y` on the bare slots: same value or error, same final store -
for every compound operator, when `y` contains no assignment to `x`.
PARTIAL: without the side condition the two differ (`compound_assign_order_witness`). -/
theorem compound_assign_partial (X : Ext F) (op : AssOp) (hop : op ≠ .none) (x : Nat) (y : Expr Nat F)
    (hx : x ∉ y.targets) (σ : Store F) :
    eval X slotStorage (.asg op x y) σ =
      eval X slotStorage (.asg .none x (.bin (assopToBinop op) (.var x) y)) σ :=
  compound_assign_slots X op hop x y hx σ

/-- the same under every placement: both forms give the same value (or error) and final environments that
store the same slot values -/
theorem compound_assign_placed_partial (X : Ext F) (π : Nat → Ref) (hπ : NoAlias π) (op : AssOp) (hop : op ≠ .none)
    (x : Nat) (y : Expr Nat F) (hx : x ∉ y.targets) (env : Env F) (σ : Store F) (h : Holds π env σ) :
    match eval X slotStorage (.asg op x y) σ with
    | .ok (v, σ') => ∃ env₁ env₂,
        eval X (envStorage X) ((Expr.asg op x y).map π) env = .ok (v, env₁) ∧
        eval X (envStorage X) ((Expr.asg .none x (.bin (assopToBinop op) (.var x) y)).map π) env = .ok (v, env₂) ∧
        Holds π env₁ σ' ∧ Holds π env₂ σ'
    | .error err =>
        eval X (envStorage X) ((Expr.asg op x y).map π) env = .error err ∧
        eval X (envStorage X) ((Expr.asg .none x (.bin (assopToBinop op) (.var x) y)).map π) env = .error err := by
  have s2 := eval_sim X (access_placed X π hπ) (.asg .none x (.bin (assopToBinop op) (.var x) y)) env σ h
  rw [← compound_assign_slots X op hop x y hx σ] at s2
  refine Lift.elim₂ (eval_sim X (access_placed X π hπ) (.asg op x y) env σ h) s2 ?_ fun _ a1 a2 => ⟨a1, a2⟩
  rintro ⟨_, e1⟩ ⟨_, e2⟩ ⟨v, σ'⟩ ⟨rfl, b1⟩ ⟨rfl, b2⟩ a1 a2
  exact ⟨e1, e2, a1, a2, b1, b2⟩

/-- the side condition is necessary: with `x = 1`, `x += (x = 5)` yields 10 but `x = x + (x = 5)` yields 6 -/
theorem compound_assign_order_witness (X : Ext F) :
    let σ : Store F := fun _ => .int 1
    let y : Expr Nat F := .asg .none 0 (.lit (LitNode.mkInt 5))
    (eval X slotStorage (.asg .plus 0 y) σ).map (·.1) = .ok (.int 10) ∧
    (eval X slotStorage (.asg .none 0 (.bin .plus (.var 0) y)) σ).map (·.1) = .ok (.int 6) :=
  ⟨rfl, rfl⟩

/-- `++x` / `--x` is `x += 1` / `x += -1`: same value, same final state, under every storage -/
theorem inc_dec_pre {S R : Type} (X : Ext F) (st : Storage S R F) (op : IncOp) (x : R) (s : S) :
    eval X st (.incpre op x) s = eval X st (.asg .plus x (.lit (LitNode.mkInt (incDelta op)))) s := by
  simp only [eval, assopToBinop, LitNode.mkInt, LitNode.val, ok_bind, evalPlus_inc]

/-- `x++` / `x--` leaves the state that `x += 1` / `x += -1` leaves, and its value is the old value of `x`
converted to a number (what unary `+` yields) -/
theorem inc_dec_post {S R : Type} (X : Ext F) (st : Storage S R F) (op : IncOp) (x : R) (s : S) :
    eval X st (.incpst op x) s =
      (do let (old, _) ← st.read x s
          let (_, s') ← eval X st (.asg .plus x (.lit (LitNode.mkInt (incDelta op)))) s
          let v ← evalUnary X .plus old
          pure (v, s')) := by
  simp only [eval, assopToBinop, LitNode.mkInt, LitNode.val, ok_bind, evalPlus_inc, evalUnary_plus_incOld]
  cases st.read x s with
  | error e => rfl
  | ok p =>
    simp only [ok_bind]
    cases st.write x (incNew X op p.1) p.2 <;> rfl

def mixedπ : Nat → Ref
  | 0 => .plain (.named "x")
  | 1 => .idx (.named "m") (.s "k")
  | 2 => .idx (.lcl 0) (.i 3)
  | 3 => .plain (.arg 0)
  | i + 4 => .plain (.gbl i)

theorem noAlias_mixedπ : NoAlias mixedπ := by
  intro i j h
  rcases i with _ | _ | _ | _ | i <;> rcases j with _ | _ | _ | _ | j <;> simp_all [mixedπ, Indep, Ref.base]

def mixedEnv (σ : Store F) : Env F where
  named := fun n => if n = "x" then some (.sc (σ 0))
                    else if n = "m" then some (.map (fun k => if k = "k" then some (σ 1) else none)) else none
  gbl := fun i => .sc (σ (i + 4))
  lcl := fun i => if i = 0 then .arr (fun k => if k = 3 then some (σ 2) else none) else .sc .nil
  arg := fun i => if i = 0 then .sc (σ 3) else .sc .nil

/-- the hypotheses of `storage_independent` are satisfiable by a placement that uses five different kinds of
storage at once, for arbitrary slot values -/
theorem holds_mixed (σ : Store F) : Holds mixedπ (mixedEnv σ) σ := by
  intro i
  rcases i with _ | _ | _ | _ | i <;> simp [Good, mixedπ, mixedEnv, Env.peek, Kinded, Env.top, Key.str]

example (σ : Store F) : NoAlias (fun i => Ref.plain (.gbl i)) ∧
    Holds (fun i => Ref.plain (.gbl i))
      ({ named := fun _ => none, gbl := fun i => .sc (σ i), lcl := fun _ => .sc .nil, arg := fun _ => .sc .nil } : Env F) σ := by
  exact ⟨fun i j h hh => h (Base.gbl.inj hh), fun i => (good_plain _ _ _).mpr rfl⟩

/-- the folder does fold, and does report errors: the statements above are not about an inert function -/
example : foldBinop (F := F) .idiv (LitNode.mkInt 7) (LitNode.mkInt 2) = .int 3 := rfl
example : foldBinop (F := F) .mod (LitNode.mkInt 1) (LitNode.mkInt 0) = .error .divby0 := rfl
example : foldBinop (F := F) .idiv (LitNode.mkInt INT_MIN) (LitNode.mkInt (-1)) = .int INT_MIN := rfl
example : foldBinop (F := F) .mod (LitNode.mkInt INT_MIN) (LitNode.mkInt (-1)) = .int 0 := rfl
/-- the bare machine division has no value there -/
example : cdiv INT_MIN (-1) = none ∧ cmod INT_MIN (-1) = none ∧ cmod 1 0 = none := ⟨rfl, rfl, rfl⟩

/-- every kind of variable reference of the model is served by the evaluator and the assigner the model transcribes
for it: `__evaluator[type - HAWK_NDE_GRP]` of `eval_expression0` and the `switch (var->type)` of `do_assignment` -/
theorem ref_dispatch_matches (r : Ref) :
    (r.nde, r.evaluator) ∈ ndeEvaluator ∧ (r.nde, r.assigner) ∈ assignDispatch := by
  cases r with
  | plain b | idx b k => cases b <;> simp only [Ref.nde, Ref.evaluator, Ref.assigner] <;> decide

/-- every expression constructor of the model is dispatched to the evaluator transcribed in that case of `eval` -/
theorem expr_dispatch_matches : ∀ p ∈ exprCtorDispatch, p ∈ ndeEvaluator := by decide +kernel

/-- `run` and `compile` use the conditions, the loop bounds and the counters that `run_block0` and `parse_block` use:
push when `nlcls > 0`, else reset when `nlcls != org_nlcls`, over `[outer_nlcls, outer_nlcls + org_nlcls)`;
`org_nlcls` = locals declared in the block, `outer_nlcls` = size of `parse.lcls` at block entry,
`nlcls` = `nlcls_max` for the outermost block and 0 for nested ones -/
theorem block_tables_match :
    blockConds = ["nlcls>0", "nlcls!=org_nlcls"] ∧ blockResetLo = "outer_nlcls" ∧
    blockResetHi = ["outer_nlcls", "org_nlcls"] ∧
    parseBlockFields = [("org_nlcls", "tmp-nlcls_outer"), ("outer_nlcls", "nlcls_outer"),
                        ("nlcls", "hawk->parse.nlcls_max-nlcls_outer"), ("nlcls", "0")] ∧
    parseBlockOuter = "HAWK_ARR_SIZE(hawk->parse.lcls)" := by decide +kernel

/-- Take any statement `s` of the model language (expression statements, sequences, nested blocks declaring locals,
loops re-entering their body `n` times, conditionals) that stands in a parser context `ctx` the parser can build
(`Chain`) and refers only to variables in scope (`WS`), any placement `ρ` of the non-local variables on named
variables / globals / parameters / map and array elements (no aliasing, not in the frame), and ANY environment `env`
that stores the scoped state `st` on the slots of the open blocks - the slots above them hold arbitrary garbage, the
history of earlier blocks, iterations and calls. Then running the parser's output on the flat frame (`run`: slots
`outer_nlcls + i`, reset of `[outer_nlcls, outer_nlcls + org_nlcls)` on every entry) produces exactly the trace of
expression values (or the error) of the lexically scoped semantics (`srun`: a fresh all-nil frame per block entry),
and the final environment again stores the final scoped state. -/
theorem block_locals_scoped (X : Ext F) (ρ : Nat → Ref) (hρ : NoAlias ρ) (hoff : OffFrame ρ) (s : SStmt F)
    (ctx : PCtx) (hc : Chain ctx) (hws : s.WS ctx) (env : Env F) (st : SState F) (tr : List (Val F))
    (h : BRel ρ ctx env st) :
    match srun X s (st, tr) with
    | .ok (st', tr') => ∃ env', run X (compile ρ s ctx) (env, tr) = .ok (env', tr') ∧ BRel ρ ctx env' st'
    | .error err => run X (compile ρ s ctx) (env, tr) = .error err := by
  refine (block_sim X ρ (blockRel_BRel X ρ hρ hoff) s ctx hc hws env st tr h).elim ?_ fun _ a => a
  rintro ⟨env', _⟩ ⟨_, _⟩ ⟨rfl, g⟩ a
  exact ⟨env', a, g⟩

/-- The same source statement, with its non-local variables placed by two different placements `ρ`, `ρ'` (named
variables, globals, parameters, map / array elements, in any mixture), run from two environments that store the same
scoped state - each with its own garbage in the dead frame slots - yields the same trace of expression values and
final environments that again store one and the same scoped state; or both runs fail with the same error. -/
theorem block_placement_independent (X : Ext F) (ρ ρ' : Nat → Ref) (hρ : NoAlias ρ) (hoff : OffFrame ρ)
    (hρ' : NoAlias ρ') (hoff' : OffFrame ρ') (s : SStmt F) (ctx : PCtx) (hc : Chain ctx) (hws : s.WS ctx)
    (env env' : Env F) (st : SState F) (tr : List (Val F)) (h : BRel ρ ctx env st) (h' : BRel ρ' ctx env' st) :
    (∃ e₁ e₁' tr' st', run X (compile ρ s ctx) (env, tr) = .ok (e₁, tr') ∧
        run X (compile ρ' s ctx) (env', tr) = .ok (e₁', tr') ∧ BRel ρ ctx e₁ st' ∧ BRel ρ' ctx e₁' st') ∨
    (∃ err, run X (compile ρ s ctx) (env, tr) = .error err ∧ run X (compile ρ' s ctx) (env', tr) = .error err) := by
  refine Lift.elim₂ (C := fun _ => _) (block_sim X ρ (blockRel_BRel X ρ hρ hoff) s ctx hc hws env st tr h)
    (block_sim X ρ' (blockRel_BRel X ρ' hρ' hoff') s ctx hc hws env' st tr h') ?_ fun err a1 a2 => .inr ⟨err, a1, a2⟩
  rintro ⟨e1, _⟩ ⟨e2, _⟩ ⟨st', _⟩ ⟨rfl, b1⟩ ⟨rfl, b2⟩ a1 a2
  exact .inl ⟨e1, e2, _, st', a1, a2, b1, b2⟩

/-- The body block of a function / BEGIN / action with `k` locals of its own, compiled with `nlcls = nlcls_max`: from
ANY environment that stores the non-locals `σ` (whatever the stack held before - a previous call of the same function
included), the run gives the trace (or error) of the scoped semantics started with no frame at all, and the non-locals
end up with the scoped run's final values. -/
theorem block_frame_top (X : Ext F) (ρ : Nat → Ref) (hρ : NoAlias ρ) (hoff : OffFrame ρ) (k : Nat) (body : SStmt F)
    (hws : body.WS [(0, k)]) (env : Env F) (σ : Store F) (tr : List (Val F)) (h : Holds ρ env σ) :
    match srun X (.blk k body) ((σ, []), tr) with
    | .ok (st', tr') => ∃ env', run X (compileTop ρ k body) (env, tr) = .ok (env', tr') ∧ Holds ρ env' st'.1
    | .error err => run X (compileTop ρ k body) (env, tr) = .error err := by
  refine (block_top_sim X ρ (blockRel_BRel X ρ hρ hoff) k body hws env σ tr (brel_nil h)).elim ?_ fun _ a => a
  rintro ⟨env', _⟩ ⟨_, _⟩ ⟨rfl, g⟩ a
  exact ⟨env', a, g.holds⟩

/-- Calling `function f(&p0, .., &p(n-1)) BODY`, where BODY is any block program over the parameters and its own
(nested) locals, with the variables placed by `π` as arguments (caller's locals included), from a stack whose region
above the caller's frame holds ANY `garbage` (earlier calls of the same or other functions): the call yields the trace
(or error) of the scoped semantics of BODY over the bare slots, afterwards the argument variables hold the final
parameter values (copy-back), every other slot's variable is unchanged. -/
theorem byref_block_call (X : Ext F) (π : Nat → Ref) (hπ : NoAlias π) (n k : Nat) (body : SStmt F)
    (hws : body.WS [(0, k)]) (garbage : Nat → Cell F)
    (env : Env F) (σ : Store F) (tr : List (Val F)) (h : Holds π env σ) (hnil : ∀ i, n ≤ i → σ i = .nil) :
    match srun X (.blk k body) ((σ, []), tr) with
    | .ok (st', tr') => ∃ env',
        evalCallByRefBlk X ((List.range n).map π) (compileTop argπ k body) garbage env tr = .ok (env', tr') ∧
        (∀ i, i < n → Good env' (π i) (st'.1 i)) ∧ (∀ i, n ≤ i → Good env' (π i) (σ i))
    | .error err =>
        evalCallByRefBlk X ((List.range n).map π) (compileTop argπ k body) garbage env tr = .error err := by
  refine (byref_block_sim X π hπ n k body hws garbage env σ tr h hnil).elim ?_ fun _ a => a
  rintro ⟨env', _⟩ ⟨_, _⟩ ⟨rfl, g⟩ a
  exact ⟨env', a, g⟩

/-- its hypotheses are satisfiable: two arguments placed on globals, a body with a nested block and a loop -/
example : NoAlias (fun i => Ref.plain (.gbl i)) ∧
    Holds (fun i => Ref.plain (.gbl i))
      ({ named := fun _ => none, gbl := fun i => .sc (if i < 2 then .int 7 else .nil), lcl := fun _ => .sc .nil,
         arg := fun _ => .sc .nil } : Env F) (fun i => if i < 2 then .int 7 else .nil) ∧
    (∀ i, 2 ≤ i → (fun i => if i < 2 then Val.int 7 else (.nil : Val F)) i = .nil) ∧
    (SStmt.rep 2 (.blk 1 (.ex (.asg .plus (.oth 0) (.incpst .plus (.loc 0 0))))) : SStmt F).WS [(0, 1)] := by
  exact ⟨fun i j h hh => h (Base.gbl.inj hh), fun i => (good_plain _ _ _).mpr rfl, fun i hi => if_neg (by omega),
    trivial, 1, 1, rfl, by omega⟩

/-- Entering a nested block with `k` locals and reading its `idx`-th local yields nil on the flat frame - for every
context, every enclosing state and every garbage in the slot. -/
theorem fresh_local_reads_nil (X : Ext F) (ρ : Nat → Ref) (hρ : NoAlias ρ) (hoff : OffFrame ρ) (ctx : PCtx)
    (hc : Chain ctx) (k idx : Nat) (hi : idx < k) (env : Env F) (st : SState F) (tr : List (Val F))
    (h : BRel ρ ctx env st) :
    ∃ env', run X (compile ρ (.blk k (.ex (.var (.loc 0 idx)))) ctx) (env, tr) = .ok (env', tr ++ [.nil]) ∧
      BRel ρ ctx env' st := by
  have hws : (SStmt.blk k (.ex (.var (.loc 0 idx))) : SStmt F).WS ctx := ⟨lclsSize ctx, k, rfl, hi⟩
  -- the scoped run of this program computes to `.ok (st, tr ++ [.nil])`
  exact block_locals_scoped X ρ hρ hoff _ ctx hc hws env st tr h

/-- the bounds of the reset loop matter: with `outer_nlcls = org_nlcls = 1`, bounds `[outer, org)` touch nothing (the
garbage 40 stays in slot 1), the bounds `[outer, outer + org)` of `run_block0` clear it -/
theorem reset_range_witness : ∃ env : Env F, env.lcl 1 = .sc (.int 40) ∧
    (resetLcls env 1 1).lcl 1 = .sc (.int 40) ∧ (resetLcls env 1 (1 + 1)).lcl 1 = .sc .nil :=
  ⟨{ named := fun _ => none, gbl := fun _ => .sc .nil, lcl := fun _ => .sc (.int 40), arg := fun _ => .sc .nil },
   rfl, rfl, rfl⟩

/-- the hypotheses of `block_locals_scoped` are satisfiable by a non-trivial state: two open blocks with one local each
(values 7 and "a"), the non-locals on globals, and garbage (40) in every frame slot above the open blocks -/
example (σ : Store F) :
    NoAlias (fun i => Ref.plain (.gbl i)) ∧ OffFrame (fun i => Ref.plain (.gbl i)) ∧ Chain [(1, 1), (0, 1)] ∧
    (SStmt.seq (.blk 2 (.ex (.asg .plus (.loc 0 1) (.var (.loc 1 0))))) (.rep 3 (.blk 1 (.ex (.incpst .plus (.loc 0 0)))))
      : SStmt F).WS [(1, 1), (0, 1)] ∧
    BRel (fun i => Ref.plain (.gbl i)) [(1, 1), (0, 1)]
      ({ named := fun _ => none, gbl := fun i => .sc (σ i),
         lcl := fun j => if j = 0 then .sc (.str "a") else if j = 1 then .sc (.int 7) else .sc (.int 40),
         arg := fun _ => .sc .nil } : Env F)
      (σ, [fun _ => .int 7, fun _ => .str "a"]) := by
  refine ⟨fun i j h hh => h (Base.gbl.inj hh), fun i n => nofun, ⟨rfl, rfl, trivial⟩, ?_, rfl, ?_⟩
  · exact ⟨⟨⟨2, 2, rfl, by omega⟩, 1, 1, rfl, by omega⟩, 2, 1, rfl, by omega⟩
  · intro r hr
    cases r with
    | oth i => exact (good_plain _ _ _).mpr rfl
    | loc up idx =>
      obtain ⟨o, k, hk, hi⟩ := hr
      match up, hk with
      | 0, hk | 1, hk =>
        simp at hk
        obtain ⟨rfl, rfl⟩ := hk
        have : idx = 0 := by omega
        subst this
        exact (good_plain _ _ _).mpr rfl
      | n + 2, hk => simp at hk

end Hawk.Expr
