import HawkModel.ArrLemmas
import HawkModel.HeapPosLemmas
/-!
# C19 — Sparse arrays stay consistent and every operation terminates

Model: `HawkModel/Arr.lean` (transcription of lib/arr.c).  Termination of every operation, for every index and every
allocator oracle, is carried by the fact that all model functions are total Lean definitions
(`dblLoop`, `retryCapa`, `siftUpLoop`, `siftDownLoop` are accepted with explicit decreasing
measures) together with `growth_reaches_index` below, which says the doubling loop's result is
large enough — the C loop it mirrors ends exactly when that inequality holds.
-/
namespace Hawk.Arr

def run (ops : List Op) : Arr := ops.foldl step empty

/-- the doubling loop (which Lean accepted as terminating for every `bound`) yields a capacity
    beyond the requested index: growth to any index completes -/
theorem growth_reaches_index (a : Arr) (pos : Nat) (h : a.size ≤ a.capa) :
    pos < wantCapa a pos ∧ a.size < wantCapa a pos :=
  lt_of_minCapa_le (minCapa_le_wantCapa a pos h)

/-- the retry loop ends: it either obtains a capacity between the minimum and the wish, or
    reports failure — for every oracle -/
theorem retry_bounds (a : Arr) (pos : Nat) (o : Oracle) (h : a.size ≤ a.capa) :
    match (retryCapa (wantCapa a pos) (minCapa a pos) o).1 with
    | some c => minCapa a pos ≤ c ∧ c ≤ wantCapa a pos ∧ c ≤ maxCapa
    | none => True := by
  cases hr : retryCapa (wantCapa a pos) (minCapa a pos) o with
  | mk r o' =>
    cases r with
    | none => trivial
    | some c =>
      have hb := retryCapa_some _ _ _ _ _ hr
      exact ⟨hb.1 (minCapa_le_wantCapa a pos h), hb.2⟩

/-- insert: on success the slot table is the list-level spec (gap padded with empties beyond the
    end, tail shifted inside), the return value is the position; on failure nothing observable
    changed and no style callback ran: the data stays with the caller -/
theorem insert_spec (a : Arr) (pos v : Nat) (o : Oracle) (h : WF a) :
    let r := insert a pos v o
    (r.ret = .ok pos ∧ abs r.arr = insSlots (abs a) pos v ∧
        r.arr.size = (if pos > a.size then pos + 1 else a.size + 1) ∧ r.arr.tally = a.tally + 1 ∧ r.evs = [] ∧
        r.arr.size ≤ r.arr.capa)
    ∨ (r.ret = .error .enomem ∧ r.arr = a ∧ r.evs = [])
    ∨ (r.ret = .error .einval ∧ r.arr = a ∧ r.evs = [] ∧ r.orc = o ∧ maxCapa ≤ pos) := by
  intro r
  rcases insert_cases a pos v o h.size_le_capa with ⟨c, o', he, hp, hs⟩ | ⟨o', he, _⟩ | ⟨he, hfar⟩
  · refine .inl ?_
    simp only [r, he, abs, true_and]
    split <;> omega
  · exact .inr (.inl (by simp only [r, he, and_self]))
  · exact .inr (.inr (by simp only [r, he, hfar, and_self]))

/-- with an allocator that never refuses, insert always succeeds -/
theorem insert_succeeds (a : Arr) (pos v : Nat) (h : WF a) (hfit : minCapa a pos ≤ maxCapa) :
    (insert a pos v []).ret = .ok pos := by
  rcases insert_cases a pos v [] h.size_le_capa with ⟨c, o', he, _⟩ | ⟨o', _, hno | hno⟩ | ⟨_, hfar⟩
  · rw [he]
  · cases hno
  · -- the retry loop cannot give up on an allocator that grants every request
    obtain ⟨c, hc⟩ := retryCapa_nil _ _ hfit (minCapa_le_wantCapa a pos h.size_le_capa)
    have hno : (retryCapa (wantCapa a pos) (minCapa a pos) []).1 = none := hno
    rw [hc] at hno
    cases hno
  · have := (lt_of_minCapa_le hfit).1; omega

theorem update_spec (a : Arr) (pos v : Nat) (o : Oracle) :
    let r := update a pos v o
    (pos < a.size ∧ r.ret = .ok pos ∧ abs r.arr = (abs a).set pos (some v) ∧ r.arr.size = a.size)
    ∨ (r.arr = a ∧ (r.ret = .error .einval ∧ a.size ≤ pos ∨ r.ret = .error .enomem)) := by
  intro r
  rcases update_cases a pos v o with ⟨_, _, hp, he⟩ | ⟨_, _, he, hc | hc⟩
  · exact .inl ⟨hp, by simp only [r, he], by simp only [r, he, abs], by simp only [r, he]⟩
  · exact .inr ⟨by simp only [r, he], .inl ⟨by simp only [r, he, hc.1], hc.2⟩⟩
  · exact .inr ⟨by simp only [r, he], .inr (by simp only [r, he, hc])⟩

theorem delete_spec (a : Arr) (index count : Nat) (h : WF a) :
    let r := delete a index count
    let n := min count (a.size - index)
    abs r.1 = (abs a).take index ++ (abs a).drop (index + n) ∧ r.2.1 = n ∧ r.1.size = a.size - n := by
  intro r n
  simp only [r, n, abs, delete_eq, and_self]

theorem uplete_spec (a : Arr) (index count : Nat) :
    let r := uplete a index count
    let n := if index ≥ a.size then 0 else min count (a.size - index)
    abs r.1 = (abs a).take index ++ List.replicate n none ++ (abs a).drop (index + n)
    ∧ r.2.1 = n ∧ r.1.size = a.size := by
  intro r n
  have e : n = min count (a.size - index) := by
    simp only [n]; split
    · next hi => rw [Nat.sub_eq_zero_of_le hi, Nat.min_zero]
    · rfl
  simp only [r, e, abs, uplete_eq, and_self]

/-! ## reads: the value last stored, no shifting except by insert/delete -/

/-- upsert never shifts: it stores v at pos and leaves every other index as it was -/
theorem upsert_read (a : Arr) (pos v : Nat) (o : Oracle) (h : WF a)
    (hok : (upsert a pos v o).ret = .ok pos) :
    read (upsert a pos v o).arr pos = some v ∧
    ∀ j, j ≠ pos → read (upsert a pos v o).arr j = read a j :=
  ⟨by rw [read_upsert a pos v o pos h hok, if_pos rfl],
    fun j hj => by rw [read_upsert a pos v o j h hok, if_neg hj]⟩

/-- update and uplete keep every other index in place -/
theorem update_frame (a : Arr) (pos v : Nat) (o : Oracle) (j : Nat) (hj : j ≠ pos) :
    read (update a pos v o).arr j = read a j := by
  rcases update_cases a pos v o with ⟨_, _, _, he⟩ | ⟨_, _, he, _⟩ <;> rw [he]
  exact List.getD_set_ne _ _ _ _ hj

theorem uplete_frame (a : Arr) (index count j : Nat) (h : WF a) (hj : j < index ∨ index + count ≤ j) :
    read (uplete a index count).1 j = read a j := by
  rw [read_uplete a index count j h, if_neg (by omega)]

theorem insert_wf (a : Arr) (pos v : Nat) (o : Oracle) (h : WF a) : WF (insert a pos v o).arr := by
  rcases insert_cases a pos v o h.size_le_capa with ⟨c, _, he, hp, hs⟩ | ⟨_, he, _⟩ | ⟨he, _⟩
  · rw [he]
    refine ⟨?_, ?_, ?_⟩
    · rw [length_insSlots, ← h.size_eq]
    · rw [occupied_insSlots, h.tally_eq]
    · split
      · exact hp
      · exact hs
  · rw [he]; exact h
  · rw [he]; exact h

theorem upsert_wf (a : Arr) (pos v : Nat) (o : Oracle) (h : WF a) : WF (upsert a pos v o).arr := by
  unfold upsert; split
  · exact update_wf a pos v o h
  · exact insert_wf a pos v o h

theorem step_wf (a : Arr) (op : Op) (h : WF a) : WF (step a op) := by
  cases op with
  | insert p v o => exact insert_wf a p v o h
  | upsert p v o => exact upsert_wf a p v o h
  | update p v o => exact update_wf a p v o h
  | delete i c => exact delete_wf a i c h
  | uplete i c => exact uplete_wf a i c h
  | clear => exact clear_wf a
  | setcapa c o => exact setcapa_wf a c o h

/-- size = number of cells in use (last used index + 1), tally = number of occupied cells,
    size ≤ capa — in every state reachable by any history and any allocator behaviour -/
theorem reachable_wf (ops : List Op) : WF (run ops) :=
  List.foldlRecOn ops step (motive := WF) ⟨rfl, rfl, Nat.le_refl _⟩ (fun a h op _ => step_wf a op h)

/-- after clear everything reads as empty and the size is 0 -/
theorem clear_spec (a : Arr) : abs (clear a).1 = [] ∧ (clear a).1.size = 0 ∧ (clear a).1.tally = 0 := by
  simp [clear, abs]

theorem step_fits (a : Arr) (op : Op) (hw : WF a) (h : Fits a) : Fits (step a op) :=
  step_keeps_fits a op h

/-- in every reachable state the capacity is one whose table size fits the word: no request for a wrapped-around
    (possibly zero) number of bytes is ever made -/
theorem reachable_fits (ops : List Op) : Fits (run ops) :=
  List.foldlRecOn ops step (motive := Fits) (by simp [Fits, empty]) (fun a h op _ => step_keeps_fits a op h)

/-- a position no table can hold is refused at once: nothing changes, the allocator is not asked -/
theorem insert_far_refused (a : Arr) (pos v : Nat) (o : Oracle) (h : maxCapa ≤ pos) :
    (insert a pos v o).ret = .error .einval ∧ (insert a pos v o).arr = a ∧ (insert a pos v o).orc = o := by
  simp [insert, h]

/-- the retry loop asks the allocator at most log2(wish - minimum) + 2 times — for every allocator behaviour -/
theorem retry_requests_logarithmic (a : Arr) (pos : Nat) (o : Oracle) :
    o.length ≤ (retryCapa (wantCapa a pos) (minCapa a pos) o).2.length +
      (Nat.log2 (wantCapa a pos - minCapa a pos) + 2) := by
  have := retryCapa_requests_le (wantCapa a pos) (minCapa a pos) o
  unfold reqBound at this
  split at this <;> omega

/-! ## heap operations keep the heap order (dense arrays, integer comparator) and the contents -/

inductive HOp where
  | push (v : Nat)
  | del (i : Nat)
  | upd (i v : Nat)

def hstep (l : List Nat) : HOp → List Nat
  | .push v => pushheap l v
  | .del i => (deleteheap l i).1
  | .upd i v => (updateheap l i v).1

theorem hstep_heap (l : List Nat) (op : HOp) (h : HeapOrd l) : HeapOrd (hstep l op) := by
  cases op with
  | push v => exact pushheap_heap l v h
  | del i => exact deleteheap_heap l i h
  | upd i v => exact updateheap_heap l i v h

/-- the heap order holds after every history of heap operations starting from the empty array -/
theorem reachable_heap (ops : List HOp) : HeapOrd (ops.foldl hstep []) :=
  List.foldlRecOn ops hstep (motive := HeapOrd) (by intro i _ hi; simp at hi) (fun l h op _ => hstep_heap l op h)

/-- heap operations neither lose nor duplicate elements -/
theorem heap_contents (l : List Nat) (v i : Nat) (hi : i < l.length) :
    (pushheap l v).Perm (v :: l) ∧ (l[i] :: (deleteheap l i).1).Perm l ∧
    (updateheap l i v).1.Perm (l.set i v) :=
  ⟨pushheap_perm l v, deleteheap_perm l i hi, updateheap_perm l i v⟩

theorem ex_heap : HeapOrd [9, 5, 7, 1] := by
  intro i h0 hl
  have : i = 1 ∨ i = 2 ∨ i = 3 := by simp at hl; omega
  rcases this with h | h | h <;> subst h <;> simp [hparent]
example : HeapOrd (hstep [9, 5, 7, 1] (.upd 3 8)) := hstep_heap _ _ ex_heap

/-! ## non-vacuity: a well-formed state with capacity 64 on which an insert at index 128 (twice the capacity: the
    doubling loop doubles more than once) meets the hypotheses of the theorems above and succeeds -/
def ex64 : Arr := { slots := [some 1], size := 1, tally := 1, capa := 64 }
example : WF ex64 := ⟨rfl, rfl, by decide⟩
example : (insert ex64 128 7 []).ret = .ok 128 := insert_succeeds ex64 128 7 ⟨rfl, rfl, by decide⟩ (by decide)
example : read (upsert ex64 128 7 []).arr 128 = some 7 :=
  (upsert_read ex64 128 7 [] ⟨rfl, rfl, by decide⟩
    (by unfold upsert; rw [if_neg (by decide)]; exact insert_succeeds ex64 128 7 ⟨rfl, rfl, by decide⟩ (by decide))).1

/-- the same histories on items `(key, pos)`; `arr->heap_pos_offset` is set -/
def pstep (l : List Item) : HOp → List Item
  | .push k => pushheapP l k
  | .del i => (deleteheapP l i).1
  | .upd i k => (updateheapP l i k).1

/-- refinement: forgetting the position fields, the heap with back-pointers is the heap without -/
theorem pstep_refines (l : List Item) (op : HOp) : keys (pstep l op) = hstep (keys l) op := by
  cases op with
  | push k => exact pushheapP_refines l k
  | del i => exact (deleteheapP_refines l i).1
  | upd i k => exact (updateheapP_refines l i k).1

/-- the destroyed item reported to the freeer is the same in both -/
theorem pstep_freed (l : List Item) (i k : Nat) :
    (deleteheapP l i).2 = (deleteheap (keys l) i).2 ∧ (updateheapP l i k).2 = (updateheap (keys l) i k).2 :=
  ⟨(deleteheapP_refines l i).2, (updateheapP_refines l i k).2⟩

theorem pstep_pos (l : List Item) (op : HOp) (h : PosOk l) : PosOk (pstep l op) := by
  cases op with
  | push k => exact pushheapP_posOk l k h
  | del i => exact deleteheapP_posOk l i h
  | upd i k => exact updateheapP_posOk l i k h

theorem pfold_keys (ops : List HOp) (l : List Item) : keys (ops.foldl pstep l) = ops.foldl hstep (keys l) :=
  (List.foldl_hom keys (fun l op => (pstep_refines l op).symm)).symm

theorem pfold_pos (ops : List HOp) (l : List Item) (h : PosOk l) : PosOk (ops.foldl pstep l) :=
  List.foldlRecOn ops pstep h (fun l h op _ => pstep_pos l op h)

/-- after every history: every item knows its slot, and the keys are in heap order -/
theorem reachable_pos_heap (ops : List HOp) :
    PosOk (ops.foldl pstep []) ∧ HeapOrd (keys (ops.foldl pstep [])) := by
  refine ⟨pfold_pos ops [] (by intro i hi; simp at hi), ?_⟩
  rw [pfold_keys]; exact reachable_heap ops

/-- non-vacuity: a three-item heap whose back-pointers are right; deleting the root really moves an item (the last
    one goes to slot 0 and its position field is rewritten from 2 to 0) and the theorem applies to it -/
theorem ex_pos : PosOk [(9, 0), (5, 1), (7, 2)] := by
  intro i hi
  have : i = 0 ∨ i = 1 ∨ i = 2 := by simp at hi; omega
  rcases this with h | h | h <;> subst h <;> rfl
example : pstep [(9, 0), (5, 1), (7, 2)] (.del 0) = [(7, 0), (5, 1)] := by
  simp [pstep, deleteheapP, stamp, siftDownP, cmp]
  rw [siftDownLoopP]; simp [pickChildP, cmp, stamp]
example : PosOk (pstep [(9, 0), (5, 1), (7, 2)] (.del 0)) := pstep_pos _ _ ex_pos

end Hawk.Arr
