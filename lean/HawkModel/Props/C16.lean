import HawkModel.RbtLemmasInv
import HawkModel.RbtLemmasItr
/-!
# C16 (red-black tree half) — maps behave as ordered dictionaries and stay balanced

Model: `HawkModel/Rbt.lean`, a shape-exact transcription of lib/rbt.c (`insert` + `adjust`,
`delete_pair` + `adjust_for_delete` as REPAIRED by patches/rbt-delete-fixup.diff, `get_next_pair`,
`hawk_rbt_walk/rwalk/clear`).  That the loops of walk, rwalk and clear end is carried by their
definitions (total functions, accepted with a decreasing measure), not by a theorem.
-/
namespace Hawk.Rbt
open Color T

variable {V : Type}

inductive Op (V : Type) where
  | insert (k : Nat) (v : V)
  | upsert (k : Nat) (v : V)
  | update (k : Nat) (v : V)
  | ensert (k : Nat) (v : V)
  /-- `hawk_rbt_cbsert` with a callback that decides as `f` (see `Hawk.Rbt.cbsert`) -/
  | cbsert (k : Nat) (f : Option V → Option V)
  | delete (k : Nat)
  | clear

def step (t : T V) : Op V → T V
  | .insert k v => (insert t k v).1
  | .upsert k v => (upsert t k v).1
  | .update k v => (update t k v).1
  | .ensert k v => (ensert t k v).1
  | .cbsert k f => (cbsert t k f).1
  | .delete k => (delete t k).1
  | .clear => clear t

/-- histories of mutating calls only: lookups and iteration do not change the tree -/
def run (ops : List (Op V)) : T V := ops.foldl step nil

def specStep (xs : List (Nat × V)) : Op V → List (Nat × V)
  | .insert k v => if (alookup k xs).isSome then xs else insList k v xs
  | .upsert k v => insList k v xs
  | .update k v => if (alookup k xs).isSome then insList k v xs else xs
  | .ensert k v => if (alookup k xs).isSome then xs else insList k v xs
  | .cbsert k f => match f (alookup k xs) with
    | some v' => insList k v' xs
    | none => xs
  | .delete k => delList k xs
  | .clear => []

def specRun (ops : List (Op V)) : List (Nat × V) := ops.foldl specStep []

/-- `Bal` is "every path from the root to a sentinel has the same number of black pairs" -/
theorem bal_iff_all_paths_equal (t : T V) :
    Bal t ↔ ∀ a ∈ blackPaths t, ∀ b ∈ blackPaths t, a = b :=
  ⟨fun h a ha b hb => by rw [bal_paths t h a ha, bal_paths t h b hb], paths_bal t⟩

/-- `Ordered` (strictly ascending in-order keys) is the recursive search-tree order -/
theorem ordered_iff_bst (t : T V) : Ordered t ↔ BST t := by
  induction t with
  | nil => simp [Ordered, BST]
  | node c l k v r ihl ihr =>
    constructor
    · intro h
      obtain ⟨hl, hr, hlk, hrk⟩ := ordered_node h
      exact ⟨ihl.1 hl, ihr.1 hr, hlk, hrk⟩
    · intro ⟨hl, hr, hlk, hrk⟩
      unfold Ordered; simp only [toList]
      refine List.pairwise_append.2 ⟨ihl.2 hl, List.pairwise_cons.2 ⟨hrk, ihr.2 hr⟩, ?_⟩
      intro x hx y hy
      simp only [List.mem_cons] at hy
      rcases hy with hy | hy
      · subst hy; exact hlk x hx
      · have := hlk x hx; have := hrk y hy; omega

/-- insert / upsert / update / ensert keep the red-black invariants -/
theorem insert_inv (opt : Opt) (t : T V) (k : Nat) (v : V) (h : Inv t) : Inv (insertOp opt t k v).1 := by
  unfold insertOp
  split
  · rename_i v0 hs
    split
    · exact h.setVal hs v
    · exact h.setVal hs v
    · exact h
    · exact h
  · split
    · exact h
    · exact h.ins k v

/-- `hawk_rbt_cbsert` keeps the red-black invariants whatever the callback decides
    (keep, change in place, re-allocate, create, fail) -/
theorem cbsert_inv (t : T V) (k : Nat) (f : Option V → Option V) (h : Inv t) : Inv (cbsert t k f).1 := by
  rw [cbsert_eq]
  split
  · exact h
  · exact insert_inv .upsert t k _ h

/-- delete keeps the red-black invariants (all cases of `delete_pair` / `adjust_for_delete`) -/
theorem delete_inv (t : T V) (k : Nat) (h : Inv t) : Inv (delete t k).1 := by
  unfold delete
  split
  · exact h
  · exact h.del k

/-- `hawk_rbt_clear` terminates (its loop is a total function) and leaves the empty tree -/
theorem clear_empty (t : T V) : clear t = nil := clear_eq t

theorem empty_inv : Inv (nil : T V) := by simp [Inv, Ordered]

theorem step_inv (t : T V) (op : Op V) (h : Inv t) : Inv (step t op) := by
  cases op with
  | insert k v => exact insert_inv .insert t k v h
  | upsert k v => exact insert_inv .upsert t k v h
  | update k v => exact insert_inv .update t k v h
  | ensert k v => exact insert_inv .ensert t k v h
  | cbsert k f => exact cbsert_inv t k f h
  | delete k => exact delete_inv t k h
  | clear => simp only [step, clear_empty]; exact empty_inv

/-- every tree reachable from the empty tree by any history satisfies the invariants -/
theorem reachable_inv (ops : List (Op V)) : Inv (run ops) :=
  List.foldlRecOn ops step (motive := Inv) empty_inv (fun t h op _ => step_inv t op h)

theorem height_bound (t : T V) (h : Inv t) : 2 ^ ((height t + 1) / 2) ≤ size t + 1 :=
  pow_half_height_le_size t h.2.1 h.2.2.1 h.2.2.2

theorem height_le_two_log2 (t : T V) (h : Inv t) : height t ≤ 2 * Nat.log2 (size t + 1) := by
  have : (height t + 1) / 2 ≤ Nat.log2 (size t + 1) := (Nat.le_log2 (by omega)).2 (height_bound t h)
  omega

/-- after any history the height never exceeds 2·log2(n+1) -/
theorem reachable_height_bound (ops : List (Op V)) :
    height (run ops) ≤ 2 * Nat.log2 (size (run ops) + 1) :=
  height_le_two_log2 _ (reachable_inv ops)

/-- lookup returns what the dictionary holds -/
theorem search_spec (t : T V) (k : Nat) (h : Inv t) : search t k = alookup k (toList t) :=
  search_eq_alookup k t h.1

/-- `hawk_rbt_insert`: EEXIST and no change on a present key, otherwise the new pair is returned
    and the dictionary gains it -/
theorem insert_spec (t : T V) (k : Nat) (v : V) (h : Inv t) :
    (∀ v0, alookup k (toList t) = some v0 → insert t k v = (t, .eexist)) ∧
    (alookup k (toList t) = none →
      toList (insert t k v).1 = insList k v (toList t) ∧ (insert t k v).2 = .pair k v) := by
  rw [← search_spec t k h]
  unfold insert insertOp
  refine ⟨fun v0 hs => by simp [hs], fun hs => ?_⟩
  simp [hs, toList_ins k v t h.1]

/-- `hawk_rbt_upsert`: the pair is returned and the dictionary maps `k` to `v` afterwards -/
theorem upsert_spec (t : T V) (k : Nat) (v : V) (h : Inv t) :
    toList (upsert t k v).1 = insList k v (toList t) ∧ (upsert t k v).2 = .pair k v := by
  unfold upsert insertOp
  split
  · rename_i v0 hs
    simp [toList_setVal k v t h.1 hs]
  · simp [toList_ins k v t h.1]

/-- `hawk_rbt_update`: ENOENT and no change on an absent key, otherwise the value is replaced -/
theorem update_spec (t : T V) (k : Nat) (v : V) (h : Inv t) :
    (alookup k (toList t) = none → update t k v = (t, .enoent)) ∧
    (∀ v0, alookup k (toList t) = some v0 →
      toList (update t k v).1 = insList k v (toList t) ∧ (update t k v).2 = .pair k v) := by
  rw [← search_spec t k h]
  unfold update insertOp
  refine ⟨fun hs => by simp [hs], fun v0 hs => ?_⟩
  simp [hs, toList_setVal k v t h.1 hs]

/-- `hawk_rbt_ensert`: the existing pair (with its old value) is returned unchanged for a present
    key, otherwise the new pair is inserted and returned -/
theorem ensert_spec (t : T V) (k : Nat) (v : V) (h : Inv t) :
    (∀ v0, alookup k (toList t) = some v0 → ensert t k v = (t, .pair k v0)) ∧
    (alookup k (toList t) = none →
      toList (ensert t k v).1 = insList k v (toList t) ∧ (ensert t k v).2 = .pair k v) := by
  rw [← search_spec t k h]
  unfold ensert insertOp
  refine ⟨fun v0 hs => by simp [hs], fun hs => ?_⟩
  simp [hs, toList_ins k v t h.1]

/-- `hawk_rbt_cbsert`: the callback sees the dictionary's current value for the key (or none);
    if it fails nothing changes and NULL is returned, otherwise the pair it answers is returned
    and the dictionary maps the key to the answered value -/
theorem cbsert_spec (t : T V) (k : Nat) (f : Option V → Option V) (h : Inv t) :
    (f (alookup k (toList t)) = none → cbsert t k f = (t, .failed)) ∧
    (∀ v', f (alookup k (toList t)) = some v' →
      toList (cbsert t k f).1 = insList k v' (toList t) ∧ (cbsert t k f).2 = .pair k v') := by
  rw [cbsert_eq, ← search_spec t k h]
  constructor
  · intro hf; rw [hf]
  · intro v' hf; rw [hf]; exact upsert_spec t k v' h

/-- `hawk_rbt_delete`: -1/ENOENT and no change on an absent key, otherwise 0 and the pair is gone -/
theorem delete_spec (t : T V) (k : Nat) (h : Inv t) :
    (alookup k (toList t) = none → delete t k = (t, false)) ∧
    (∀ v0, alookup k (toList t) = some v0 →
      toList (delete t k).1 = delList k (toList t) ∧ (delete t k).2 = true) := by
  rw [← search_spec t k h]
  unfold delete
  refine ⟨fun hs => by simp [hs], fun v0 hs => ?_⟩
  simp [hs, toList_del k t h.1]

/-- the laws of a finite map, read through `search`: after upsert -/
theorem search_upsert (t : T V) (k k' : Nat) (v : V) (h : Inv t) :
    search (upsert t k v).1 k' = if k' = k then some v else search t k' := by
  have hi : Inv (upsert t k v).1 := insert_inv .upsert t k v h
  rw [search_spec _ _ hi, (upsert_spec t k v h).1, alookup_insList, search_spec t k' h]

/-- after delete, successful or not, the key is absent and every other key is untouched -/
theorem search_delete (t : T V) (k k' : Nat) (h : Inv t) :
    search (delete t k).1 k' = if k' = k then none else search t k' := by
  rw [search_spec _ _ (delete_inv t k h), search_spec t k' h, (toList_delete k t h.1).1, alookup_delList _ _ _ h.1]

/-- `hawk_rbt_walk` visits exactly the in-order list -/
theorem walk_forward (t : T V) : walk t = toList t := walkItr_getFirst t false

/-- `hawk_rbt_rwalk` visits exactly the reversed in-order list -/
theorem walk_backward (t : T V) : rwalk t = (toList t).reverse := walkItr_getFirst t true

/-- forward iteration yields strictly ascending keys, backward iteration strictly descending -/
theorem walk_sorted (t : T V) (h : Inv t) :
    (walk t).Pairwise (fun a b => a.1 < b.1) ∧ (rwalk t).Pairwise (fun a b => a.1 > b.1) := by
  rw [walk_forward, walk_backward]
  exact ⟨h.1, List.pairwise_reverse.2 h.1⟩

/-- every key of the dictionary is visited exactly once: the walk is a duplicate-free list whose
    members are exactly the stored pairs -/
theorem walk_exactly_once (t : T V) (h : Inv t) (k : Nat) (v : V) :
    ((k, v) ∈ walk t ↔ search t k = some v) ∧ ((walk t).map (·.1)).Nodup := by
  rw [walk_forward, search_spec t k h]
  exact ⟨mem_iff_alookup h.1 k v, nodup_keys h.1⟩

/-- the stateful iterator (`hawk_rbt_getfirstpair`, then `i` calls of `hawk_rbt_getnextpair`)
    returns the `i`-th pair of the walk in the chosen direction and NULL from the end on -/
theorem iterator_enumerates (t : T V) (dir : Bool) (i : Nat) :
    (nextN i (getFirst t dir)).cur = (if dir then (toList t).reverse else toList t)[i]? := by
  rw [nextN_cur _ (getFirst_ok t dir), getFirst_dir, getFirst_posAll]
  rfl

inductive Call (V : Type) where
  | op (o : Op V)
  | search (k : Nat)
  | walk
  | rwalk

inductive Ret (V : Type) where
  | res (r : Res V)            -- insert / upsert / update / ensert: the pair or the error number
  | deleted (ok : Bool)        -- delete: 0 or -1
  | cleared
  | found (v : Option V)       -- search: the value or NULL/ENOENT
  | walked (l : List (Nat × V))  -- the pairs handed to the walker, in order

def callTree (t : T V) : Call V → T V × Ret V
  | .op (.insert k v) => ((insert t k v).1, .res (insert t k v).2)
  | .op (.upsert k v) => ((upsert t k v).1, .res (upsert t k v).2)
  | .op (.update k v) => ((update t k v).1, .res (update t k v).2)
  | .op (.ensert k v) => ((ensert t k v).1, .res (ensert t k v).2)
  | .op (.cbsert k f) => ((cbsert t k f).1, .res (cbsert t k f).2)
  | .op (.delete k) => ((delete t k).1, .deleted (delete t k).2)
  | .op .clear => (clear t, .cleared)
  | .search k => (t, .found (search t k))
  | .walk => (t, .walked (walk t))
  | .rwalk => (t, .walked (rwalk t))

def callSpec (xs : List (Nat × V)) : Call V → List (Nat × V) × Ret V
  | .op (.insert k v) => match alookup k xs with
    | some _ => (xs, .res .eexist)
    | none => (insList k v xs, .res (.pair k v))
  | .op (.upsert k v) => (insList k v xs, .res (.pair k v))
  | .op (.update k v) => match alookup k xs with
    | some _ => (insList k v xs, .res (.pair k v))
    | none => (xs, .res .enoent)
  | .op (.ensert k v) => match alookup k xs with
    | some v0 => (xs, .res (.pair k v0))
    | none => (insList k v xs, .res (.pair k v))
  | .op (.cbsert k f) => match f (alookup k xs) with
    | some v' => (insList k v' xs, .res (.pair k v'))
    | none => (xs, .res .failed)
  | .op (.delete k) => (delList k xs, .deleted (alookup k xs).isSome)
  | .op .clear => ([], .cleared)
  | .search k => (xs, .found (alookup k xs))
  | .walk => (xs, .walked xs)
  | .rwalk => (xs, .walked xs.reverse)

def observe {σ : Type} (call : σ → Call V → σ × Ret V) : σ → List (Call V) → List (Ret V)
  | _, [] => []
  | s, c :: cs => (call s c).2 :: observe call (call s c).1 cs

theorem call_refines (t : T V) (c : Call V) (h : Inv t) :
    Inv (callTree t c).1 ∧ toList (callTree t c).1 = (callSpec (toList t) c).1 ∧
    (callTree t c).2 = (callSpec (toList t) c).2 := by
  cases c with
  | op op =>
    cases op with
    | insert k v =>
      refine ⟨insert_inv .insert t k v h, ?_⟩
      simp only [callTree, callSpec]
      cases hs : alookup k (toList t) with
      | none => simp [(insert_spec t k v h).2 hs]
      | some v0 => simp [(insert_spec t k v h).1 v0 hs]
    | upsert k v =>
      refine ⟨insert_inv .upsert t k v h, ?_⟩
      simp [callTree, callSpec, upsert_spec t k v h]
    | update k v =>
      refine ⟨insert_inv .update t k v h, ?_⟩
      simp only [callTree, callSpec]
      cases hs : alookup k (toList t) with
      | none => simp [(update_spec t k v h).1 hs]
      | some v0 => simp [(update_spec t k v h).2 v0 hs]
    | ensert k v =>
      refine ⟨insert_inv .ensert t k v h, ?_⟩
      simp only [callTree, callSpec]
      cases hs : alookup k (toList t) with
      | none => simp [(ensert_spec t k v h).2 hs]
      | some v0 => simp [(ensert_spec t k v h).1 v0 hs]
    | cbsert k f =>
      refine ⟨cbsert_inv t k f h, ?_⟩
      simp only [callTree, callSpec]
      cases hf : f (alookup k (toList t)) with
      | none => simp [(cbsert_spec t k f h).1 hf]
      | some v' => simp [(cbsert_spec t k f h).2 v' hf]
    | delete k =>
      refine ⟨delete_inv t k h, ?_⟩
      simp [callTree, callSpec, toList_delete k t h.1]
    | clear => simp [callTree, callSpec, clear_empty, empty_inv]
  | search k => simp [callTree, callSpec, h, search_spec t k h]
  | walk => simp [callTree, callSpec, h, walk_forward]
  | rwalk => simp [callTree, callSpec, h, walk_backward]

/-- the tree after any history holds exactly the pairs of the ideal dictionary after the same
    history, in key order -/
theorem reachable_refines (ops : List (Op V)) : toList (run ops) = specRun ops := by
  refine (List.foldl_rel (r := fun t xs => Inv t ∧ toList t = xs) ⟨empty_inv, rfl⟩ ?_).2
  rintro op - t _ ⟨h, rfl⟩
  refine ⟨step_inv t op h, ?_⟩
  -- the state half of `call_refines`; the two specifications differ only in how they test for the key
  have hstep : step t op = (callTree t (.op op)).1 := by cases op <;> rfl
  rw [hstep, (call_refines t (.op op) h).2.1]
  cases op with
  | insert k v | update k v | ensert k v =>
    dsimp only [callSpec, specStep]
    cases alookup k (toList t) <;> rfl
  | cbsert k f =>
    dsimp only [callSpec, specStep]
    cases f (alookup k (toList t)) <;> rfl
  | upsert k v | delete k | clear => rfl

/-- lookups after any history agree with the ideal dictionary -/
theorem reachable_search (ops : List (Op V)) (k : Nat) : search (run ops) k = alookup k (specRun ops) := by
  rw [search_spec _ _ (reachable_inv ops), reachable_refines]

/-- **the dictionary half of C16 for the red-black map**: under any sequence of insert, upsert,
    update, ensert, delete, clear, lookup and (forward / backward) iteration calls, starting
    from the empty map, every call returns exactly what the ideal dictionary returns -/
theorem history_refines (cs : List (Call V)) :
    observe callTree (nil : T V) cs = observe callSpec ([] : List (Nat × V)) cs := by
  suffices ∀ t : T V, Inv t → observe callTree t cs = observe callSpec (toList t) cs from
    this nil empty_inv
  induction cs with
  | nil => intro t _; rfl
  | cons c cs ih =>
    intro t h
    obtain ⟨h1, h2, h3⟩ := call_refines t c h
    simp only [observe]
    rw [ih _ h1, h2, h3]

/-! ## non-vacuity: the invariant holds of, and the theorems speak about, non-trivial trees -/

/-- the witness history of the defect repaired by patches/rbt-delete-fixup.diff (insert 0,1,2,3; delete 0):
    the fix-up runs with the sentinel as `x` and produces a balanced tree -/
example : run [Op.insert 0 10, .insert 1 11, .insert 2 12, .insert 3 13, .delete 0]
    = node B (node B nil 1 11 nil) 2 12 (node B nil 3 13 nil) := by rfl

example : Inv (run [Op.insert 0 10, .insert 1 11, .insert 2 12, .insert 3 13, .delete 0]) :=
  reachable_inv _

/-- a history that needs a double rotation on insert and the red-sibling case (rotation at the
    root, then re-colouring) on delete -/
example : run [Op.insert 5 0, .insert 3 0, .insert 4 0, .insert 6 0, .insert 7 0, .insert 8 0, .delete 3]
    = node B (node B nil 4 0 (node R nil 5 0 nil)) 6 0 (node B nil 7 0 (node R nil 8 0 nil)) := by rfl

/-- `cbsert` with an accumulating callback (existing value + 5, else 7): create, then change -/
example : run [Op.insert 1 10, .insert 0 11, .cbsert 2 (fun o => some (o.getD 2 + 5)),
      .cbsert 1 (fun o => some (o.getD 2 + 5)), .cbsert 0 (fun _ => none)]
    = node B (node R nil 0 11 nil) 1 15 (node R nil 2 7 nil) := by rfl

example : specRun [Op.insert 1 10, .insert 0 11, .cbsert 2 (fun o => some (o.getD 2 + 5)),
      .cbsert 1 (fun o => some (o.getD 2 + 5)), .cbsert 0 (fun _ => none)]
    = [(0, 11), (1, 15), (2, 7)] := by rfl

end Hawk.Rbt
