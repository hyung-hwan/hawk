import HawkModel.RexParseLemmas
import HawkModel.RexBracketLemmas
import HawkModel.RexTotalLemmas
/-!
# C06 — regular expressions match leftmost-longest

What is proved here is about the **specification matcher** `Hawk.Rex.matchLL` (an executable POSIX
leftmost-longest matcher over the ERE syntax tree `Re`) with respect to the denotational semantics
`Hawk.Rex.Matches`, and about the trees of TRE's FRONT END: `tre-parse.c` is transcribed in
`RexParse.lean` (`Tre.parse`), tied tree-by-tree to the real `tre_parse()`; see the section "the front end of TRE".
TRE's back end (TNFA construction, backtracking and parallel matcher) is *not*
modelled: `vlib/props/c06.py` ties the real engines to `matchLL` by exhaustive bounded enumeration
(every ERE tree up to a size bound × every subject up to a length bound × IGNORECASE × NOTBOL), so
the claim for the implementation is bounded, the claims below are for all patterns and subjects.

`Matches f s r i j` reads: in the whole subject `s`, pattern `r` matches the slice `[i, j)`;
`^` holds only at position 0 and only without NOTBOL, `$` only at `s.length`.
-/
namespace Hawk.Rex

/-! ## the executable matcher computes exactly the denotation -/

theorem ends_sound_complete (f : Flags) (s : List Char) (r : Re) (i e : Nat) :
    e ∈ ends f s r i ↔ Matches f s r i e :=
  mem_ends

theorem match_inside_subject (f : Flags) (s : List Char) (r : Re) (i e : Nat) (h : Matches f s r i e) :
    i ≤ e ∧ e ≤ s.length :=
  Matches.bounds h

/-- **leftmost-longest.** `matchLL` answers `(st, len)` exactly when `[st, st+len)` is a match, no match
starts at an earlier position, and no match starting at `st` is longer. -/
theorem matchLL_sound_complete (f : Flags) (r : Re) (s : List Char) (st len : Nat) :
    matchLL f r s = some (st, len) ↔
      Matches f s r st (st + len) ∧
      (∀ p e, p < st → ¬ Matches f s r p e) ∧
      (∀ e, Matches f s r st e → e ≤ st + len) :=
  matchLL_some

theorem matchLL_none_iff (f : Flags) (r : Re) (s : List Char) :
    matchLL f r s = none ↔ ∀ i e, ¬ Matches f s r i e :=
  matchLL_none

theorem matchLL_isSome_iff (f : Flags) (r : Re) (s : List Char) :
    (matchLL f r s).isSome = true ↔ ∃ i e, Matches f s r i e := by
  rw [Option.isSome_iff_ne_none, Ne, matchLL_none]
  simp only [Classical.not_forall, Classical.not_not]

/-- the leftmost-longest match is unique, so `matchLL` is *the* POSIX answer -/
theorem leftmost_longest_unique (f : Flags) (s : List Char) (r : Re) (a b a' b' : Nat)
    (h : IsLL f s r a b) (h' : IsLL f s r a' b') : a = a' ∧ b = b' :=
  IsLL.unique h h'

theorem matchLL_inside (f : Flags) (r : Re) (s : List Char) (st len : Nat)
    (h : matchLL f r s = some (st, len)) : st + len ≤ s.length :=
  (Matches.bounds (matchLL_some.1 h).1).2

/-! ## the denotation is the standard one (algebraic sanity of `Matches`) -/

theorem star_unfold (f : Flags) (s : List Char) (a : Re) (i j : Nat) :
    Matches f s (.star a) i j ↔ (i = j ∧ i ≤ s.length) ∨ ∃ k, Matches f s a i k ∧ Matches f s (.star a) k j := by
  simpa only [Matches, Option.map_none, Iter.iff_iterN, Nat.zero_le, reduceCtorEq, false_imp_iff, implies_true, true_and]
    using rep_zero_unfold (f := f) (s := s) (a := a) (n := none) (i := i) (j := j)

theorem plus_eq_cat_star (f : Flags) (s : List Char) (a : Re) (i j : Nat) :
    Matches f s (.plus a) i j ↔ Matches f s (.cat a (.star a)) i j := by
  simp only [Matches]
  constructor
  · rintro ⟨k, h1, h2⟩; exact ⟨k, h1, (Matches.bounds h1).2, h2⟩
  · rintro ⟨k, h1, _, h2⟩; exact ⟨k, h1, h2⟩

theorem opt_eq_alt_emp (f : Flags) (s : List Char) (a : Re) (i j : Nat) :
    Matches f s (.opt a) i j ↔ Matches f s (.alt .emp a) i j := by
  simp only [Matches]

theorem grp_transparent (f : Flags) (s : List Char) (a : Re) (i j : Nat) :
    Matches f s (.grp a) i j ↔ Matches f s a i j := by
  simp only [Matches]

theorem rep_zero_inf_eq_star (f : Flags) (s : List Char) (a : Re) (i j : Nat) :
    Matches f s (.rep a 0 none) i j ↔ Matches f s (.star a) i j := by
  simp only [Matches, Iter.iff_iterN, Nat.zero_le, reduceCtorEq, false_imp_iff, implies_true, true_and]

theorem rep_zero_zero (f : Flags) (s : List Char) (a : Re) (i j : Nat) :
    Matches f s (.rep a 0 (some 0)) i j ↔ Matches f s .emp i j := by
  simp only [Matches, Option.some.injEq, forall_eq', Nat.le_zero_eq, Nat.zero_le, true_and, exists_eq_left, IterN,
    and_comm]

theorem rep_succ (f : Flags) (s : List Char) (a : Re) (m n : Nat) (i j : Nat) :
    Matches f s (.rep a (m + 1) (some (n + 1))) i j ↔ Matches f s (.cat a (.rep a m (some n))) i j :=
  (cat_rep (n := some n)).symm

theorem rep_succ_inf (f : Flags) (s : List Char) (a : Re) (m : Nat) (i j : Nat) :
    Matches f s (.rep a (m + 1) none) i j ↔ Matches f s (.cat a (.rep a m none)) i j :=
  (cat_rep (n := none)).symm

theorem rep_zero_succ (f : Flags) (s : List Char) (a : Re) (n : Nat) (i j : Nat) :
    Matches f s (.rep a 0 (some (n + 1))) i j ↔
      Matches f s .emp i j ∨ Matches f s (.cat a (.rep a 0 (some n))) i j :=
  rep_zero_unfold (n := some n)

/-! ## IGNORECASE differs only by case folding -/

/-- matching with IGNORECASE is matching the case-folded pattern against the case-folded subject
(all patterns without word assertions whose bracket expressions list single characters; ranges and named classes:
`icase_range_rule`, `icase_named_rule`) -/
theorem icase_eq_fold (nb ne : Bool) (s : List Char) (r : Re) (h : noRange r = true) (i j : Nat) :
    Matches ⟨true, nb, ne⟩ s r i j ↔ Matches ⟨false, nb, ne⟩ (s.map fold) (foldRe r) i j :=
  matches_icase_fold h

theorem icase_eq_fold_matchLL (nb ne : Bool) (s : List Char) (r : Re) (h : noRange r = true) :
    matchLL ⟨true, nb, ne⟩ r s = matchLL ⟨false, nb, ne⟩ (foldRe r) (s.map fold) :=
  matchLL_congr fun _ _ => matches_icase_fold h

theorem icase_chr_rule (c d : Char) : chrEq true c d = (fold c == fold d) := rfl

theorem icase_range_rule (lo hi d : Char) :
    itemHas true (.range lo hi) d = (inRange lo hi d || inRange lo hi (fold d) || inRange lo hi (upper d)) := by
  simp [itemHas, Bool.or_assoc]

theorem icase_named_rule (k : CClass) (d : Char) :
    itemHas true (.named k) d = (k.has d || k.has (fold d) || k.has (upper d)) := by
  simp [itemHas, Bool.or_assoc]

theorem case_sensitive_chr (c d : Char) : chrEq false c d = (c == d) := rfl

/-! ## anchors are position tests; NOTBOL is matching on a suffix of the subject -/

theorem bol_iff (f : Flags) (s : List Char) (i j : Nat) :
    Matches f s .bol i j ↔ i = 0 ∧ j = 0 ∧ f.notbol = false := by
  simp only [Matches]
  constructor
  · rintro ⟨rfl, rfl, h⟩; exact ⟨rfl, rfl, h⟩
  · rintro ⟨rfl, rfl, h⟩; exact ⟨rfl, rfl, h⟩

theorem eol_iff (f : Flags) (s : List Char) (i j : Nat) :
    Matches f s .eol i j ↔ i = s.length ∧ j = s.length ∧ f.noteol = false := by
  simp only [Matches]
  constructor
  · rintro ⟨rfl, rfl, h⟩; exact ⟨rfl, rfl, h⟩
  · rintro ⟨rfl, rfl, h⟩; exact ⟨rfl, rfl, h⟩

/-- with NOTEOL `$` matches nowhere (library API flag; no hawk caller passes it) -/
theorem noteol_eol_never (ic nb : Bool) (s : List Char) (i j : Nat) : ¬ Matches ⟨ic, nb, true⟩ s .eol i j := by
  simp [Matches]

theorem noteol_irrelevant_without_eol (ic nb : Bool) (r : Re) (s : List Char) (h : noEol r = true) :
    matchLL ⟨ic, nb, true⟩ r s = matchLL ⟨ic, nb, false⟩ r s :=
  matchLL_congr fun _ _ => matches_flags (fun hb => absurd rfl hb) (fun _ => h)

/-- word assertions (TRE/GNU extension, outside POSIX; semantics transcribed from `CHECK_ASSERTIONS`): they consume
nothing and test the characters around the position *in the subject the matcher is given* -/
theorem wordb_iff (f : Flags) (s : List Char) (k : WordB) (i j : Nat) :
    Matches f s (.wordb k) i j ↔ i = j ∧ i ≤ s.length ∧ wordbHolds s i k = true := by
  simp only [Matches]

theorem bow_rule (s : List Char) (i : Nat) : wordbHolds s i .bow = (!prevW s i && nextW s i) := rfl
theorem eow_rule (s : List Char) (i : Nat) : wordbHolds s i .eow = (prevW s i && !nextW s i) := rfl

theorem notbol_bol_never (ic ne : Bool) (s : List Char) (i j : Nat) : ¬ Matches ⟨ic, true, ne⟩ s .bol i j := by
  simp [Matches]

/-- **NOTBOL semantics.** Matching a proper suffix `s.drop o` (`o > 0`) with NOTBOL is matching inside the
whole subject `s` at positions shifted by `o`: `^` cannot match, `$` still means the end of `s`.
Holds for every pattern without word assertions; with `\<`/`\b` it does NOT hold (the matcher does not see the
character before the suffix: `notbol_suffix_fails_with_word_assertion`). -/
theorem notbol_suffix (ic ne : Bool) (s : List Char) (o : Nat) (ho : 0 < o) (hol : o ≤ s.length) (r : Re)
    (hw : noWordB r = true) (i j : Nat) :
    Matches ⟨ic, true, ne⟩ (s.drop o) r i j ↔ Matches ⟨ic, false, ne⟩ s r (o + i) (o + j) :=
  matches_drop ho hol hw

/-- the restriction is necessary: on the suffix `b` of `ab`, `\<b` matches (position 0 has no previous character),
inside `ab` it does not -/
theorem notbol_suffix_fails_with_word_assertion :
    Matches ⟨false, true, false⟩ (['a', 'b'].drop 1) (.cat (.wordb .bow) (.chr 'b')) 0 1 ∧
    ¬ Matches ⟨false, false, false⟩ ['a', 'b'] (.cat (.wordb .bow) (.chr 'b')) 1 2 := by
  constructor
  · exact (ends_sound_complete _ _ _ _ _).1 (by decide)
  · intro h
    have := (ends_sound_complete _ _ _ _ _).2 h
    revert this
    decide

/-- the search on a suffix with NOTBOL (how `gsub`, `split` and `match` continue after a previous match)
returns the leftmost-longest match of the whole subject among the starts `≥ o` -/
theorem notbol_suffix_matchLL (ic ne : Bool) (s : List Char) (o : Nat) (ho : 0 < o) (hol : o ≤ s.length) (r : Re)
    (hw : noWordB r = true) (st len : Nat) :
    matchLL ⟨ic, true, ne⟩ r (s.drop o) = some (st, len) ↔
      Matches ⟨ic, false, ne⟩ s r (o + st) (o + st + len) ∧
      (∀ p e, o ≤ p → p < o + st → ¬ Matches ⟨ic, false, ne⟩ s r p e) ∧
      (∀ e, Matches ⟨ic, false, ne⟩ s r (o + st) e → e ≤ o + st + len) :=
  matchLL_shift fun _ _ => matches_drop ho hol hw

theorem notbol_irrelevant_without_bol (ic ne : Bool) (r : Re) (s : List Char) (h : noBol r = true) :
    matchLL ⟨ic, true, ne⟩ r s = matchLL ⟨ic, false, ne⟩ r s :=
  matchLL_congr fun _ _ => matches_flags (fun _ => h) (fun he => absurd rfl he)

/-! ## the front end of TRE: `tre_parse`

`Tre.parse cf pat` is a total function (structural recursion); what it answers for a pattern — the tree, or the
`reg_errcode_t` class — is compared with the real `tre_parse()` on every generated pattern by `vlib/props/c06.py`
(P requests).  The theorems below are about the trees: what they mean, that the submatch bookkeeping does not change
the meaning, and that the verified matcher run on the parsed tree returns the leftmost-longest match.  What remains
outside is TRE's automaton construction and its two simulations. -/

open Tre in
theorem ast_match_inside_subject (ic nb ne : Bool) (s : List Char) (a : Ast) (i j : Nat)
    (h : AMatches ic nb ne s a i j) : i ≤ j ∧ j ≤ s.length :=
  AMatches.bounds a h

open Tre in
/-- **the tree denotes the language of its ERE.**  `toRe` turns a `tre_parse` tree into an ERE syntax tree of the
specification (literal leaf → bracket expression over its code range / class, iteration → interval, union → `|`),
and the tree's own meaning `AMatches` (code ranges, classes, assertion bits, `min..max` copies) is the POSIX
denotation `Matches` of that ERE, matched case-sensitively (REG_ICASE is compiled into the tree).
PARTIAL: trees inside `Ast.plain` — no back reference (not regular); a leaf with a negated-class list
(`[^[:alpha:]x]`) must have its code range below the surrogate gap U+D800 (every ASCII/BMP-low pattern); class leaves
cover the full code range (as `tre_parse_bracket_items` makes them).  Negated-class lists and class leaves under
REG_ICASE are inside (`class_under_icase`, `complRanges_has`). -/
theorem ast_denotation_partial (ic nb ne : Bool) (s : List Char) (a : Ast) (h : a.plain ic = true) :
    ∃ r, toRe ic a = some r ∧ ∀ i j, AMatches ic nb ne s a i j ↔ Matches ⟨false, nb, ne⟩ s r i j :=
  toRe_denotation a h

open Tre in
/-- **REG_ICASE is compiled into the tree as case folding**: for every ASCII pattern character `c` the node `tre_parse`
makes for it (`upper | lower` with one position under REG_ICASE, the plain literal otherwise) matches in any subject
exactly where the specification's literal `c` matches under the same IGNORECASE flag (`fold c == fold d`) — so
"case-insensitive matching differs only by case folding" holds at the leaves of the real parser's trees -/
theorem icase_literal_is_case_folding (icf nb ne : Bool) (s : List Char) (c : Char) (hc : c.toNat < 128) (pos i j : Nat) :
    AMatches icf nb ne s (literalNode ⟨icf, false, false⟩ c.toNat pos) i j ↔ Matches ⟨icf, nb, ne⟩ s (.chr c) i j :=
  literalNode_matches ⟨icf, false, false⟩ nb ne s c pos i j

open Tre in
/-- **a named class under REG_ICASE** — TRE tests `c`, `tolower c` and `toupper c` (`tre-match-ut.h`) — is, for every
class and every character, the class `icClose k` tested case-sensitively (`upper`/`lower` become `alpha`, the other
ten classes are closed under case): IGNORECASE on classes "differs only by case folding" -/
theorem class_under_icase (k : CClass) (d : Char) : classHas true k d = (icClose k).has d :=
  classHas_icClose k d

open Tre in
/-- a leaf of a negated bracket with a negated-class list (`[^[:alpha:]x]`): its bracket expression in the
specification accepts exactly the characters in the leaf's code range that are in none of the listed classes -/
theorem negated_class_leaf (ic : Bool) (l : Lit) (hn : l.neg.isEmpty = false) (hc : l.cls = none) (hl : l.lowCodes = true) (d : Char) :
    ∃ ng items, litRe ic l = .cls ng items ∧ clsHas false ng items d = l.has ic d := by
  obtain ⟨ng, items, h1, h2⟩ := litRe_cls (ic := ic) (l := l) (by simp [hn, hc, hl])
  exact ⟨ng, items, h1, h2 d⟩

open Tre in
/-- **the verified matcher on the parsed tree returns the leftmost-longest match** of the tree's language
(same restriction as `ast_denotation_partial`) -/
theorem ast_matcher_leftmost_longest_partial (ic nb ne : Bool) (s : List Char) (a : Ast) (h : a.plain ic = true)
    (st len : Nat) :
    amatchLL ic nb ne a s = some (st, len) ↔
      AMatches ic nb ne s a st (st + len) ∧
      (∀ p e, p < st → ¬ AMatches ic nb ne s a p e) ∧
      (∀ e, AMatches ic nb ne s a st e → e ≤ st + len) := by
  obtain ⟨r, hr, hm⟩ := toRe_denotation (ic := ic) (nb := nb) (ne := ne) (s := s) a h
  simp only [amatchLL, hr, matchLL_some, IsLL, hm]

open Tre in
theorem ast_matcher_none_partial (ic nb ne : Bool) (s : List Char) (a : Ast) (h : a.plain ic = true) :
    amatchLL ic nb ne a s = none ↔ ∀ i e, ¬ AMatches ic nb ne s a i e := by
  obtain ⟨r, hr, hm⟩ := toRe_denotation (ic := ic) (nb := nb) (ne := ne) (s := s) a h
  simp only [amatchLL, hr, matchLL_none, hm]

open Tre in
/-- pattern text → `tre_parse` tree → matcher: when the text parses to a tree inside `Ast.plain`, the answer is the
leftmost-longest match of that tree's language -/
theorem matchText_leftmost_longest_partial (cf : CF) (nb ne : Bool) (pat s : List Char) (p : Parsed)
    (hp : parse cf pat = .ok p) (h : p.ast.plain cf.icase = true) (st len : Nat) :
    matchText cf nb ne pat s = .ok (some (st, len)) ↔
      AMatches cf.icase nb ne s p.ast st (st + len) ∧
      (∀ q e, q < st → ¬ AMatches cf.icase nb ne s p.ast q e) ∧
      (∀ e, AMatches cf.icase nb ne s p.ast st e → e ≤ st + len) := by
  have hmt : matchText cf nb ne pat s = .ok (amatchLL cf.icase nb ne p.ast s) := by
    unfold matchText; rw [hp]
  rw [hmt, ← ast_matcher_leftmost_longest_partial cf.icase nb ne s p.ast h st len, Except.ok.injEq]

open Tre in
theorem matchText_rejects (cf : CF) (nb ne : Bool) (pat s : List Char) (e : PErr) (hp : parse cf pat = .error e) :
    matchText cf nb ne pat s = .error e := by
  unfold matchText; rw [hp]

open Tre in
theorem mark_submatch_id (id : Nat) (r : Ast) : (mark id r).sub = some id ∧ (mark id r).nsub = r.nsub + 1 :=
  mark_fields id r

open Tre in
/-- `PARSE_MARK_FOR_SUBMATCH` does not change the language, although it puts an `EMPTY ·` in front of a tree that
already is a submatch (`((a))`) -/
theorem mark_preserves_language (ic nb ne : Bool) (s : List Char) (id : Nat) (r : Ast) (i j : Nat) :
    AMatches ic nb ne s (mark id r) i j ↔ AMatches ic nb ne s r i j :=
  mark_matches id r i j

open Tre in
theorem submatch_fields_irrelevant (ic nb ne : Bool) (s : List Char) (a : Ast) (sb : Option Nat) (n i j : Nat) :
    AMatches ic nb ne s (a.setSub sb n) i j ↔ AMatches ic nb ne s a i j :=
  AMatches_setSub a sb n i j

open Tre in
/-- an accepted pattern is submatch 0 as a whole (`nofirstsub = 0`) -/
theorem parse_whole_is_submatch_zero (cf : CF) (pat : List Char) (p : Parsed) (hp : parse cf pat = .ok p) :
    p.ast.sub = some 0 ∧ 1 ≤ p.ast.nsub := by
  unfold parse at hp
  split at hp
  · cases hp
  · injection hp with hp
    subst hp
    exact ⟨(mark_fields 0 _).1, by rw [(mark_fields 0 _).2]; omega⟩

open Tre in
/-- **a negated bracket expression is exactly the complement of its items** (`tre_parse_bracket`).  For EVERY array of
range items (`code_min ≤ code_max`, in any order): after the sort by `code_min`, the leaves the union loop builds plus the
final `curr_min..TRE_CHAR_MAX` literal contain a code `d` iff no item contains `d`. -/
theorem negated_bracket_complement (pos : Nat) (negs : List CClass) (items : List Item)
    (hh : ∀ it ∈ items, ∃ h, it.hi = some h ∧ it.lo ≤ h) (d : Nat) :
    let r := bracketBuild true pos negs (sortItems items) none 0 0
    inRanges (optRanges (addNode r.1 (.leaf (.lit ⟨r.2.toNat, none, pos, none, negs⟩) none 0))) d ↔
      ¬ ∃ it ∈ items, it.has d := by
  intro r
  obtain ⟨hs, hp⟩ := sortItems_spec items
  have := negated_bracket_is_complement pos negs (sortItems items) hs (fun it hit => hh it (hp.mem_iff.1 hit)) d
  simp only at this
  rw [this]
  simp only [hp.mem_iff]

open Tre in
/-- the sort the negated case relies on (`hawk_qsort` with `tre_compare_items`, modelled by insertion): sorted by
`code_min` and a rearrangement of the same items -/
theorem bracket_items_sorted (l : List Item) :
    (sortItems l).Pairwise (fun a b => a.lo ≤ b.lo) ∧ ∀ y, y ∈ sortItems l ↔ y ∈ l :=
  (sortItems_spec l).imp_right fun h _ => h.mem_iff

open Tre in
/-- **the postfix loop never answers STUCK** (first part of "the recursion budget of `Tre.parse` always suffices"):
`PARSE_POSTFIX` run with the budget `parsePiece` gives it (`re.length + 1`) never exhausts it, for every tree and every
text, and what it leaves is never longer than what it got; `tre_parse_bound` (no budget) never answers STUCK either.
Still open: the mutual recursion of `parseRE … parseLiteral` (needs, besides these, that every piece consumes input). -/
theorem postfix_loop_never_stuck (cf : CF) (res : Ast) (re : List Char) :
    postfixOps cf (re.length + 1) res re ≠ .error .stuck ∧
    (∀ a t, postfixOps cf (re.length + 1) res re = .ok (a, t) → t.length ≤ re.length) ∧
    (∀ r, parseBound res r ≠ .error .stuck) :=
  have h := postfixOps_consumes cf _ res re (Nat.lt_succ_self _)
  ⟨h.ne_stuck, fun _ _ => h.ok, fun r => (parseBound_consumes res r).ne_stuck⟩

open Tre in
/-- **the bracket loop never answers STUCK**: `tre_parse_bracket` (budget: the text length + 1) never exhausts its
budget, for every text, and what it leaves is never longer than what it got -/
theorem bracket_loop_never_stuck (icase : Bool) (pos : Nat) (re : List Char) :
    parseBracket icase pos re ≠ .error .stuck ∧
    ∀ a rest, parseBracket icase pos re = .ok (a, rest) → rest.length ≤ re.length :=
  have h := parseBracket_consumes icase pos re
  ⟨h.ne_stuck, fun _ _ => h.ok⟩

open Tre in
/-- the backslash atoms (`\\t … \\w … \\b \\< \\x41 \\x{41} \\1`, escaped characters) never answer STUCK and only consume input -/
theorem escape_atoms_never_stuck (cf : CF) (st : St) (e : Char) (t : List Char) :
    escapeAtom cf st e t ≠ .error .stuck ∧
    ∀ a st' rest, escapeAtom cf st e t = .ok (a, st', rest) → rest.length ≤ t.length :=
  have h := escapeAtom_consumes cf st e t
  ⟨h.ne_stuck, fun _ _ _ => h.ok⟩

section
open Tre

/-- `a(b|c)*` : catenation of `a` and an iteration of a marked union; positions 0,1,2; two submatches
(the harness prints this tree as `C(L97-97@0:-1:0,I(U(L98-98@1:-1:0,L99-99@2:-1:0):1:1,0,-1,0):-1:1):0:2 nsub=2 npos=3`) -/
example : parseOk {} "a(b|c)*".toList =
    some ⟨.cat (mkLit 97 (some 97) 0) (.iter (.union (mkLit 98 (some 98) 1) (mkLit 99 (some 99) 2) (some 1) 1) 0 (-1) false none 1) (some 0) 2, 2, 3⟩ := by decide +kernel

example : parseErr {} "(a".toList = some .eparen := by decide +kernel
example : parseErr {} "[a".toList = some .ebrack := by decide +kernel
example : parseErr {} "a{1".toList = some .ebrace := by decide +kernel
example : parseErr {} "a{2,1}".toList = some .badbr := by decide +kernel
example : parseErr {} "[b-a]".toList = some .erange := by decide +kernel
example : parseErr {} "[[:foo:]]".toList = some .ectype := by decide +kernel
example : parseErr {} "[[.a.]]".toList = some .ecollate := by decide +kernel
example : parseErr {} "a\\".toList = some .eescape := by decide +kernel
/-- TRE's stacking rules: `*a` and `a**` are accepted (an EMPTY leaf is iterated; iterations nest) -/
example : parseOk {} "a**".toList = some ⟨.iter (mkIter (mkLit 97 (some 97) 0) 0 (-1) false) 0 (-1) false (some 0) 1, 1, 1⟩ := by decide +kernel
example : parseOk {} "*a".toList = some ⟨.cat (mkIter mkEmpty 0 (-1) false) (mkLit 97 (some 97) 0) (some 0) 1, 1, 1⟩ := by decide +kernel
/-- REG_ICASE is compiled into the tree; `((a))` gets an `EMPTY ·` for the second mark -/
example : parseOk { icase := true } "a".toList = some ⟨.union (mkLit 65 (some 65) 0) (mkLit 97 (some 97) 0) (some 0) 1, 1, 1⟩ := by decide +kernel
example : parseOk {} "((a))".toList =
    some ⟨.cat mkEmpty (.cat mkEmpty (.leaf (.lit ⟨97, some 97, 0, none, []⟩) (some 2) 1) (some 1) 2) (some 0) 3, 3, 1⟩ := by decide +kernel

/-- `[^a-cb-e]` (overlapping items, the witness of 6ef3e2d): codes 0..96 and 102.. ; the hypotheses of
`negated_bracket_complement` hold for its items -/
example : parseOk {} "[^a-cb-e]".toList =
    some ⟨.union (.leaf (.lit ⟨0, some 96, 0, none, []⟩) none 0) (.leaf (.lit ⟨102, none, 0, none, []⟩) none 0) (some 0) 1, 1, 1⟩ := by decide +kernel
example : ∀ it ∈ [(⟨97, some 99, none⟩ : Item), ⟨98, some 101, none⟩], ∃ h, it.hi = some h ∧ it.lo ≤ h := by decide

/-- inside `Ast.plain`: a negated class list and a class leaf, under REG_ICASE -/
example : ((parseOk { icase := true } "[^[:upper:]x]+[[:lower:]]".toList).map fun p => p.ast.plain true) = some true := by decide +kernel
example : (matchText { icase := true } false false "[^[:digit:]x]+[[:lower:]]".toList "1XaB2".toList).toOption = some (some (2, 2)) := by decide +kernel

/-- the pipeline on a parsed tree inside `Ast.plain` (hypotheses of the `_partial` theorems are satisfiable) -/
example : ((parseOk {} "a(b|c)*d".toList).map fun p => p.ast.plain false) = some true := by decide +kernel
example : (matchText {} false false "a(b|c)*d".toList "xabcbd".toList).toOption = some (some (1, 5)) := by decide +kernel
example : (matchText { icase := true } false false "a[b-c]+".toList "xABCb".toList).toOption = some (some (1, 4)) := by decide +kernel
end

/-! ## non-vacuity: concrete answers (the witnesses on which TRE's engines went wrong or still do) -/

/-- `"aaa" ~ /a(a|ab)$/` : POSIX says match at 1, length 2 (hawk's backtracking matcher said no match) -/
example : matchLL {} (.cat (.chr 'a') (.cat (.grp (.alt (.chr 'a') (.cat (.chr 'a') (.chr 'b')))) .eol))
    ['a', 'a', 'a'] = some (1, 2) := by decide

/-- `a(a|ab)(b|)` on `aaab` : POSIX says [0,2) (TRE's parallel matcher said [1,4)) -/
example : matchLL {} (.cat (.chr 'a') (.cat (.grp (.alt (.chr 'a') (.cat (.chr 'a') (.chr 'b')))) (.grp (.alt (.chr 'b') .emp))))
    ['a', 'a', 'a', 'b'] = some (0, 2) := by decide

/-- `"ab" ~ /(ab)*b/` : match at 1, length 1 (the backtracking matcher said no match) -/
example : matchLL {} (.cat (.star (.grp (.cat (.chr 'a') (.chr 'b')))) (.chr 'b')) ['a', 'b'] = some (1, 1) := by decide

/-- `$|` on `a` : the empty alternative matches at 0 (both TRE engines answer 1: finding tre-empty-path-anchor) -/
example : matchLL {} (.alt .eol .emp) ['a'] = some (0, 0) := by decide

/-- `((a{2})?b)*` on `ab` : only the empty match at 0 (TRE's automaton accepts `ab`: finding tre-repeat-position-collision) -/
example : matchLL {} (.star (.grp (.cat (.opt (.grp (.rep (.chr 'a') 2 (some 2)))) (.chr 'b')))) ['a', 'b'] = some (0, 0) := by decide

/-- longest, not first alternative: `a|ab` on `ab` -/
example : matchLL {} (.alt (.chr 'a') (.cat (.chr 'a') (.chr 'b'))) ['a', 'b'] = some (0, 2) := by decide

/-- leftmost beats longer: `b+` on `abbab` -> (1,2); an empty match when nothing else: `b*` on `a` -> (0,0) -/
example : matchLL {} (.plus (.chr 'b')) ['a', 'b', 'b', 'a', 'b'] = some (1, 2) := by decide
example : matchLL {} (.star (.chr 'b')) ['a'] = some (0, 0) := by decide
example : matchLL {} (.chr 'b') ['a'] = none := by decide

example : matchLL {} (.rep (.chr 'a') 2 (some 3)) ['a', 'a', 'a', 'a'] = some (0, 3) := by decide
example : matchLL {} (.rep (.chr 'a') 2 none) ['b', 'a', 'a', 'a'] = some (1, 3) := by decide

example : matchLL {} (.chr 'a') ['A'] = none := by decide
example : matchLL { icase := true } (.chr 'a') ['A'] = some (0, 1) := by decide
example : matchLL {} (.cat .bol (.chr 'a')) ['a'] = some (0, 1) := by decide
example : matchLL { notbol := true } (.cat .bol (.chr 'a')) ['a'] = none := by decide
example : matchLL { icase := true } (.cls true [.chr 'a']) ['A', 'b'] = some (1, 1) := by decide

/-- brackets: a fold must not leak beyond the item (`[a]` does not accept `B` under IGNORECASE), negated
overlapping ranges (`[^a-cb-e]` rejects `d`), a negated named class inside a repeat (`[^[:digit:]]{2}` on `12`) -/
example : matchLL { icase := true } (.cls false [.chr 'a']) ['B'] = none := by decide
example : matchLL { icase := true } (.cls false [.range 'a' 'c']) ['D', 'C'] = some (1, 1) := by decide
example : matchLL {} (.cls true [.range 'a' 'c', .range 'b' 'e']) ['d'] = none := by decide
example : matchLL {} (.rep (.cls true [.named .digit]) 2 (some 2)) ['1', '2'] = none := by decide

example : matchLL {} (.cat (.chr 'a') .eol) ['a'] = some (0, 1) := by decide
example : matchLL { noteol := true } (.cat (.chr 'a') .eol) ['a'] = none := by decide
example : matchLL {} (.cat (.wordb .bow) (.chr 'b')) ['a', 'b', ' ', 'b'] = some (3, 1) := by decide
example : matchLL {} (.cat (.chr 'a') (.wordb .eow)) ['a', 'a', ' ', 'a'] = some (1, 1) := by decide
example : matchLL {} (.cat (.wordb .wb) (.chr 'b')) ['a', 'b', '-', 'b'] = some (3, 1) := by decide
example : matchLL {} (.cat (.chr 'a') (.wordb .nwb)) ['a', '-', 'a', 'a'] = some (2, 1) := by decide
example : matchLL {} (.plus (.cls false [.named .punct])) ['a', '-', '_', 'b'] = some (1, 2) := by decide
example : matchLL {} (.plus (.cls false [.named .xdigit])) ['z', 'f', 'F', '1', 'g'] = some (1, 3) := by decide

/-- the hypotheses of `notbol_suffix` are satisfiable with a non-trivial match -/
example : Matches ⟨false, true, false⟩ (['x', 'a', 'b'].drop 1) (.cat (.chr 'a') (.cat (.chr 'b') .eol)) 0 2 :=
  (ends_sound_complete _ _ _ _ _).1 (by decide)

end Hawk.Rex
