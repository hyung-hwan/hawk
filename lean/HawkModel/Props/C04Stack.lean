import HawkModel.Props.C04
import HawkModel.ReadIoStackLemmas
/-!
# C04, the layers below `rio.c`: bytes → characters → records

The tio model and its chunk-independence theorem are C15's (`HawkModel/Tio.lean`, `Props/C15.lean`); the record reader
is C04's (`HawkModel/ReadIo.lean`).  Here the two are composed: `tioChunks` (`HawkModel/ReadIoStack.lean`, run by the driver
for the kinds that read through std.c) is the sequence of chunks the handler returns
to `hawk_rtx_readio` - each one the result of one `hawk_tio_readuchars` - and the theorems say that the records read
through both layers are the records of the decoded text, for **every** partition of the bytes into reads, every
capacity of tio's staging buffer that holds one character, and every request size (2048 in the C) - so in particular
with a multi-byte sequence split by a read boundary and with a record, a separator or a CR LF pair lying across the
2048-character edge.
-/
namespace Hawk.ReadIo
open Hawk.Gen Hawk.Utf8

theorem tioChunks_spec (cfg : Tio.Cfg) (size : Nat) :
    ∀ (n : Nat) (st : Tio.InSt), Tio.pending st = n →
      ((tioChunks cfg size st).1.flatten, (tioChunks cfg size st).2) = Tio.readAll cfg size st ∧
      ∀ c ∈ (tioChunks cfg size st).1, c ≠ [] :=
  fun _ st _ => tioChunks_flatten cfg size st

theorem tioByteChunks_spec (cfg : Tio.Cfg) (size : Nat) :
    ∀ (n : Nat) (st : Tio.InSt), Tio.pending st = n →
      ((tioByteChunks cfg size st).1.flatten, (tioByteChunks cfg size st).2) = Tio.readAllBytes cfg size st ∧
      ∀ c ∈ (tioByteChunks cfg size st).1, c ≠ [] :=
  fun _ st _ => tioByteChunks_flatten cfg size st

theorem flatten_map_toChars (L : List (List Nat)) : (L.map toChars).flatten = toChars L.flatten := by
  show (L.map (List.map Char.ofNat)).flatten = L.flatten.map Char.ofNat
  rw [List.map_flatten]

theorem flatten_map_byteUnits (L : List (List UInt8)) : (L.map byteUnits).flatten = byteUnits L.flatten := by
  show (L.map (List.map fun b => Char.ofNat b.toNat)).flatten = L.flatten.map fun b => Char.ofNat b.toNat
  rw [List.map_flatten]

theorem noEmpty_map {α : Type} (f : List α → List Char) (hf : ∀ l, l ≠ [] → f l ≠ []) (L : List (List α))
    (h : ∀ c ∈ L, c ≠ []) : NoEmpty (L.map f) := by
  intro c hc
  simp only [List.mem_map] at hc
  obtain ⟨l, hl, rfl⟩ := hc
  exact hf l (h l hl)

/-- **Bytes → characters → records, for all partitions of the bytes.**  A text of 16-bit characters, encoded by a
character manager that satisfies `CodecOk` (utf8, utf16, mb8: `Hawk.C15.managers_ok`), arrives in any pieces (none empty:
an empty `read(2)` is the end of the file); tio's staging buffer has any capacity that holds one character; the console
handler asks for any number `size ≥ 1` of characters per READ (2048 in the C).  In newline, single-character and
paragraph mode the records `hawk_rtx_readio` produces from what the handler returns are the records of the text. -/
theorem records_from_bytes_chunk_independent {cm : Cmgr} {dom : Nat → Prop} {maxlen : Nat} (hok : CodecOk cm dom maxlen)
    (mode : Mode) (hm : mode.isAuto) (cfg : Tio.Cfg) (hT : cfg.cm = cm) (hl : cfg.legacy = false) (hc : maxlen ≤ cfg.capa)
    (size : Nat) (hs : 1 ≤ size) (cs : List Nat) (hb : Dom dom cs) (chunks : List (List UInt8))
    (hne : ∀ c ∈ chunks, c ≠ []) (hj : chunks.flatten = encodeAllC cm cs) :
    (tioChunks cfg size (Tio.start chunks)).2 = .eof ∧
    readAll mode {} ((tioChunks cfg size (Tio.start chunks)).1.map toChars) = specAll mode (toChars cs) := by
  obtain ⟨h1, h2, h3⟩ := stdChunks_decoded hok cfg hT hl hc size hs cs hb chunks hne hj
  refine ⟨h1, ?_⟩
  rw [records_chunk_independent mode hm _ (noEmpty_map toChars (by intro l hl; simpa [toChars] using hl) _ h3),
    flatten_map_toChars, h2]

/-- two ways the same bytes can arrive (different `read(2)` boundaries, staging capacities, request sizes) give the same
records -/
theorem records_from_bytes_same_for_all_schedules {cm : Cmgr} {dom : Nat → Prop} {maxlen : Nat} (hok : CodecOk cm dom maxlen)
    (mode : Mode) (hm : mode.isAuto) (cfg₁ cfg₂ : Tio.Cfg)
    (h₁ : cfg₁.cm = cm ∧ cfg₁.legacy = false ∧ maxlen ≤ cfg₁.capa) (h₂ : cfg₂.cm = cm ∧ cfg₂.legacy = false ∧ maxlen ≤ cfg₂.capa)
    (size₁ size₂ : Nat) (hs₁ : 1 ≤ size₁) (hs₂ : 1 ≤ size₂) (cs : List Nat) (hb : Dom dom cs)
    (ch₁ ch₂ : List (List UInt8)) (hne₁ : ∀ c ∈ ch₁, c ≠ []) (hne₂ : ∀ c ∈ ch₂, c ≠ [])
    (hj₁ : ch₁.flatten = encodeAllC cm cs) (hj₂ : ch₂.flatten = ch₁.flatten) :
    readAll mode {} ((tioChunks cfg₁ size₁ (Tio.start ch₁)).1.map toChars) =
      readAll mode {} ((tioChunks cfg₂ size₂ (Tio.start ch₂)).1.map toChars) := by
  rw [(records_from_bytes_chunk_independent hok mode hm cfg₁ h₁.1 h₁.2.1 h₁.2.2 size₁ hs₁ cs hb ch₁ hne₁ hj₁).2,
    (records_from_bytes_chunk_independent hok mode hm cfg₂ h₂.1 h₂.2.1 h₂.2.2 size₂ hs₂ cs hb ch₂ hne₂ (hj₂.trans hj₁)).2]

/-- the same with a `Stable` regex RS (missing: unstable matchers, `unstable_counterexample`) -/
theorem records_from_bytes_chunk_independent_regex_partial {cm : Cmgr} {dom : Nat → Prop} {maxlen : Nat}
    (hok : CodecOk cm dom maxlen) (m : Matcher) (hS : Stable m) (cfg : Tio.Cfg) (hT : cfg.cm = cm) (hl : cfg.legacy = false)
    (hc : maxlen ≤ cfg.capa) (size : Nat) (hs : 1 ≤ size) (cs : List Nat) (hb : Dom dom cs) (chunks : List (List UInt8))
    (hne : ∀ c ∈ chunks, c ≠ []) (hj : chunks.flatten = encodeAllC cm cs) :
    readAll (.regex m) {} ((tioChunks cfg size (Tio.start chunks)).1.map toChars) = specAll (.regex m) (toChars cs) := by
  obtain ⟨-, h2, h3⟩ := stdChunks_decoded hok cfg hT hl hc size hs cs hb chunks hne hj
  rw [records_chunk_independent_regex_partial m hS _ (noEmpty_map toChars (by intro l hl; simpa [toChars] using hl) _ h3),
    flatten_map_toChars, h2]

/-- **The byte reader (`getbline`) through `hawk_tio_readbchars`**: arbitrary bytes - valid text or not -, any partition,
any capacity ≥ 1, any request size ≥ 1: the records are those of the bytes. -/
theorem byte_records_chunk_independent (mode : Mode) (hm : mode.isAuto) (cfg : Tio.Cfg) (hc : 1 ≤ cfg.capa)
    (size : Nat) (hs : 1 ≤ size) (chunks : List (List UInt8)) (hne : ∀ c ∈ chunks, c ≠ []) :
    (tioByteChunks cfg size (Tio.start chunks)).2 = true ∧
    readAll mode {} ((tioByteChunks cfg size (Tio.start chunks)).1.map byteUnits) = specAll mode (byteUnits chunks.flatten) := by
  obtain ⟨h1, h2⟩ := tioByteChunks_flatten cfg size (Tio.start chunks)
  have h3 := Hawk.C15.tio_read_bytes_identity cfg hc size hs chunks hne
  rw [h3] at h1
  simp only [Prod.mk.injEq] at h1
  refine ⟨h1.2, ?_⟩
  rw [records_chunk_independent mode hm _ (noEmpty_map byteUnits (by intro l hl; simpa [byteUnits] using hl) _ h2)]
  rw [flatten_map_byteUnits, h1.1]

/-- **Several files through all layers**: every file a byte string arriving in its own pieces; the program sees the
records of each file's text with NR, FNR, FILENAME as `specChain` says - the end of a file ends the record whatever
the last `read(2)` of the file held. -/
theorem console_from_bytes_eq_spec {cm : Cmgr} {dom : Nat → Prop} {maxlen : Nat} (hok : CodecOk cm dom maxlen)
    (mode : Mode) (hm : mode.isAuto) (cfg : Tio.Cfg) (hT : cfg.cm = cm) (hl : cfg.legacy = false) (hc : maxlen ≤ cfg.capa)
    (size : Nat) (hs : 1 ≤ size)
    (files : List (String × List Nat × List (List UInt8)))
    (hfiles : ∀ f ∈ files, Dom dom f.2.1 ∧ (∀ c ∈ f.2.2, c ≠ []) ∧ f.2.2.flatten = encodeAllC cm f.2.1)
    (hne : files ≠ []) :
    runConsole mode (openConsole [] (files.map fun f => (f.1, (tioChunks cfg size (Tio.start f.2.2)).1.map toChars))) =
      specChain mode 0 (files.map fun f => (f.1, toChars f.2.1)) := by
  have key : fileChars (files.map fun f => (f.1, (tioChunks cfg size (Tio.start f.2.2)).1.map toChars)) =
      files.map fun f => (f.1, toChars f.2.1) := by
    rw [fileChars, List.map_map]
    apply List.map_congr_left
    intro g hg
    obtain ⟨gb, gne, gj⟩ := hfiles g hg
    obtain ⟨-, h2, h3⟩ := stdChunks_decoded hok cfg hT hl hc size hs g.2.1 gb g.2.2 gne gj
    simp only [Function.comp, delivered_of_noEmpty (noEmpty_map toChars (by intro l hl; simpa [toChars] using hl) _ h3),
      flatten_map_toChars, h2]
  cases files with
  | nil => exact absurd rfl hne
  | cons f fs => rw [← key, List.map_cons, console_records_eq_spec mode hm]

/-- non-vacuity: `é\n` (c3 a9 0a) delivered as c3 | a9 0a - the sequence split by the read boundary - through a
three-byte staging buffer, one character asked for per READ: the hypotheses are satisfied and the record is `é` -/
example :
    readAll .dflt {} ((tioChunks { capa := 3 } 1 (Tio.start [[0xC3], [0xA9, 0x0A]])).1.map toChars) =
      specAll .dflt (toChars [0xE9, 0x0A]) :=
  (records_from_bytes_chunk_independent Hawk.C15.managers_ok.1 .dflt rfl { capa := 3 } rfl rfl (by decide) 1 (by decide)
    [0xE9, 0x0A] (by intro c hc; simp at hc; rcases hc with rfl | rfl <;> decide) [[0xC3], [0xA9, 0x0A]] (by decide) (by decide)).2

end Hawk.ReadIo
