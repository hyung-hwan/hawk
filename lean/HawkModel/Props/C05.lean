import HawkModel.RioLemmas
/-!
# C05 — everything printed is delivered once, in order, and streams are closed

English property: *All characters produced by print and printf for the console, files and pipes reach the
corresponding stream handler exactly once and in program order, however few characters the handler accepts per
call, and are flushed by the time the run returns.  Each named stream is opened once, reused while open, and closed
exactly once — by close() or at the latest when the runtime is closed — and a handler failure shows up as a
negative return value or a run error, never as lost data reported as success.*

Model: `HawkModel/Rio.lean` (`rio.c` write side + `run_print`/`run_printf`/`fnc_close`/`fnc_fflush` + end-of-run flush
+ teardown), with the repairs listed at its head applied.  The handler is an arbitrary function
`ρ : Nat → Reply` from the handler call number to its reply; every theorem quantifies over all `ρ` and over
all histories: lists of API calls (`exec`) and lists of statements (`runStmts`, `loop`, `runProgram`).
The observations on the call log that the statements use are defined in `HawkModel/RioLemmas.lean`.
-/
namespace Hawk.Rio.C05
open Hawk.Rio

/-- the text the history intends to write to key `k`: the payloads of its writes to `k`, in program order -/
def intended (k : Key) : List Op → List Char
  | [] => []
  | .write ok name _ d :: os => (if ok.key name = k then d else []) ++ intended k os
  | _ :: os => intended k os

/-- the writes of a history to key `k`, each paired with the value `hawk_rtx_writeio*` returned for it -/
def writesTo (k : Key) : List Op → List Int → List (List Char × Int)
  | .write ok name _ d :: os, r :: rs => if ok.key name = k then (d, r) :: writesTo k os rs else writesTo k os rs
  | _ :: os, _ :: rs => writesTo k os rs
  | _, _ => []

/-! ## (a) exactly once, in order, however few characters the handler takes per call -/

/-- generalisation of (a) over the start state -/
theorem exec_allAccept {ρ : Nat → Reply} (hρ : AllAccept ρ) (ops : List Op) (s : St) (hn : NoFlags s) (k : Key) :
    delivered k (exec ρ s ops).1.log = delivered k s.log ++ intended k ops := by
  induction ops generalizing s with
  | nil => simp [exec, intended]
  | cons o os ih =>
    obtain ⟨hn', hd⟩ := step_allAccept hρ hn o
    simp only [exec]
    rw [ih _ hn', hd, List.append_assoc]
    cases o <;> rfl

/-- **(a)** If the handler never fails and never reports end of stream — but accepts as few characters per
call as it likes — then for every stream key the concatenation of the slices it accepted equals the
concatenation of the payloads written to that key, in program order; for every history of
write/flush/next/close/read/flushall calls. -/
theorem write_exactly_once_in_order {ρ : Nat → Reply} (hρ : AllAccept ρ) (ops : List Op) (k : Key) :
    delivered k (exec ρ St.init ops).1.log = intended k ops := by
  simpa [St.init, delivered] using exec_allAccept hρ ops St.init noFlags_init k

/-- **(a), language level.** Under such a handler a program delivers, per stream key, exactly the text of
the `print` (items joined by OFS, then ORS) and `printf` statements it executed, in program order: `n` is the
number of statements executed (all of them unless a run error — e.g. `nextofile` without console output —
aborted the program, or `Cfg.readFuel` is too small for a getline).  Flushing at the end of the run and
closing at teardown add nothing. -/
theorem program_delivers_exactly_once_in_order {ρ : Nat → Reply} (hρ : AllAccept ρ) (cfg : Cfg) (prog : List Stmt) :
    ∃ n, n ≤ prog.length ∧ ((runProgram ρ cfg prog).2 = false → n = prog.length) ∧
      ∀ k, delivered k (runProgram ρ cfg prog).1.log = progPayload cfg k (prog.take n) := by
  obtain ⟨n, h1, h2, h3⟩ := runStmts_allAccept hρ cfg prog St.init noFlags_init
  refine ⟨n, h1, fun hf => h2 ?_, fun k => ?_⟩
  · simpa [runProgram, loop, flushallFails_allAccept hρ] using hf
  simp only [runProgram, loop, (clearall_keeps ρ _).1.quiet, (flushall_keeps ρ _).quiet]
  simpa [St.init, delivered] using h3 k

/-! ## (b) failures surface; success means complete delivery; end of stream is latched -/

/-- **(b)** One write, any handler: what the handler accepted during the call is a prefix `d` of the payload,
appended to what the key had received before (nothing is duplicated, reordered or sent to another key); the
call returns 1, 0 or -1; and it returns 1 (success) only if the whole payload was accepted. -/
theorem write_result_sound (ρ : Nat → Reply) (s : St) (ok : OutKind) (name : String) (bytes : Bool) (data : List Char) :
    ∃ d, d <+: data ∧
      (∀ k, delivered k (writeio ρ s ok name bytes data).1.log = delivered k s.log ++ (if ok.key name = k then d else [])) ∧
      ((writeio ρ s ok name bytes data).2 = 1 → d = data) ∧
      ((writeio ρ s ok name bytes data).2 = 1 ∨ (writeio ρ s ok name bytes data).2 = 0 ∨ (writeio ρ s ok name bytes data).2 = -1) :=
  (writeio_spec ρ s ok name bytes data).delivers

/-- **(b), history level.** For every handler and every history: what a key received is the concatenation,
in program order, of one prefix per write to that key, and the prefix is the whole payload for every write
that returned 1.  So data can be missing only from writes that did not report success. -/
theorem acked_writes_fully_delivered (ρ : Nat → Reply) (ops : List Op) (s : St) (k : Key) :
    ∃ ds : List (List Char),
      Pointwise (fun d (pr : List Char × Int) => d <+: pr.1 ∧ (pr.2 = 1 → d = pr.1)) ds (writesTo k ops (exec ρ s ops).2) ∧
      delivered k (exec ρ s ops).1.log = delivered k s.log ++ ds.flatten := by
  induction ops generalizing s with
  | nil => exact ⟨[], by simpa [writesTo, exec] using Pointwise.nil, by simp [exec]⟩
  | cons o os ih =>
    obtain ⟨ds, hf, hd⟩ := ih (step ρ s o).1
    obtain ⟨d, h1, h2, h3⟩ := step_delivers ρ s o k
    simp only [exec]
    rw [hd, h3]
    cases o with
    | write ok name b data =>
      by_cases hk : ok.key name = k
      · simp only [Op.payload, hk, if_true] at h1 h2
        exact ⟨d :: ds, by simpa only [writesTo, hk, if_true] using Pointwise.cons ⟨h1, h2⟩ hf, by simp⟩
      · simp only [Op.payload, hk, if_false] at h1
        obtain rfl := List.prefix_nil.mp h1
        exact ⟨ds, by simpa only [writesTo, hk, if_false] using hf, by simp⟩
    | _ =>
      obtain rfl := List.prefix_nil.mp h1
      exact ⟨ds, by simpa only [writesTo] using hf, by simp⟩

/-- **(b)** A handler failure (of OPEN or of any WRITE) during a write makes the write return -1. -/
theorem write_fail_returns_minus_one (ρ : Nat → Reply) (s : St) (ok : OutKind) (name : String) (bytes : Bool)
    (data : List Char) (h : FailedBetween ρ s (writeio ρ s ok name bytes data).1) :
    (writeio ρ s ok name bytes data).2 = -1 :=
  (writeio_spec ρ s ok name bytes data).fail.surfaces h

/-- **(b)** A WRITE answered "end of stream" ends the re-offer loop with 0. -/
theorem write_eof_returns_zero (ρ : Nat → Reply) (sid : Nat) (key : Key) (bytes : Bool) (rem : List Char) (s : St)
    (h : EofIn ρ s.calls (writeLoop ρ sid key bytes rem s).1.calls) : (writeLoop ρ sid key bytes rem s).2 = 0 :=
  writeLoop_eof ρ sid key bytes rem s h

/-- **(b)** A write that returns 0 leaves the stream in the chain with `out.eof` (or `out.eos`) latched … -/
theorem write_zero_latches (ρ : Nat → Reply) (s : St) (ok : OutKind) (name : String) (bytes : Bool) (data : List Char)
    (hz : (writeio ρ s ok name bytes data).2 = 0) :
    ∃ y ∈ (writeio ρ s ok name bytes data).1.chain, y.key = ok.key name ∧ (y.outEof = true ∨ y.outEos = true) :=
  have ⟨y, hy, hflag⟩ := (writeio_spec ρ s ok name bytes data).zero hz
  ⟨y, (findKey_some hy).1, (findKey_some hy).2, hflag⟩

/-- … and while the flag stands, in any reachable state, a write to that stream returns 0 without calling
the handler at all (state and log unchanged). -/
theorem write_after_eof_is_silent (ρ : Nat → Reply) (ops : List Op) (ok : OutKind) (name : String) (bytes : Bool)
    (data : List Char) {x : Strm} (hx : x ∈ (exec ρ St.init ops).1.chain) (hk : x.key = ok.key name)
    (hflag : x.outEof = true ∨ x.outEos = true) :
    writeio ρ (exec ρ St.init ops).1 ok name bytes data = ((exec ρ St.init ops).1, 0) :=
  writeio_skip ρ _ ok name bytes data (hk ▸ findKey_of_mem (exec_inv ρ ops Inv.init).nodup hx) hflag

/-- **(b)** In every reachable log no WRITE is issued to a stream after it answered "end of stream", until a
successful NEXT re-arms it or it is fully closed (and possibly reopened). -/
theorem no_write_after_eof (ρ : Nat → Reply) (ops : List Op) : NoWriteAfterEof (exec ρ St.init ops).1.log :=
  (exec_inv ρ ops Inv.init).nowae

/-- **(b), language level.** In every state whatever, if any handler call made by a statement fails, the
statement raises a run error or returns -1: print/printf (OPEN, WRITE, and printf's FLUSH), close (FLUSH, CLOSE),
fflush (FLUSH, also when another stream of the same name flushed fine), getline (OPEN, READ, NEXT), nextofile (FLUSH, NEXT). -/
theorem handler_failure_surfaces (ρ : Nat → Reply) (cfg : Cfg) (s : St) (st : Stmt)
    (h : FailedBetween ρ s (stmt ρ cfg s st).1) :
    (stmt ρ cfg s st).2 = .runerr ∨ (stmt ρ cfg s st).2 = .val (-1) :=
  (stmt_spec ρ cfg s st).fail.surfaces h

/-- without `HAWK_TOLERANT` a failing print/printf/nextofile is a run error (the program is aborted and
`hawk_rtx_loop` fails) -/
theorem print_failure_is_run_error (ρ : Nat → Reply) (cfg : Cfg) (hc : cfg.tolerant = false) (s : St)
    (ok : OutKind) (name : String) (bytes : Bool) (items : Option (List (List Char)))
    (h : FailedBetween ρ s (stmt ρ cfg s (.print ok name bytes items)).1) :
    (stmt ρ cfg s (.print ok name bytes items)).2 = .runerr := by
  rcases handler_failure_surfaces ρ cfg s _ h with h | h
  · exact h
  · exfalso
    simp only [stmt, hc] at h
    split at h <;> simp at h

/-- **(b), language level: never success with bytes missing.** After any program prefix and for any handler:
if a `print` neither raised a run error nor returned -1, and its stream is not at "end of stream" afterwards
(the handler answered 0 to a WRITE, or NEXT found no further stream — the designed way to make output stop),
then the stream received, during the statement, exactly the items joined by OFS followed by ORS. -/
theorem print_success_is_complete (ρ : Nat → Reply) (cfg : Cfg) (pre : List Stmt) (ok : OutKind) (name : String)
    (bytes : Bool) (items : Option (List (List Char))) :
    let s := (runStmts ρ cfg pre St.init).1
    let r := stmt ρ cfg s (.print ok name bytes items)
    (r.2 = .unit ∨ r.2 = .val 0) →
    (∀ y ∈ r.1.chain, y.key = ok.key name → y.outEof = false ∧ y.outEos = false) →
    ∀ k, delivered k r.1.log = delivered k s.log ++ stmtPayload cfg k (.print ok name bytes items) := by
  intro s r hres hclear
  exact (stmt_spec ρ cfg s _).full (fun _ hk => by cases hk; exact ⟨hres, hclear⟩)

/-- the same for `printf` (in any state) -/
theorem printf_success_is_complete (ρ : Nat → Reply) (cfg : Cfg) (s : St) (ok : OutKind) (name : String)
    (bytes : Bool) (data : List Char) :
    let r := stmt ρ cfg s (.printf ok name bytes data)
    (r.2 = .unit ∨ r.2 = .val 0) →
    (∀ y ∈ r.1.chain, y.key = ok.key name → y.outEof = false ∧ y.outEos = false) →
    ∀ k, delivered k r.1.log = delivered k s.log ++ stmtPayload cfg k (.printf ok name bytes data) := by
  intro r hres hclear
  exact (stmt_spec ρ cfg s _).full (fun _ hk => by cases hk; exact ⟨hres, hclear⟩)

/-! ## (c) every stream is opened once, reused while open, closed exactly once -/

/-- **(c)** In every state reachable by API calls, for every handler: the chain has at most one node per key,
and for every key `#OPEN − #full CLOSE` is 1 if the key is in the chain and 0 otherwise.  (Holding in every
reachable state, this means opens and full closes of a key alternate strictly: never a second OPEN while open,
never a second full CLOSE.) -/
theorem open_close_balanced (ρ : Nat → Reply) (ops : List Op) (k : Key) :
    let s := (exec ρ St.init ops).1
    (keys s.chain).Nodup ∧
    (k ∈ keys s.chain → opens k s.log = closes k s.log + 1) ∧
    (k ∉ keys s.chain → opens k s.log = closes k s.log) :=
  (exec_inv ρ ops Inv.init).balanced k

/-- **(c), language level**: the same in every state reachable by executing statements. -/
theorem open_close_balanced_program (ρ : Nat → Reply) (cfg : Cfg) (prog : List Stmt) (k : Key) :
    let s := (runStmts ρ cfg prog St.init).1
    (keys s.chain).Nodup ∧
    (k ∈ keys s.chain → opens k s.log = closes k s.log + 1) ∧
    (k ∉ keys s.chain → opens k s.log = closes k s.log) :=
  (runStmts_inv ρ cfg prog Inv.init).balanced k

/-- **(c)** Closing the runtime after any history empties the chain, and every key has then been fully closed
exactly as often as it was opened (together with `open_close_balanced`: each opened stream got exactly one
full close — by `close()` or by `hawk_rtx_clearallios`). -/
theorem clearall_closes_everything (ρ : Nat → Reply) (ops : List Op) (k : Key) :
    (clearall ρ (exec ρ St.init ops).1).chain = [] ∧
    opens k (clearall ρ (exec ρ St.init ops).1).log = closes k (clearall ρ (exec ρ St.init ops).1).log :=
  clearall_balanced ρ (exec_inv ρ ops Inv.init) k

/-- **(c), language level**: after `hawk_rtx_loop` + `hawk_rtx_close` the chain is empty and every key is balanced. -/
theorem program_closes_everything (ρ : Nat → Reply) (cfg : Cfg) (prog : List Stmt) (k : Key) :
    (runProgram ρ cfg prog).1.chain = [] ∧
    opens k (runProgram ρ cfg prog).1.log = closes k (runProgram ρ cfg prog).1.log :=
  clearall_balanced ρ ((flushall_keeps ρ _).inv (runStmts_inv ρ cfg prog Inv.init)) k

/-- the repaired half-close logic: closing the same end of a two-way pipe twice does not drop the node;
the second request finds no such end (returns -1, no handler call). -/
theorem rwpipe_same_end_twice (ρ : Nat → Reply) (s : St) (name : String) (r : Bool) (x : Strm)
    (hchain : s.chain = [x]) (hn : x.key.name = name) (hm : x.key.mask = .rw)
    (hst : x.rwcstate = (if r then .rd else .wr)) :
    closeio ρ s name (some r) = (s, -1) :=
  closeio_miss ρ s name _ (by cases r <;> simp_all [closeHit, closeMode])

/-! ## (d) flushed by the time the run returns -/

/-- **(d)** `hawk_rtx_flushallios`, in any state: the chain is unchanged and for every stream in it a FLUSH call
follows its last WRITE call. -/
theorem flushall_flushes_everything (ρ : Nat → Reply) (s : St) :
    (flushall ρ s).chain = s.chain ∧ ∀ x ∈ s.chain, flushedSinceWrite x.sid (flushall ρ s).log = true :=
  ⟨(flushallLoop_spec ρ _ s).2.1, fun x hx => flushallLoop_flushes ρ _ s x.sid (.inr (List.mem_map_of_mem hx))⟩

/-- **(d)** When `hawk_rtx_loop` returns — normally or by a run error — every stream still open has been sent a
FLUSH after the last WRITE it received.  (What happens when that FLUSH fails: `final_flush_failure_surfaces`.) -/
theorem flushed_at_return (ρ : Nat → Reply) (cfg : Cfg) (prog : List Stmt) :
    ∀ x ∈ (loop ρ cfg prog).1.chain, flushedSinceWrite x.sid (loop ρ cfg prog).1.log = true := by
  intro x hx
  have := flushall_flushes_everything ρ (runStmts ρ cfg prog St.init).1
  simp only [loop] at hx ⊢
  rw [this.1] at hx
  exact this.2 x hx

/-- **(d)/(b)** (repair `rio-final-flush-failure-fails-the-run`) The FLUSH that `hawk_rtx_loop` sends to the `i`-th
open stream at the end of the run is handler call number `calls + i`.  If that stream has a write side and the call
fails, `hawk_rtx_loop` does not report success: output that could not be written is not lost silently. -/
theorem final_flush_failure_surfaces (ρ : Nat → Reply) (cfg : Cfg) (prog : List Stmt) (i : Nat) (x : Strm)
    (hx : (runStmts ρ cfg prog St.init).1.chain[i]? = some x) (hw : x.hasWriteSide = true)
    (hf : ρ ((runStmts ρ cfg prog St.init).1.calls + i) = .fail) :
    (loop ρ cfg prog).2 = true := by
  simp [loop, flushallFails_of hx hw hf]

/-- the number of handler calls the final flush makes: one per open stream -/
theorem final_flush_calls (ρ : Nat → Reply) (s : St) : (flushall ρ s).calls = s.calls + s.chain.length :=
  (flushallLoop_spec ρ s.chain s).2.2

/-- (repair `rio-close-reports-unwritten-output`) `close()` of a stream that has a write side first sends FLUSH;
if that fails the stream is closed all the same — a file or one-way pipe leaves the chain — but the result is -1 -/
theorem close_reports_flush_failure (ρ : Nat → Reply) (s : St) (name : String) (x : Strm)
    (hx : s.chain.find? (closeHit name none) = some x) (hw : x.key.mask = .wr)
    (hf : ρ s.calls = .fail) (hc : ρ (s.calls + 1) ≠ .fail) :
    (closeio ρ s name none).2 = -1 ∧ (closeio ρ s name none).1.chain = s.chain.eraseP (closeHit name none) := by
  simp only [closeio, hx, preFlush, Strm.hasWriteSide, hw, closeReq, closeMode]
  simp only [decide_true, Bool.true_or, if_true, emit_calls, hf, Reply.isFail]
  cases hr : ρ (s.calls + 1) with
  | fail => exact absurd hr hc
  | eof => simp
  | accept k => simp

/-! ## the console read loop (getline at the end of a console stream asks the handler for the NEXT stream)

A handler that answers READ→0, NEXT→1, READ→0, NEXT→1, … keeps `hawk_rtx_readio` in its loop forever.  The model
bounds the loop by `fuel` (`Op.read … fuel`, `Cfg.readFuel`); running out yields the result `-2` / `SRes.hang` =
"the C has not returned", and `runStmts` stops there (its flag is then `true`).  All theorems above hold for every
fuel, i.e. also for the prefix of such an endless run (safety: (b), (c), `no_write_after_eof`; the statements about
`loop`/`runProgram` then describe a return the C never reaches).  The two theorems below say that the fuel is
nothing but that bound. -/

/-- once a read returns (result ≠ -2), more fuel changes neither the result nor the state nor the log -/
theorem read_result_independent_of_fuel (ρ : Nat → Reply) (fuel extra : Nat) (s : St) (ik : InKind) (name : String)
    (h : (readio ρ fuel s ik name).2 ≠ -2) : readio ρ (fuel + extra) s ik name = readio ρ fuel s ik name :=
  readio_fuel_add ρ fuel extra s ik name h

/-- running out of fuel means the loop made `fuel` handler calls without ending, none of them failing, and —
from 2 turns on — only the console can do that (other inputs return 0 at their first EOF) -/
theorem read_out_of_fuel_is_endless_next (ρ : Nat → Reply) (con : Bool) (sid : Nat) (key : Key) (fuel : Nat) (eof : Bool)
    (s : St) (h : (readLoop ρ con sid key fuel eof s).2 = -2) :
    (readLoop ρ con sid key fuel eof s).1.calls = s.calls + fuel ∧ (2 ≤ fuel → con = true) ∧
    ¬ FailedIn ρ s.calls (readLoop ρ con sid key fuel eof s).1.calls :=
  readLoop_hang_calls ρ con sid key fuel eof s h

/-- the hypotheses of `final_flush_failure_surfaces` are satisfiable: one print, the final FLUSH (call 3) fails -/
example : (loop (fun i => if i = 3 then .fail else .accept 9) {} [.print .file "f" false (some [['a']])]).2 = true := by
  simp [loop, runStmts, stmt, writePieces, printPieces, printPieces.go, writeio, prepareWrite, findKey, St.init, writeLoop,
    flushallFails, Strm.hasWriteSide, OutKind.key, OutKind.mask, Reply.isFail]

/-- the hypotheses of `close_reports_flush_failure` are satisfiable -/
example : let s := (exec (fun _ => .accept 9) St.init [.write .file "f" false ['a']]).1
    ∃ x, s.chain.find? (closeHit "f" none) = some x ∧ x.key.mask = .wr := by
  simp [exec, step, writeio, prepareWrite, findKey, St.init, writeLoop, closeHit, closeMode, OutKind.key, OutKind.mask]

/-- the console loop really goes round: READ→eof, NEXT→ok, READ→record returns 1 after three calls (four with the OPEN) … -/
example : (readio (fun i => if i = 1 then .eof else .accept 0) 8 St.init .console "").2 = 1 ∧
    (readio (fun i => if i = 1 then .eof else .accept 0) 8 St.init .console "").1.calls = 4 := by
  simp [readio, readRec, readLoop, findKey, St.init, InKind.isConsole]

/-- … and an endless handler exhausts any fuel (here 3) -/
example : (readio (fun i => if i % 2 = 1 then .eof else .accept 0) 3 St.init .console "").2 = -2 := by
  simp [readio, readRec, readLoop, findKey, St.init, InKind.isConsole]

/-- a handler that takes one character per call satisfies `AllAccept` -/
example : AllAccept (fun _ => .accept 0) := fun _ => ⟨0, rfl⟩

/-- `FailedBetween` is satisfiable by a reachable statement execution: a getline whose OPEN fails -/
example : FailedBetween (fun _ => .fail) St.init (stmt (fun _ => .fail) {} St.init (.getline .file "f")).1 :=
  ⟨0, by decide, by decide, rfl⟩

/-- a stream with `out.eof` set is reachable: one WRITE answered "end of stream" -/
example : ∃ x ∈ (exec (fun i => if i = 0 then .accept 0 else .eof) St.init [.write .file "f" false ['a']]).1.chain,
    x.outEof = true := by
  simp [exec, step, writeio, prepareWrite, findKey, St.init, writeLoop, modifyFirst, hasKey, OutKind.key]

/-- the hypotheses of `print_success_is_complete` are met by a one-character-at-a-time handler -/
example : let r := stmt (fun _ => .accept 0) {} St.init (.print .file "f" false (some [['a', 'b']]))
    r.2 = .unit ∧ ∀ y ∈ r.1.chain, y.key = OutKind.file.key "f" → y.outEof = false ∧ y.outEos = false := by
  simp [stmt, writePieces, printPieces, printPieces.go, writeio, prepareWrite, findKey, St.init, writeLoop, hasKey, OutKind.key]

/-- the hypotheses of `rwpipe_same_end_twice` are met after `close(cmd, "r")` on a two-way pipe -/
example : ∃ x, (exec (fun _ => .accept 0) St.init [.write .rwpipe "c" false [], .close "c" (some true)]).1.chain = [x]
    ∧ x.key.name = "c" ∧ x.key.mask = .rw ∧ x.rwcstate = .rd := by
  simp [exec, step, writeio, prepareWrite, findKey, St.init, writeLoop, closeio, closeReq, preFlush, Strm.hasWriteSide,
    closeHit, closeMode, modifyFirst, OutKind.key, OutKind.mask]

end Hawk.Rio.C05
