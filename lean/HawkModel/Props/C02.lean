import HawkModel.AwkLemmas
/-!
C02: POSIX awk programs behave as they do in the reference awks.  The correspondence check (`vlib/props/c02.py`) ties
the Lean interpreter (`Hawk.Awk.runWith`, `runInv`) to hawk and to gawk/mawk on generated programs; the theorems here
carry the "for all inputs" part for the pieces of the semantics that are new in this property.
-/
namespace Hawk.Awk.C02
open Hawk.Awk

/-- number → string → number is the identity on every integer (for constant strings and for strings
that came from input alike) -/
theorem num_str_roundtrip_num (i : Int) :
    toNum (.str (intToStr i)) = some i ∧ toNum (.strnum (intToStr i)) = some i :=
  ⟨strToNum_intToStr i, strToNum_intToStr i⟩

/-- string → number → string is the identity on canonical decimal numerals (`0`, `17`, `-4`; no sign `+`,
no leading zeros, no `-0`) -/
theorem num_str_roundtrip_str (s : String) (h : CanonInt s.toList) :
    ∃ i, toNum (.str s) = some i ∧ toStr (.num i) = s := by
  obtain ⟨i, hi⟩ := intDigits_surj h
  obtain rfl : intToStr i = s := by rw [intToStr, hi, String.ofList_toList]
  exact ⟨i, strToNum_intToStr i, rfl⟩

example : CanonInt "-40".toList := by
  refine Or.inr ⟨"40".toList, rfl, ⟨by decide, by decide, by decide⟩, by decide⟩

example : toNum (.str (intToStr (-7))) = some (-7) := (num_str_roundtrip_num (-7)).1

theorem lookup_snoc (l : Assoc) (k : String) (v : Val) (h : l.lookup k = none) :
    (l ++ [(k, v)]).lookup k = some v := by
  rw [List.lookup_append, h, Option.none_or, List.lookup_cons, beq_self_eq_true]

/-- an uninitialised value is 0 as a number, "" as a string, false as a condition, and compares equal to
both 0 and ""; an unbound variable and a missing array element evaluate to it -/
theorem uninit_is_zero_and_empty :
    toNum .uninit = some 0 ∧ toStr .uninit = "" ∧ toBool .uninit = some false ∧
    cmpVals .uninit (.num 0) = some .eq ∧ cmpVals .uninit (.str "") = some .eq ∧
    cmpVals .uninit .uninit = some .eq ∧
    (∀ fuel x s, s.locals.lookup x = none → s.globals.lookup x = none → readSpecial x s = none →
        unsupportedSpecials.contains x = false → eval (fuel + 1) (.var x) s = .ok .uninit s) ∧
    (∀ id key s, id < s.arrays.length → (getArr id s).lookup key = none →
        ∃ s', readLoc (.elem id key) s = .ok .uninit s' ∧ (getArr id s').lookup key = some .uninit) := by
  refine ⟨rfl, rfl, rfl, by decide, by decide, by decide, ?_, ?_⟩
  · intro fuel x s hl hg hs hu
    have hu' : ¬ x ∈ unsupportedSpecials := by simpa using hu
    unfold eval
    simp [readVar, hl, hg, hs, hu']
  · intro id key s hid h
    refine ⟨{ s with arrays := s.arrays.set id (getArr id s ++ [(key, .uninit)]) }, ?_, ?_⟩
    · simp only [readLoc, h]
    · simp only [getArr, List.getElem?_set_self hid, Option.getD_some]
      exact lookup_snoc _ _ _ h

/-- truth value of the begin pattern on record `k` (false beyond the input) -/
def bAt (l : List (Bool × Bool)) (k : Nat) : Bool := ((l[k]?).map (·.1)).getD false
/-- truth value of the end pattern on record `k` -/
def eAt (l : List (Bool × Bool)) (k : Nat) : Bool := ((l[k]?).map (·.2)).getD false
/-- does the range rule fire on record `i` when the automaton starts in state `o`? -/
def firesAt (o : Bool) (l : List (Bool × Bool)) (i : Nat) : Bool := ((rangeRun o l)[i]?).getD false

/-- POSIX `pattern1, pattern2`: record `i` is selected iff some record `j ≤ i` matches the begin pattern and
no record in `[j, i)` matches the end pattern.  (A record that matches both opens and closes the range on
itself; the end pattern is inclusive.) -/
def PosixRange (l : List (Bool × Bool)) (i : Nat) : Prop :=
  ∃ j, j ≤ i ∧ bAt l j = true ∧ ∀ k, j ≤ k → k < i → eAt l k = false

@[simp] theorem bAt_zero (b e : Bool) (t) : bAt ((b, e) :: t) 0 = b := rfl
@[simp] theorem bAt_succ (p : Bool × Bool) (t) (k : Nat) : bAt (p :: t) (k + 1) = bAt t k := rfl
@[simp] theorem eAt_zero (b e : Bool) (t) : eAt ((b, e) :: t) 0 = e := rfl
@[simp] theorem eAt_succ (p : Bool × Bool) (t) (k : Nat) : eAt (p :: t) (k + 1) = eAt t k := rfl
@[simp] theorem firesAt_zero (o b e : Bool) (t) : firesAt o ((b, e) :: t) 0 = (rangeStep o b e).1 := rfl
@[simp] theorem firesAt_succ (o b e : Bool) (t) (i : Nat) :
    firesAt o ((b, e) :: t) (i + 1) = firesAt (rangeStep o b e).2 t i := rfl

theorem range_automaton_gen (l : List (Bool × Bool)) :
    ∀ (o : Bool) (i : Nat), i < l.length →
      (firesAt o l i = true ↔ ((o = true ∧ ∀ k, k < i → eAt l k = false) ∨ PosixRange l i)) := by
  induction l with
  | nil => intro o i hi; simp at hi
  | cons p t ih =>
    obtain ⟨b, e⟩ := p
    intro o i hi
    cases i with
    | zero =>
      have h0 : PosixRange ((b, e) :: t) 0 ↔ b = true :=
        ⟨fun ⟨j, hj, hb, _⟩ => by obtain rfl : j = 0 := Nat.le_zero.mp hj; exact hb,
          fun hb => ⟨0, Nat.le_refl 0, hb, fun k _ hk => absurd hk (Nat.not_lt_zero k)⟩⟩
      rw [firesAt_zero, h0]
      cases o <;> cases b <;> simp [rangeStep]
    | succ i =>
      -- a range that reaches record i + 1 starts at record 0, which then does not close it, or later
      have hs : PosixRange ((b, e) :: t) (i + 1) ↔
          (b = true ∧ e = false ∧ ∀ k, k < i → eAt t k = false) ∨ PosixRange t i := by
        constructor
        · rintro ⟨j, hj, hb, hk⟩
          cases j with
          | zero => exact Or.inl ⟨hb, hk 0 (Nat.le_refl 0) (Nat.succ_pos i),
              fun k hk' => hk (k + 1) (Nat.zero_le _) (Nat.succ_lt_succ hk')⟩
          | succ j => exact Or.inr ⟨j, Nat.le_of_succ_le_succ hj, hb,
              fun k hjk hk' => hk (k + 1) (Nat.succ_le_succ hjk) (Nat.succ_lt_succ hk')⟩
        · rintro (⟨hb, he, hk⟩ | ⟨j, hj, hb, hk⟩)
          · exact ⟨0, Nat.zero_le _, hb, fun k _ =>
              (Nat.forall_lt_succ_left (p := fun k => eAt ((b, e) :: t) k = false)).mpr ⟨he, hk⟩ k⟩
          · refine ⟨j + 1, Nat.succ_le_succ hj, hb, fun k hjk hk' => ?_⟩
            cases k with
            | zero => exact absurd hjk (Nat.not_succ_le_zero j)
            | succ k => exact hk k (Nat.le_of_succ_le_succ hjk) (Nat.lt_of_succ_lt_succ hk')
      rw [firesAt_succ, ih _ i (Nat.lt_of_succ_lt_succ hi), hs]
      simp only [Nat.forall_lt_succ_left, eAt_zero, eAt_succ]
      cases o <;> cases b <;> cases e <;> simp [rangeStep]

/-- **range_automaton_spec.**  For every sequence of (begin-pattern, end-pattern) truth values, one per record,
the range automaton started closed fires exactly on the POSIX ranges. -/
theorem range_automaton_spec (l : List (Bool × Bool)) (i : Nat) (hi : i < l.length) :
    firesAt false l i = true ↔ PosixRange l i := by
  rw [range_automaton_gen l false i hi, Bool.false_eq_true, false_and, false_or]

/-- the rule fires once per record: the output of the automaton is as long as the input -/
theorem rangeRun_length (o : Bool) (l : List (Bool × Bool)) : (rangeRun o l).length = l.length := by
  induction l generalizing o with
  | nil => rfl
  | cons p t ih => obtain ⟨b, e⟩ := p; simp [rangeRun, ih]

/-- the lazily evaluating, monadic automaton used by the interpreter (`patFires`) computes `rangeStep`
whenever the two patterns are pure computations -/
theorem rangeStepM_pure (o b e : Bool) :
    rangeStepM (m := Id) o (pure b) (pure e) = pure (rangeStep o b e) :=
  rangeStepM_of_pure o b e

/-- tie to the interpreter: on a record where the begin/end patterns evaluate (without changing the state) to
`bv`/`ev`, rule `i` with pattern `b, e` fires iff `rangeStep` says so and stores `rangeStep`'s next state -/
theorem patFires_range (fuel i : Nat) (b e : Expr) (s : St) (bv ev : Bool)
    (hb : evalBool fuel b s = .ok bv s) (he : evalBool fuel e s = .ok ev s) :
    patFires fuel i (.range b e) s =
      .ok (rangeStep (s.ranges.getD i false) bv ev).1
          { s with ranges := s.ranges.set i (rangeStep (s.ranges.getD i false) bv ev).2 } := by
  simp only [patFires, bind, M.bind, getS, modifyS, pure, M.pure, rangeStepM_ok _ hb he]

/-- non-vacuity: a record matching both patterns is a one-record range; the end record is inclusive; the
begin pattern is ignored while the range is open -/
example : rangeRun false [(true, true), (false, false), (true, false), (true, false), (false, true), (false, false)]
    = [true, false, true, true, true, false] := by decide

/-- `exit` in a BEGIN action: the main input is not read (the main phase `Mn` does not occur in the result),
the END actions run on the state BEGIN left, with the status of that `exit` -/
theorem driver_phases_exit_in_begin (B Mn E : M Unit) (s0 s1 : St) (c : Option Int)
    (hB : B s0 = .exit c s1) :
    drive B Mn E s0 = finishEnd E (clearLocals s1) (statusAfter 0 c) := by
  simp [drive, hB]

/-- normal end of input: END actions run after the main phase, status 0 so far -/
theorem driver_phases_normal (B Mn E : M Unit) (s0 s1 s2 : St)
    (hB : B s0 = .ok () s1) (hM : Mn s1 = .ok () s2) :
    drive B Mn E s0 = finishEnd E s2 0 := by
  simp [drive, hB, hM]

/-- `exit` in a main rule: END actions still run, with the status of that `exit` -/
theorem driver_phases_exit_in_main (B Mn E : M Unit) (s0 s1 s2 : St) (c : Option Int)
    (hB : B s0 = .ok () s1) (hM : Mn s1 = .exit c s2) :
    drive B Mn E s0 = finishEnd E (clearLocals s2) (statusAfter 0 c) := by
  simp [drive, hB, hM]

/-- `exit` inside END terminates the program: nothing runs afterwards; `exit expr` replaces the status,
a bare `exit` keeps the status of the earlier `exit expr` -/
theorem driver_phases_exit_in_end (E : M Unit) (s s' : St) (status : Int) (c : Option Int)
    (hE : E s = .exit c s') :
    finishEnd E s status = .ok (s', statusAfter status c) := by
  simp [finishEnd, hE]

theorem driver_phases_end_normal (E : M Unit) (s s' : St) (status : Int)
    (hE : E s = .ok () s') :
    finishEnd E s status = .ok (s', status) := by
  simp [finishEnd, hE]

/-- the exit status is the value of the last executed `exit expr` (0 if there was none) -/
theorem driver_phases_status_last (c1 c2 : Option Int) :
    statusAfter (statusAfter 0 c1) c2 = (c2.or c1).getD 0 := by
  cases c1 <;> cases c2 <;> rfl

/-- an `exit` in one BEGIN/END action skips the remaining actions of that kind -/
theorem driver_phases_exit_skips_rest (fuel : Nat) (a : List Stmt) (rest : List (List Stmt)) (s s' : St)
    (c : Option Int) (h : execList fuel a s = .exit c s') :
    runActions fuel (a :: rest) s = .exit c s' := by
  simp [runActions, bind, M.bind, h]

/-- actions of one kind run in source order -/
theorem driver_phases_actions_in_order (fuel : Nat) (a : List Stmt) (rest : List (List Stmt)) (s s' : St)
    (h : execList fuel a s = .ok .norm s') :
    runActions fuel (a :: rest) s = runActions fuel rest s' := by
  simp [runActions, bind, M.bind, h]

/-- the statement `exit expr` aborts with the numeric value of `expr`; a bare `exit` aborts without a status -/
theorem driver_phases_exit_stmt (fuel : Nat) (e : Expr) (s s' : St) (v : Val) (n : Int)
    (he : eval fuel e s = .ok v s') (hn : toNum v = some n) :
    exec (fuel + 1) (.exit (some e)) s = .exit (some n) s' ∧
    exec (fuel + 1) (.exit none) s = .exit none s := by
  constructor
  · unfold exec
    simp [bind, M.bind, he, numVal, liftOpt, hn, pure, M.pure]
  · unfold exec; rfl

/-- at end of input the main loop stops normally (and then `drive` runs END) -/
theorem driver_phases_eof (fuel budget : Nat) (rules : List Rule) (s s' : St)
    (h : getlineMain s = (none, s')) :
    mainLoop fuel rules (budget + 1) s = .ok () s' := by
  simp [mainLoop, h]

/-- `next` abandons the remaining rules for the current record -/
theorem driver_phases_next (fuel i : Nat) (r : Rule) (body : List Stmt) (rest : List Rule) (s s1 s2 : St)
    (hb : r.body = some body) (hp : patFires fuel i r.pat s = .ok true s1)
    (hx : execList fuel body s1 = .ok .next s2) :
    runRules fuel i (r :: rest) s = .ok () s2 := by
  simp [runRules, bind, M.bind, hp, hb, hx, pure, M.pure]

/-- the whole program: exit status is reduced modulo 256 and standard output is what the phases printed -/
theorem driver_phases_run (fuel : Nat) (p : Prog) (inv : Invocation) (s : St) (status : Int)
    (h : drive (runActions fuel p.begins)
          (if p.rules.isEmpty && p.ends.isEmpty then pure ()
           else mainLoop fuel p.rules (totalRecords (initStateInv p inv).pending + 1))
          (runActions fuel p.ends) (initStateInv p inv) = .ok (s, status))
    (hf : s.fault = false) :
    runInv fuel p inv =
      .ok { stdout := s.out, status := (status % 256).toNat, files := s.outFiles } := by
  simp only [runInv]
  rw [h]
  simp [hf]

/-- non-vacuity of the phase theorems: a BEGIN phase that exits with status 3, a main phase that would print,
an END phase that sets NR to 7 -/
example :
    drive (fun s => .exit (some 3) s) (fun s => .ok () { s with out := s.out ++ "main" })
        (fun s => .ok () { s with nr := 7 }) {} = .ok ({ nr := 7 }, 3) := by
  rw [driver_phases_exit_in_begin _ _ _ _ _ _ rfl]
  rfl

/-- the main-input reader delivers a record: NR grows by one, FNR becomes the record's number within its
file (old FNR + 1 in the current file, 1 in a newly opened file), and `$0`/fields are untouched.  (A pending
command-line assignment may assign NR, FNR or any variable: see `operand_assignment_when_reached`.) -/
theorem readMain_some (pending : List Pend) (hp : filesOnly pending) :
    ∀ (isOpen : Bool) (s s' : St) (r : String), readMain pending isOpen s = (some r, s') →
      s'.nr = s.nr + 1 ∧ (s'.fnr = s.fnr + 1 ∨ s'.fnr = 1) ∧ s'.rec0 = s.rec0 ∧ s'.fields = s.fields ∧
      s'.out = s.out ∧ s'.locals = s.locals ∧ s'.globals = s.globals := by
  intro isOpen s s' r h
  obtain ⟨hs, hf⟩ := readMain_files hp h
  exact ⟨by rw [hs]; rfl, hf rfl, by rw [hs], by rw [hs], by rw [hs], by rw [hs], by rw [hs]⟩

/-- at end of input nothing is counted and the record is untouched -/
theorem readMain_none (pending : List Pend) (hp : filesOnly pending) :
    ∀ (isOpen : Bool) (s s' : St), readMain pending isOpen s = (none, s') →
      s'.nr = s.nr ∧ s'.rec0 = s.rec0 ∧ s'.fields = s.fields := by
  intro isOpen s s' h
  have hs := (readMain_files hp h).1
  exact ⟨by rw [hs]; rfl, by rw [hs], by rw [hs]⟩

/-- within the current file FNR grows by exactly one -/
theorem readMain_same_file (name : String) (r : String) (rs : List String) (rest) (s : St) :
    readMain (.file name (r :: rs) :: rest) true s =
      (some r, { s with pending := .file name rs :: rest, headOpen := true, nr := s.nr + 1, fnr := s.fnr + 1 }) := by
  simp [readMain]

/-- **getline_counters (plain `getline`).**  On success NR and FNR are incremented, `$0` is the new record and
the fields (hence NF) are the new record's fields; at end of input 0 is returned and `$0`, NF, NR are unchanged. -/
theorem getline_counters_plain (fuel : Nat) (s : St) (hp : filesOnly s.pending) :
    (∀ r s1 fl, getlineMain s = (some r, s1) → splitBy s1.fs r = some fl →
      eval (fuel + 1) (.getline none none) s =
        .ok (.num 1) { s1 with rec0 := r, rec0num := looksNumeric r, fields := fl.map mkInput } ∧
      s1.nr = s.nr + 1 ∧ (s1.fnr = s.fnr + 1 ∨ s1.fnr = 1)) ∧
    (∀ s1, getlineMain s = (none, s1) →
      eval (fuel + 1) (.getline none none) s = .ok (.num 0) s1 ∧
      s1.nr = s.nr ∧ s1.rec0 = s.rec0 ∧ s1.fields = s.fields) := by
  constructor
  · intro r s1 fl h hs
    have hm := readMain_some _ hp _ _ _ _ h
    refine ⟨?_, hm.1, hm.2.1⟩
    unfold eval
    simp [h, setRecord, setRecordAs, hs, bind, M.bind, pure, M.pure]
  · intro s1 h
    have hm := readMain_none _ hp _ _ _ h
    refine ⟨?_, hm⟩
    unfold eval
    simp [h]

theorem writeVar_global (x : String) (v : Val) (s : St)
    (hl : s.locals.lookup x = none) (hs : writeSpecial x v = none) (hu : unsupportedSpecials.contains x = false)
    (harr : ∀ id, s.globals.lookup x ≠ some (.arr id)) :
    writeVar x v s = .ok () { s with globals := setAssoc x (.val v) s.globals } := by
  have hu' : ¬ x ∈ unsupportedSpecials := by simpa using hu
  cases hg : s.globals.lookup x with
  | none => simp [writeVar, hl, hs, hu', hg]
  | some c =>
    cases c with
    | arr id => exact absurd hg (harr id)
    | val v0 => simp [writeVar, hl, hs, hu', hg]
    | fresh => simp [writeVar, hl, hs, hu', hg]

/-- assigning an ordinary global variable changes neither the record nor the counters -/
theorem writeVar_frame (x : String) (v : Val) (s s' : St)
    (hl : s.locals.lookup x = none) (hs : writeSpecial x v = none) (hu : unsupportedSpecials.contains x = false)
    (h : writeVar x v s = .ok () s') :
    s'.rec0 = s.rec0 ∧ s'.fields = s.fields ∧ s'.nr = s.nr ∧ s'.fnr = s.fnr ∧
    s'.globals = setAssoc x (.val v) s.globals := by
  have harr : ∀ id, s.globals.lookup x ≠ some (.arr id) := fun id hg => by
    have hu' : ¬ x ∈ unsupportedSpecials := by simpa using hu
    simp [writeVar, hl, hs, hu', hg] at h
  rw [writeVar_global x v s hl hs hu harr] at h
  cases h
  exact ⟨rfl, rfl, rfl, rfl, rfl⟩

/-- **getline_counters (`getline var`).**  NR and FNR are incremented, `var` receives the record (as a value from
input), `$0` and the fields (NF) are left alone. -/
theorem getline_counters_var (fuel : Nat) (x : String) (s s1 : St) (r : String)
    (hl : s.locals.lookup x = none) (hs : ∀ v, writeSpecial x v = none)
    (hu : unsupportedSpecials.contains x = false)
    (harr : ∀ id, s.globals.lookup x ≠ some (.arr id))
    (hp : filesOnly s.pending)
    (h : getlineMain s = (some r, s1)) :
    ∃ s2, eval (fuel + 2) (.getline (some (.var x)) none) s = .ok (.num 1) s2 ∧
      s2.nr = s.nr + 1 ∧ (s2.fnr = s.fnr + 1 ∨ s2.fnr = 1) ∧ s2.rec0 = s.rec0 ∧ s2.fields = s.fields ∧
      s2.globals = setAssoc x (.val (mkInput r)) s.globals := by
  obtain ⟨hs1, hf⟩ := readMain_files hp h
  have hw := writeVar_global x (mkInput r) s1 (by rw [hs1]; exact hl) (hs _) hu (by rw [hs1]; exact harr)
  refine ⟨{ s1 with globals := setAssoc x (.val (mkInput r)) s1.globals }, ?_, ?_⟩
  · unfold eval
    simp [evalLoc, touchLoc, bind, M.bind, pure, M.pure, h, writeLoc, hw]
  · exact ⟨by rw [hs1]; rfl, hf rfl, by rw [hs1], by rw [hs1], by rw [hs1]⟩

/-- opening a file for reading touches no counter and no record state -/
theorem openReader_frame (name content : String) (s s1 : St) (r : String) (h : openReader name content s = .got r s1) :
    s1.nr = s.nr ∧ s1.fnr = s.fnr ∧ s1.rec0 = s.rec0 ∧ s1.fields = s.fields ∧ s1.fs = s.fs := by
  obtain ⟨rd, rfl⟩ := openReader_readersOnly h
  exact ⟨rfl, rfl, rfl, rfl, rfl⟩

/-- reading a record of a named file touches no counter and no record state -/
theorem readFile_frame (name : String) (s s1 : St) (r : String) (h : readFile name s = .got r s1) :
    s1.nr = s.nr ∧ s1.fnr = s.fnr ∧ s1.rec0 = s.rec0 ∧ s1.fields = s.fields ∧ s1.fs = s.fs := by
  obtain ⟨rd, rfl⟩ := readFile_readersOnly h
  exact ⟨rfl, rfl, rfl, rfl, rfl⟩

/-- **getline_counters (`getline < file`).**  `$0` and the fields are replaced; NR and FNR do not change. -/
theorem getline_counters_file (fuel : Nat) (fe : Expr) (s s0 s1 : St) (fv : Val) (r : String) (fl : List String)
    (hf : eval fuel fe s = .ok fv s0) (h : readFile (toStr fv) s0 = .got r s1)
    (hs : splitBy s1.fs r = some fl) :
    eval (fuel + 1) (.getline none (some fe)) s =
      .ok (.num 1) { s1 with rec0 := r, rec0num := looksNumeric r, fields := fl.map mkInput } ∧
    s1.nr = s0.nr ∧ s1.fnr = s0.fnr := by
  have hm := readFile_frame _ _ _ _ h
  refine ⟨?_, hm.1, hm.2.1⟩
  unfold eval
  simp [bind, M.bind, hf, h, setRecord, setRecordAs, hs, pure, M.pure]

/-- **getline_counters (`getline var < file`).**  Only `var` changes: NR, FNR, `$0` and the fields stay. -/
theorem getline_counters_var_file (fuel : Nat) (fe : Expr) (x : String) (s s0 s1 : St) (fv : Val) (r : String)
    (hf : eval (fuel + 1) fe s = .ok fv s0) (h : readFile (toStr fv) s0 = .got r s1)
    (hl : s1.locals.lookup x = none) (hs : ∀ v, writeSpecial x v = none)
    (hu : unsupportedSpecials.contains x = false)
    (harr : ∀ id, s1.globals.lookup x ≠ some (.arr id)) :
    eval (fuel + 2) (.getline (some (.var x)) (some fe)) s =
      .ok (.num 1) { s1 with globals := setAssoc x (.val (mkInput r)) s1.globals } ∧
    s1.nr = s0.nr ∧ s1.fnr = s0.fnr ∧ s1.rec0 = s0.rec0 ∧ s1.fields = s0.fields := by
  have hw := writeVar_global x (mkInput r) s1 hl (hs _) hu harr
  constructor
  · unfold eval
    simp only [bind, M.bind, hf]
    simp [evalLoc, touchLoc, pure, M.pure, h, writeLoc, hw]
  · obtain ⟨rd, rfl⟩ := readFile_readersOnly h
    exact ⟨rfl, rfl, rfl, rfl⟩

/-- a failed open returns -1 and changes nothing -/
theorem getline_counters_nofile (fuel : Nat) (fe : Expr) (s s0 : St) (fv : Val)
    (hf : eval fuel fe s = .ok fv s0) (h : readFile (toStr fv) s0 = .noFile) :
    eval (fuel + 1) (.getline none (some fe)) s = .ok (.num (-1)) s0 := by
  unfold eval
  simp [bind, M.bind, hf, h]

example : getlineMain { pending := [.file "f" ["a b", "c"]], headOpen := false } =
    (some "a b", { pending := [.file "f" ["c"]], headOpen := true, filename := "f", nr := 1, fnr := 1 }) := by
  simp [getlineMain, readMain]

example : readFile "f" { fsys := [], readers := [("f", ["l1", "l2"])] } =
    .got "l1" { fsys := [], readers := [("f", ["l2"])] } := by
  simp [readFile, List.lookup, setAssoc]

/-- non-vacuity: an ordinary variable name satisfies the side conditions of the getline/uninit theorems -/
example : (∀ v, writeSpecial "line" v = none) ∧ readSpecial "line" {} = none ∧
    unsupportedSpecials.contains "line" = false ∧ (({} : St).locals.lookup "line" = none) ∧
    (∀ id, ({} : St).globals.lookup "line" ≠ some (.arr id)) := by
  refine ⟨fun v => by simp [writeSpecial], by simp [readSpecial], by decide, rfl, fun id => by simp⟩

/-- non-vacuity: `getline line` on a two-record file: NR = FNR = 1 afterwards, `$0` untouched, `line` set -/
example : ∃ s2, eval 2 (.getline (some (.var "line")) none) { pending := [.file "f" ["a b", "c"]] } = .ok (.num 1) s2 ∧
    s2.nr = 1 ∧ s2.rec0 = "" ∧ s2.globals = [("line", .val (mkInput "a b"))] := by
  obtain ⟨s2, h1, h2, _, h4, _, h6⟩ :=
    getline_counters_var 0 "line" { pending := [.file "f" ["a b", "c"]] }
      { pending := [.file "f" ["c"]], headOpen := true, filename := "f", nr := 1, fnr := 1 } "a b"
      rfl (fun v => by simp [writeSpecial]) (by decide) (fun id => by simp)
      (by intro p hp; simp at hp; subst hp; rfl)
      (by simp [getlineMain, readMain])
  exact ⟨s2, h1, by simpa using h2, h4, by simpa [setAssoc] using h6⟩

theorem toStr_mkInput (v : String) : toStr (mkInput v) = v := by
  unfold mkInput; split <;> rfl

theorem lookup_setAssoc {β} (x : String) (c : β) (l : List (String × β)) : (setAssoc x c l).lookup x = some c := by
  rw [lookup_setAssoc_eq, if_pos (beq_self_eq_true x)]

/-- a command-line assignment to an ordinary variable stores the value — a numeric string when it looks numeric —
in the GLOBAL variable, whatever function locals are active, and changes nothing else -/
theorem cmdline_assign_ordinary (x v : String) (s : St)
    (hs : ∀ w, writeSpecial x w = none) (hu : unsupportedSpecials.contains x = false)
    (harr : ∀ id, s.globals.lookup x ≠ some (.arr id)) :
    assignGlobal x v s = { s with globals := setAssoc x (.val (mkInput v)) s.globals } := by
  have h := writeVar_global x (mkInput v) { s with locals := [] } rfl (hs _) hu harr
  simp [assignGlobal, h]

/-- a command-line assignment to OFS / FS sets the separator itself (this is the path `hawk -v OFS=:` takes) -/
theorem cmdline_assign_separators (v : String) (s : St) :
    assignGlobal "OFS" v s = { s with ofs := v } ∧ assignGlobal "FS" v s = { s with fs := v } := by
  constructor <;>
    simp [assignGlobal, writeVar, writeSpecial, unsupportedSpecials, modifyS, toStr_mkInput, List.lookup]

/-- `-v` assignments are carried out in command-line order before the first BEGIN action; `-F` sets FS; the
`var=value` operands are still pending (not carried out) when BEGIN starts -/
theorem cmdline_before_begin (p : Prog) (inv : Invocation) :
    (∀ x v t s, applyVars ((x, v) :: t) s = applyVars t (assignGlobal x v s)) ∧
    (initStateInv p { inv with vars := [] }).fs = inv.fsOpt.getD " " ∧
    ((operandFiles inv.operands).isEmpty = false →
      (initStateInv p { inv with vars := [] }).pending = inv.operands.map operandPend) := by
  refine ⟨fun _ _ _ _ => rfl, rfl, ?_⟩
  intro h
  simp [initStateInv, applyVars, h]

/-- the value of `-v x=v` is what `x` evaluates to in BEGIN -/
theorem cmdline_v_visible_in_begin (fuel : Nat) (x v : String) (s : St)
    (hl : s.locals.lookup x = none)
    (hs : ∀ w, writeSpecial x w = none) (hr : ∀ t, readSpecial x t = none)
    (hu : unsupportedSpecials.contains x = false)
    (harr : ∀ id, s.globals.lookup x ≠ some (.arr id)) :
    eval (fuel + 1) (.var x) (assignGlobal x v s) = .ok (mkInput v) (assignGlobal x v s) := by
  rw [cmdline_assign_ordinary x v s hs hu harr]
  have hu' : ¬ x ∈ unsupportedSpecials := by simpa using hu
  unfold eval
  simp [readVar, hl, hr, hu', lookup_setAssoc]

/-- non-vacuity: `awk -v n=7 'BEGIN { … n … }'` — n evaluates to the numeric string 7 in BEGIN -/
example : eval 1 (.var "n") (assignGlobal "n" "7" {}) = .ok (mkInput "7") (assignGlobal "n" "7" {}) :=
  cmdline_v_visible_in_begin 0 "n" "7" {} rfl (fun w => by simp [writeSpecial]) (fun t => by simp [readSpecial])
    (by decide) (fun id => by simp)

/-- a `var=value` operand is carried out exactly when the reader reaches it — after the records of the files before
it, before the file after it is opened, and before END when it is the last operand -/
theorem operand_assignment_when_reached (x v : String) (rest : List Pend) (isOpen : Bool) (s : St) :
    readMain (.assign x v :: rest) isOpen s = readMain rest false (assignGlobal x v s) ∧
    readMain [.assign x v] isOpen s = (none, { assignGlobal x v s with pending := [], headOpen := false }) := by
  constructor <;> simp [readMain]

/-- non-vacuity: `awk '…' n=7 f` — the first record of f is delivered with n already set, NR = 1 -/
example : getlineMain { pending := [.assign "n" "7", .file "f" ["r1"]] } =
    (some "r1", { globals := [("n", .val (.strnum "7"))], pending := [.file "f" []], headOpen := true,
                  filename := "f", nr := 1, fnr := 1 }) := by
  have h : assignGlobal "n" "7" ({ pending := [.assign "n" "7", .file "f" ["r1"]] } : St) =
      { pending := [.assign "n" "7", .file "f" ["r1"]], globals := [("n", .val (.strnum "7"))] } := by
    rw [cmdline_assign_ordinary "n" "7" _ (fun w => by simp [writeSpecial]) (by decide) (fun id => by simp)]
    have : mkInput "7" = .strnum "7" := by decide
    simp [setAssoc, this]
  simp [getlineMain, readMain, h]

/-- every evaluator function is a total Lean function defined by structural recursion on the fuel; running
out of fuel is reported as the distinct error `Err.fuel` (never a truncated result) -/
theorem fuel_exhaustion_is_reported (e : Expr) (st : Stmt) (l : List Stmt) (s : St) :
    eval 0 e s = .err .fuel ∧ exec 0 st s = .err .fuel ∧ execList 0 l s = .err .fuel ∧
    (∀ fuel rules, mainLoop fuel rules 0 s = .err .fuel) := by
  exact ⟨rfl, rfl, rfl, fun _ _ => rfl⟩

/-- the interpreter is a function: equal programs and inputs give equal outcomes (determinism) -/
theorem run_deterministic (fuel : Nat) (p : Prog) (files : List File) (stdin : String) (extra : List File)
    (o1 o2 : Except Err Outcome)
    (h1 : runWith fuel p files stdin extra = o1) (h2 : runWith fuel p files stdin extra = o2) : o1 = o2 := by
  rw [← h1, ← h2]

/-- reading a record from an input pipe touches no counter and no record state -/
theorem readCmd_frame (cmd : String) (s s1 : St) (r : String) (h : readCmd cmd s = .got r s1) :
    s1.nr = s.nr ∧ s1.fnr = s.fnr ∧ s1.rec0 = s.rec0 ∧ s1.fields = s.fields ∧ s1.fs = s.fs := by
  obtain ⟨rd, rfl⟩ := readCmd_readersOnly h
  exact ⟨rfl, rfl, rfl, rfl, rfl⟩

/-- **getline_counters (`cmd | getline`).**  `$0` and the fields (NF) are replaced by the next record of the command's
output; NR and FNR do not change.  (POSIX tabulates NR as set by this form; gawk 5.2, mawk 1.3.4 and hawk all leave
it alone — `awk 'BEGIN { "echo a" | getline; print NR }'` prints 0 in all three — and the property is agreement with
the reference awks, which the exhaustive getline-table cases of the check confirm on every run.) -/
theorem getline_counters_cmd (fuel : Nat) (ce : Expr) (s s0 s1 : St) (cv : Val) (r : String) (fl : List String)
    (hf : eval fuel ce s = .ok cv s0) (h : readCmd (toStr cv) s0 = .got r s1)
    (hs : splitBy s1.fs r = some fl) :
    eval (fuel + 1) (.getlineCmd none ce) s =
      .ok (.num 1) { s1 with rec0 := r, rec0num := looksNumeric r, fields := fl.map mkInput } ∧
    s1.nr = s0.nr ∧ s1.fnr = s0.fnr := by
  have hm := readCmd_frame _ _ _ _ h
  refine ⟨?_, hm.1, hm.2.1⟩
  unfold eval
  simp [bind, M.bind, hf, h, setRecord, setRecordAs, hs, pure, M.pure]

/-- **getline_counters (`cmd | getline var`).**  Only `var` changes: NR, FNR, `$0` and the fields stay. -/
theorem getline_counters_var_cmd (fuel : Nat) (ce : Expr) (x : String) (s s0 s1 : St) (cv : Val) (r : String)
    (hf : eval (fuel + 1) ce s = .ok cv s0) (h : readCmd (toStr cv) s0 = .got r s1)
    (hl : s1.locals.lookup x = none) (hs : ∀ v, writeSpecial x v = none)
    (hu : unsupportedSpecials.contains x = false)
    (harr : ∀ id, s1.globals.lookup x ≠ some (.arr id)) :
    eval (fuel + 2) (.getlineCmd (some (.var x)) ce) s =
      .ok (.num 1) { s1 with globals := setAssoc x (.val (mkInput r)) s1.globals } ∧
    s1.nr = s0.nr ∧ s1.fnr = s0.fnr ∧ s1.rec0 = s0.rec0 ∧ s1.fields = s0.fields := by
  have hw := writeVar_global x (mkInput r) s1 hl (hs _) hu harr
  constructor
  · unfold eval
    simp only [bind, M.bind, hf]
    simp [evalLoc, touchLoc, pure, M.pure, h, writeLoc, hw]
  · obtain ⟨rd, rfl⟩ := readCmd_readersOnly h
    exact ⟨rfl, rfl, rfl, rfl⟩

/-- at end of file every redirected form returns 0 and changes neither the record nor a counter -/
theorem getline_eof_changes_nothing (fuel : Nat) (fe : Expr) (s s0 s1 : St) (fv : Val)
    (hf : eval fuel fe s = .ok fv s0) :
    (readFile (toStr fv) s0 = .eof s1 → eval (fuel + 1) (.getline none (some fe)) s = .ok (.num 0) s1) ∧
    (readCmd (toStr fv) s0 = .eof s1 → eval (fuel + 1) (.getlineCmd none fe) s = .ok (.num 0) s1) ∧
    (readFile (toStr fv) s0 = .eof s1 ∨ readCmd (toStr fv) s0 = .eof s1 →
      s1.nr = s0.nr ∧ s1.fnr = s0.fnr ∧ s1.rec0 = s0.rec0 ∧ s1.fields = s0.fields ∧ s1.globals = s0.globals) := by
  refine ⟨?_, ?_, ?_⟩
  · intro h; unfold eval; simp [bind, M.bind, hf, h]
  · intro h; unfold eval; simp [bind, M.bind, hf, h]
  · intro h
    obtain ⟨rd, rfl⟩ := h.elim readFile_readersOnly readCmd_readersOnly
    exact ⟨rfl, rfl, rfl, rfl, rfl⟩

/-- non-vacuity: `"echo a b" | getline` delivers the record `a b`; a second read is at end of file -/
example : readCmd "echo a b" {} = .got "a b" { readers := [("echo a b", [])] } ∧
    readCmd "echo a b" { readers := [("echo a b", [])] } = .eof { readers := [("echo a b", [])] } := by
  constructor
  · rfl
  · simp [readCmd, List.lookup]

/-- POSIX comparison rules for numeric strings, for all strings and numbers: a numeric string from input compares
NUMERICALLY with a number, with another numeric string and with an uninitialised value, but as a STRING with a
string constant; a string constant compares as a string even with a number (the number is converted). -/
theorem strnum_comparison_rules (s t : String) (i x y : Int) (hx : strToNum s = some x) (hy : strToNum t = some y) :
    cmpVals (.strnum s) (.num i) = some (cmpInt x i) ∧
    cmpVals (.num i) (.strnum s) = some (cmpInt i x) ∧
    cmpVals (.strnum s) (.strnum t) = some (cmpInt x y) ∧
    cmpVals (.strnum s) .uninit = some (cmpInt x 0) ∧
    cmpVals (.strnum s) (.str t) = some (cmpChars s.toList t.toList) ∧
    cmpVals (.str s) (.strnum t) = some (cmpChars s.toList t.toList) ∧
    cmpVals (.str s) (.num i) = some (cmpChars s.toList (intToStr i).toList) ∧
    cmpVals (.str s) (.str t) = some (cmpChars s.toList t.toList) := by
  simp [cmpVals, isNumeric, toNum, toStr, hx, hy]

/-- non-vacuity: the field `10` is greater than the number 9 but, as a string, smaller than the constant "9" -/
example : cmpVals (.strnum "10") (.num 9) = some .gt ∧ cmpVals (.strnum "10") (.str "9") = some .lt := by decide

theorem cmpChars_swap (a b : List Char) : cmpChars b a = (cmpChars a b).swap := by
  rw [cmpChars_eq, cmpChars_eq]
  exact Std.OrientedCmp.eq_swap

theorem cmpInt_swap (x y : Int) : cmpInt y x = (cmpInt x y).swap := by
  rw [cmpInt_eq, cmpInt_eq, Int.compare_swap]

/-- comparison is antisymmetric for ALL pairs of values: swapping the operands swaps the outcome (so `a < b` iff
`b > a`, `a == b` iff `b == a`), whichever of the numeric / string rules applies -/
theorem cmpVals_swap (a b : Val) : cmpVals b a = (cmpVals a b).map Ordering.swap := by
  unfold cmpVals
  rw [Bool.and_comm (isNumeric b)]
  split
  · cases toNum a <;> cases toNum b <;> simp
    exact cmpInt_swap _ _
  · rw [Option.map_some, cmpChars_swap (toStr a).toList (toStr b).toList]

/-- the six operators are three complementary pairs on every outcome, and exactly one of `<`, `==`, `>` holds -/
theorem cmpHolds_complement (o : Ordering) :
    cmpHolds .ge o = !cmpHolds .lt o ∧ cmpHolds .le o = !cmpHolds .gt o ∧ cmpHolds .ne o = !cmpHolds .eq o ∧
    ((cmpHolds .lt o && !cmpHolds .eq o && !cmpHolds .gt o) || (!cmpHolds .lt o && cmpHolds .eq o && !cmpHolds .gt o) ||
     (!cmpHolds .lt o && !cmpHolds .eq o && cmpHolds .gt o)) = true := by
  cases o <;> decide

theorem lookup_setAssoc_ne {β} (x k : String) (c : β) (l : List (String × β)) (h : (k == x) = false) :
    (setAssoc x c l).lookup k = l.lookup k := by
  rw [lookup_setAssoc_eq, h]
  rfl

/-- a successful write in append mode (`>>`, or any write to a stream that is already open) appends the text to the
file's content and touches neither standard output nor any other file -/
theorem emitStream_append_ok (key name text : String) (s s' : St)
    (h : emitStream true key name text s = .ok () s') :
    s'.outFiles = setAssoc name ((s.outFiles.lookup name).getD "" ++ text) s.outFiles ∧ s'.out = s.out := by
  rw [emitStream_ok h]
  exact ⟨by simp only [Bool.or_true, if_true], rfl⟩

/-- a write to a stream that is already open appends — `>` and `>>` are the same operation there (the file is
truncated only when `>` OPENS it) -/
theorem emitStream_open_same (key name text : String) (s : St) (ho : s.openOuts.contains key = true) :
    emitStream false key name text s = emitStream true key name text s := by
  have ho' : key ∈ s.openOuts := by simpa using ho
  unfold emitStream
  simp [ho']

/-- `>` on a file that is not open (first use, or after close) discards what the file held; `>>` keeps it -/
theorem emitStream_opening (key name text : String) (s s1 s2 : St) (ho : s.openOuts.contains key = false)
    (h1 : emitStream false key name text s = .ok () s1) (h2 : emitStream true key name text s = .ok () s2) :
    s1.outFiles.lookup name = some text ∧
    s2.outFiles.lookup name = some ((s.outFiles.lookup name).getD "" ++ text) ∧
    s1.openOuts = key :: s.openOuts ∧ s2.openOuts = key :: s.openOuts := by
  rw [emitStream_ok h1, emitStream_ok h2]
  simp only [ho, Bool.false_or, Bool.false_eq_true, if_false, if_true, String.empty_append, lookup_setAssoc,
    and_self]

/-- a sequence of `print … >> file` statements (texts already formatted), files in any interleaving -/
def emitSeq : List (String × String) → M Unit
  | [] => pure ()
  | (n, t) :: rest => do emitTo true n t; emitSeq rest

def concatTexts : List String → String
  | [] => ""
  | t :: rest => t ++ concatTexts rest

/-- **output ordering across redirections.**  For every sequence of writes to any number of files in any
interleaving: afterwards each file holds its previous content followed by exactly the texts written to IT, in program
order — writes to other files in between never reorder, drop or duplicate anything — and standard output is
untouched. -/
theorem output_order_across_redirections (ops : List (String × String)) (s s' : St)
    (h : emitSeq ops s = .ok () s') (name : String) :
    (s'.outFiles.lookup name).getD "" =
      (s.outFiles.lookup name).getD "" ++ concatTexts ((ops.filter (fun o => o.1 == name)).map (·.2)) ∧
    s'.out = s.out := by
  induction ops generalizing s with
  | nil =>
    simp [emitSeq, pure, M.pure] at h
    subst h
    simp [concatTexts]
  | cons o rest ih =>
    obtain ⟨n, t⟩ := o
    simp only [emitSeq, bind, M.bind] at h
    split at h
    · next u s1 h1 =>
      have ha := emitStream_append_ok n n t s s1 (by simpa [emitTo] using h1)
      have hr := ih s1 h
      refine ⟨?_, hr.2.trans ha.2⟩
      rw [hr.1, ha.1, lookup_setAssoc_eq]
      cases hn : name == n with
      | true =>
        have := eq_of_beq hn
        subst this
        simp [concatTexts, String.append_assoc]
      | false => simp [BEq.comm (a := n), hn]
    · simp at h
    · simp at h

/-- non-vacuity: `print "1" >> "a"; print "2" >> "b"; print "3" >> "a"` succeeds and leaves `13` in a, `2` in b -/
example : ∃ s', emitSeq [("a", "1"), ("b", "2"), ("a", "3")] {} = .ok () s' ∧
    (s'.outFiles.lookup "a").getD "" = "13" ∧ (s'.outFiles.lookup "b").getD "" = "2" := by
  -- one write at a time, each from a state in normal form: evaluating the sequence in one go re-evaluates the
  -- state at every use
  have h1 : emitTo true "a" "1" {} = .ok () { outFiles := [("a", "1")], openOuts := ["a"] } := rfl
  have h2 : emitTo true "b" "2" { outFiles := [("a", "1")], openOuts := ["a"] } =
      .ok () { outFiles := [("a", "1"), ("b", "2")], openOuts := ["b", "a"] } := rfl
  have h3 : emitTo true "a" "3" { outFiles := [("a", "1"), ("b", "2")], openOuts := ["b", "a"] } =
      .ok () { outFiles := [("a", "13"), ("b", "2")], openOuts := ["b", "a"] } := rfl
  refine ⟨{ outFiles := [("a", "13"), ("b", "2")], openOuts := ["b", "a"] }, ?_, rfl, rfl⟩
  simp only [emitSeq, bind, M.bind, h1, h2, h3]; rfl

/-- `close` of an open output stream or reader returns 0 and the stream is gone afterwards (so the next `>`
truncates again and the next `getline <` starts from the beginning); `close` of anything else returns -1 and
changes nothing -/
theorem close_spec (key : String) (s : St) :
    (s.openOuts.contains key = true ∨ (s.readers.lookup key).isSome = true →
      ∃ s', closeStream key s = .ok (.num 0) s' ∧ s'.openOuts.contains key = false ∧ s'.outFiles = s.outFiles ∧
        s'.out = s.out) ∧
    (s.openOuts.contains key = false → (s.readers.lookup key).isSome = false →
      closeStream key s = .ok (.num (-1)) s) := by
  constructor
  · intro h
    have hc : (s.openOuts.contains key || (s.readers.lookup key).isSome) = true := by
      rcases h with h | h <;> simp only [h, Bool.true_or, Bool.or_true]
    refine ⟨{ s with openOuts := s.openOuts.filter (· != key), readers := delAssoc key s.readers }, ?_, ?_, rfl, rfl⟩
    · unfold closeStream
      rw [if_pos hc]
    · simp [List.mem_filter]
  · intro h1 h2
    have hc : ¬ (s.openOuts.contains key || (s.readers.lookup key).isSome) = true := by
      simp only [h1, h2, Bool.or_false]; exact Bool.false_ne_true
    unfold closeStream
    rw [if_neg hc]

/-- **reading back.**  A file the program wrote (and that is not an input file) can be read back with
`getline < name` exactly when no open output stream — `>`/`>>` on the file or a `| "cat > name"` pipe — still writes
it: the reader then starts at the first record of precisely the content the model holds for the file.  While a writer
is open the model refuses (`busy` = outside the profile) instead of guessing what buffering lets a reader see. -/
theorem readback_spec (name content : String) (s : St)
    (hr : s.readers.lookup name = none) (hf : s.fsys.find? (fun f => f.name == name) = none)
    (hc : s.outFiles.lookup name = some content) :
    (s.openOuts.any (writesTo name) = false → readFile name s = openReader name content s) ∧
    (s.openOuts.any (writesTo name) = true → readFile name s = .busy) := by
  constructor <;> intro hw <;> simp [readFile, hr, hf, hc, hw]

/-- non-vacuity: `print "x" > "o"; close("o"); getline < "o"` reads the record `x` back -/
example : ∃ s1 s2, emitTo false "o" "x\n" {} = .ok () s1 ∧ closeStream "o" s1 = .ok (.num 0) s2 ∧
    (∃ s3, readFile "o" s2 = .got "x" s3) ∧ readFile "o" s1 = .busy := by
  refine ⟨_, _, rfl, rfl, ⟨_, rfl⟩, rfl⟩

/-- a pipe to `cat > name` is a stream of its own (keyed by the command text) on the file `name`: opening it
truncates the file, later writes append, and the same file cannot be written through a second stream at the same
time (outside the profile) -/
theorem pipe_stream_spec (name text : String) (s : St) (hv : validOutName name = true) :
    pipeTarget ("cat > " ++ name) = some name ∧
    emitPipe ("cat > " ++ name) text s = emitStream false ("cat > " ++ name) name text s := by
  have hp : pipeTarget ("cat > " ++ name) = some name := by
    unfold pipeTarget
    have : ("cat > " ++ name).toList = "cat > ".toList ++ name.toList := by simp
    simp [this, hv]
  exact ⟨hp, by simp [emitPipe, hp]⟩

/-- redirected output never reaches standard output and never touches the record, the counters or a variable:
whatever branch a successful write to a file or pipe stream takes, only the stream table and the file contents change -/
theorem emitStream_frame (ap : Bool) (key name text : String) (s s' : St)
    (h : emitStream ap key name text s = .ok () s') :
    s'.out = s.out ∧ s'.nr = s.nr ∧ s'.fnr = s.fnr ∧ s'.rec0 = s.rec0 ∧ s'.fields = s.fields ∧
    s'.globals = s.globals ∧ s'.readers = s.readers := by
  rw [emitStream_ok h]
  exact ⟨rfl, rfl, rfl, rfl, rfl, rfl, rfl⟩

/-- the key spaces of the stream table do not collide: a valid output FILE name (letters, digits, `.`, `_`) is never
read as a pipe command, so `print > "f"` and `print | "cat > f"` are always two different streams (the model then
refuses the second one while the first is open — `two output streams on one file`) -/
theorem stream_keys_disjoint (n : String) (h : validOutName n = true) :
    pipeTarget n = none ∧ cmdSource n = none := by
  refine not_command_of_no_blank fun hm => ?_
  simp only [validOutName, Bool.and_eq_true, List.all_eq_true] at h
  have := h.2 _ hm
  revert this; decide

example : validOutName "o2.out" = true ∧ pipeTarget "cat > o2.out" = some "o2.out" := by decide

/-- `$0` is the fields joined with OFS -/
def Rebuilt (s : St) : Prop := s.rec0 = joinWith s.ofs (s.fields.map toStr)

theorem map_toStr_mkInput (fl : List String) : (fl.map mkInput).map toStr = fl := by
  induction fl with
  | nil => rfl
  | cons a t ih => simp [toStr_mkInput, ih]

/-- **record/field coherence after each of the three writes that touch the record**, for all states and values:
* `$i = v` (i ≥ 1): NF grows to at least i (never shrinks), `$i` holds the value, and `$0` IS the fields joined with
  the current OFS;
* `NF = n`: exactly n fields remain (padded with empty strings or truncated) and `$0` is rebuilt the same way;
* `$0 = r` (also every getline form that sets `$0`): `$0` is r verbatim and the fields are exactly the split of r
  with the current FS — no rebuild;
and NF always reads as the number of fields.
Partial: stated per write operation; not lifted to an invariant over arbitrary statement sequences, because between a
`$0 = r` (split with the FS of that moment) and the next field write the program may change FS or OFS, after which
neither `fields = split $0` nor `$0 = join fields` is supposed to hold (POSIX: the new FS applies to the next record). -/
theorem record_field_coherence_partial (s s' : St) :
    (∀ i v, 1 ≤ i → setField i v s = .ok () s' →
        Rebuilt s' ∧ s'.fields.length = max s.fields.length i ∧ s'.fields[i - 1]? = some (fieldVal v) ∧ s'.ofs = s.ofs) ∧
    (∀ n, setNF n s = .ok () s' → Rebuilt s' ∧ (s'.fields.length : Int) = n) ∧
    (∀ num r, setRecordAs num r s = .ok () s' →
        s'.rec0 = r ∧ splitBy s.fs r = some (s'.fields.map toStr) ∧ s'.fs = s.fs) ∧
    readSpecial "NF" s = some (.num s.fields.length) := by
  refine ⟨?_, ?_, ?_, rfl⟩
  · intro i v hi h
    unfold setField at h
    have h0 : ¬ (i == 0) = true := by rw [beq_iff_eq]; omega
    rw [if_neg h0] at h
    by_cases hbig : i > 100000
    · rw [if_pos hbig] at h; cases h
    rw [if_neg hbig] at h
    cases h
    have hpad : (if s.fields.length < i then s.fields ++ List.replicate (i - s.fields.length) (Val.str "")
        else s.fields).length = max s.fields.length i := by
      split
      · rw [List.length_append, List.length_replicate]; omega
      · omega
    refine ⟨rfl, ?_, ?_, rfl⟩
    · show (List.set _ _ _).length = _
      rw [List.length_set, hpad]
    · exact List.getElem?_set_self (by rw [hpad]; omega)
  · intro n h
    unfold setNF at h
    by_cases hn : (decide (n < 0) || decide (n > 100000)) = true
    · rw [if_pos hn] at h; cases h
    rw [if_neg hn] at h
    cases h
    refine ⟨rfl, ?_⟩
    have hn' : 0 ≤ n := by
      simp only [Bool.or_eq_true, decide_eq_true_eq, not_or] at hn; omega
    show ((if s.fields.length < n.toNat then s.fields ++ List.replicate (n.toNat - s.fields.length) (Val.str "")
        else s.fields.take n.toNat).length : Int) = n
    split
    · rw [List.length_append, List.length_replicate]; omega
    · rw [List.length_take]; omega
  · intro num r h
    unfold setRecordAs at h
    cases hfl : splitBy s.fs r with
    | none => rw [hfl] at h; cases h
    | some fl =>
      rw [hfl] at h
      cases h
      refine ⟨rfl, ?_, rfl⟩
      show some fl = some ((fl.map mkInput).map toStr)
      rw [map_toStr_mkInput]

/-- non-vacuity: `$3 = "c"` on the record `a b` gives NF = 3 and `$0 = "a b c"` -/
example : ∃ s', setField 3 (.str "c") { rec0 := "a b", fields := [.str "a", .str "b"] } = .ok () s' ∧
    s'.rec0 = "a b c" ∧ s'.fields.length = 3 := by
  refine ⟨_, rfl, by decide, by decide⟩

end Hawk.Awk.C02
