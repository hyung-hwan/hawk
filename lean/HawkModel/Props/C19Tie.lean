import HawkModel.ArrTieLemmas
import HawkModel.CTieLemmas
/-!
# C19 tie — the integer arithmetic of lib/arr.c, machine-translated, equals the hand-written model

The model definitions the C19 property theorems are about (`maxCapa`, `minCapa`, `align64`, `dblLoop`, the halving of
`retryCapa`, `hparent`, `pickChild`, the count clamp of `delete` and `uplete`) compute what the translated C of
`Gen/CFunsArr.lean` (unsigned operations with their explicit `% 2^64`, the doubling loop as `doLoop` with fuel 64) computes
on every input on which the C arithmetic does not wrap (hypotheses spelled out; the model is on unbounded naturals).
-/
namespace Hawk.Arr
open Hawk.Gen.C

/-- `pos >= HAWK_TYPE_MAX(hawk_oow_t) / HAWK_SIZEOF(*arr->slot)`: the refusal test at the head of hawk_arr_insert -/
theorem tie_ins_toofar (pos : Nat) : arrInsTooFar pos = decide (pos ≥ maxCapa) := by
  simp only [arrInsTooFar, maxCapa]; rfl

/-- `capa > HAWK_TYPE_MAX(hawk_oow_t) / HAWK_SIZEOF(*arr->slot)`: the refusal test of hawk_arr_setcapa (`setcapaAsk`) -/
theorem tie_setcapa_toobig (capa : Nat) : arrSetcapaTooBig capa = decide (capa > maxCapa) := by
  simp only [arrSetcapaTooBig, maxCapa]; rfl

/-- `pos >= arr->capa || arr->size >= arr->capa`: the "must grow" test of `insert` -/
theorem tie_ins_needgrow (a : Arr) (pos : Nat) :
    arrInsNeedGrow pos a.capa a.size = decide (pos ≥ a.capa ∨ a.size ≥ a.capa) := rfl

/-- `mincapa = (pos >= arr->size)? (pos + 1): (arr->size + 1)` -/
theorem tie_ins_mincapa (a : Arr) (pos : Nat) (hp : pos < maxCapa) (hs : a.size < 2 ^ 64 - 1) :
    arrInsMinCapa pos a.size = minCapa a pos := by
  unfold arrInsMinCapa minCapa
  rw [Nat.mod_eq_of_lt (a := pos + 1) (by unfold maxCapa at hp; omega), Nat.mod_eq_of_lt (a := a.size + 1) (by omega)]

/-- `capa = HAWK_ALIGN_POW2(pos + 1, 64)` (`((pos+1) + 64 - 1) & ~(64 - 1)` on a 64-bit word) is `align64 (pos + 1)` -/
theorem tie_ins_align64 (pos : Nat) (hp : pos < maxCapa) : arrInsAlign64 pos = align64 (pos + 1) := by
  unfold maxCapa at hp
  have hp : pos + 65 < 18446744073709551616 := by omega
  unfold arrInsAlign64 align64
  rw [Nat.mod_eq_of_lt (a := pos + 1) (by omega), Nat.mod_eq_of_lt (a := pos + 1 + 64) (by omega),
    CTie.sub_word (b := 1) (by omega) (by omega),
    CTie.and_mask64 _ 6 18446744073709551552 (by omega) (by decide) (by omega)]
  rfl

/-- `bound = (pos >= arr->size)? pos: arr->size` -/
theorem tie_ins_bound (a : Arr) (pos : Nat) : arrInsBound pos a.size = (if pos ≥ a.size then pos else a.size) := rfl

/-- `do { capa *= 2; } while (capa <= bound);` entered with `capa = arr->capa > 0`: 64 rounds always suffice and the
    result is the model's `dblLoop`, whenever the doubled value fits the word (`capa, bound < 2^63`) -/
theorem tie_ins_double (c bound : Nat) (hc : 0 < c) (hc63 : c < 2 ^ 63) (hb : bound < 2 ^ 63) :
    arrInsDouble c bound = some (dblLoop c bound) := by
  unfold arrInsDouble
  rw [Tie.dbl_aux _ bound (by omega) _ (fun x => rfl) 63 c hc (by omega) (by
    have : 1 * 2 ^ 64 ≤ c * 2 ^ 64 := Nat.mul_le_mul_right _ hc
    omega)]

/-- the capacity `insert` asks for first (`wantCapa`) is what the translated C computes -/
theorem tie_ins_wantcapa (a : Arr) (pos : Nat) (hp : pos < maxCapa) (hc63 : a.capa < 2 ^ 63) (hs : a.size < 2 ^ 63) :
    some (wantCapa a pos) =
      (if a.capa = 0 then some (arrInsAlign64 pos) else arrInsDouble a.capa (arrInsBound pos a.size)) := by
  unfold wantCapa
  by_cases h0 : a.capa = 0
  · simp [h0, tie_ins_align64 pos hp]
  · have hb : arrInsBound pos a.size < 2 ^ 63 := by
      simp only [arrInsBound, maxCapa] at *
      split <;> omega
    simp only [h0, if_false]
    rw [tie_ins_double a.capa _ (by omega) hc63 hb, tie_ins_bound]

/-- `capa = mincapa + (capa - mincapa) / 2` after a refused request that was above the minimum -/
theorem tie_ins_halve (capa mincapa : Nat) (h : mincapa ≤ capa) (hc : capa < 2 ^ 64) :
    arrInsHalve mincapa capa = mincapa + (capa - mincapa) / 2 := by
  unfold arrInsHalve
  rw [CTie.sub_word h hc]
  exact Nat.mod_eq_of_lt (by omega)

/-- one round of the retry loop of hawk_arr_insert, with the translated give-up test and halving step, is one unfolding
    of the model's `retryCapa` -/
theorem tie_ins_retry (capa mincapa : Nat) (o : Oracle) (hc : capa < 2 ^ 64) :
    retryCapa capa mincapa o =
      (match setcapaAsk capa o with
       | (true, o') => (some capa, o')
       | (false, o') =>
         if arrInsGiveUp capa mincapa then (none, o') else retryCapa (arrInsHalve mincapa capa) mincapa o') := by
  rw [retryCapa]
  cases hs : setcapaAsk capa o with
  | mk b o' =>
    cases b
    · by_cases h : capa ≤ mincapa
      · simp [arrInsGiveUp, h]
      · simp [arrInsGiveUp, h, tie_ins_halve capa mincapa (by omega) hc]
    · rfl

/-- `HEAP_PARENT(index)` of sift_up/sift_down (`(index - 1) / 2` on a 64-bit word) is `hparent` for every index > 0 -/
theorem tie_heap_parent (i : Nat) (h0 : 0 < i) (h : i < 2 ^ 64) : arrHeapParent i = hparent i := by
  unfold arrHeapParent hparent
  rw [CTie.sub_word (b := 1) h0 h]

/-- `base = arr->size / 2` of sift_down -/
theorem tie_heap_base (l : List Nat) : arrHeapBase l.length = l.length / 2 := rfl

/-- `HEAP_LEFT(index)`, `HEAP_RIGHT(index)`, `right < arr->size` and `child = (n > 0)? right: left` of sift_down, put
    together, are the model's `pickChild` (for every index whose children fit the word) -/
theorem tie_heap_pick (l : List Nat) (i : Nat) (hi : i < 2 ^ 62) :
    pickChild l i =
      (if arrHeapHasRight (arrHeapRight i) l.length
       then arrHeapPick (cmp (l.getD (arrHeapRight i) 0) (l.getD (arrHeapLeft i) 0)) (arrHeapRight i) (arrHeapLeft i)
       else arrHeapLeft i) := by
  have h2 : i * 2 % 18446744073709551616 = 2 * i := by rw [Nat.mod_eq_of_lt (by omega), Nat.mul_comm]
  have hl : arrHeapLeft i = 2 * i + 1 := by unfold arrHeapLeft; rw [h2, Nat.mod_eq_of_lt (by omega)]
  have hr : arrHeapRight i = 2 * i + 2 := by unfold arrHeapRight; rw [h2, Nat.mod_eq_of_lt (by omega)]
  simp only [hl, hr, pickChild, arrHeapHasRight, arrHeapPick, decide_eq_true_eq]

/-- hawk_arr_delete: the out-of-range test, the count clamp `if (count > arr->size - index) count = arr->size - index;` and
    the `count <= 0` exit give the number of deleted cells the model's `delete` reports -/
theorem tie_delete_count (a : Arr) (index count : Nat) (hs : a.size < 2 ^ 64) :
    (delete a index count).2.1 =
      (if arrDelOut index a.size then 0
       else if arrDelNone (arrDelClamp count a.size index) then 0 else arrDelClamp count a.size index) := by
  unfold delete arrDelOut arrDelNone
  by_cases h : index ≥ a.size
  · simp only [h, if_true, decide_true]
  · have e : arrDelClamp count a.size index = (if count > a.size - index then a.size - index else count) := by
      simp only [arrDelClamp, CTie.sub_word (a := a.size) (b := index) (by omega) hs]
    simp only [e, h, if_false, decide_false, Bool.false_eq_true, Nat.le_zero_eq, decide_eq_true_eq]
    generalize (if count > a.size - index then a.size - index else count) = n
    split <;> rfl

/-- hawk_arr_uplete: the same test and clamp (no `count <= 0` exit) -/
theorem tie_uplete_count (a : Arr) (index count : Nat) (hs : a.size < 2 ^ 64) :
    (uplete a index count).2.1 = (if arrUplOut index a.size then 0 else arrUplClamp count a.size index) := by
  unfold uplete arrUplOut
  by_cases h : index ≥ a.size
  · simp only [h, if_true, decide_true]
  · simp only [arrUplClamp, CTie.sub_word (a := a.size) (b := index) (by omega) hs, h, if_false, decide_false, Bool.false_eq_true]

example : arrInsDouble 64 200 = some 256 := by decide

end Hawk.Arr
