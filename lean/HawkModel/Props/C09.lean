import HawkModel.CtxRun
import HawkModel.CtxApiLemmas
/-!
# C09 — Runtime contexts are isolated and the embedding API keeps its ownership contract

Sections 1 to 7 are about `HawkModel/Ctx.lean` (one interpreter: the parsed program and the call-site cache, shared,
and its runtime contexts in depth), section 8 about `HawkModel/CtxApi.lean` (several `hawk_t`, object level).  The
invariant of reachable states the statements are under (`CtxOK`, `WorldOK`) is at the end of `CtxRun`.

All statements quantify over every abstract program, every context state satisfying the stated
invariant (which `reachable_ok` shows every reachable state satisfies) and every operation /
history.  Interleaving is at API-call granularity; thread-level concurrency is not modelled.
-/
namespace Hawk.Ctx

/-! ## 1. the shared call-site cache -/

/-- what a call site resolves to is a function of the program alone, whatever (consistent) cache
    content it finds — so a write by another context cannot change any observation -/
theorem cache_value_determined (p : Prog) (k : Cache) (hk : Consistent p k) (site : Nat) :
    (resolve p k site).2 = p.lookup (p.siteName site) ∧ Consistent p (resolve p k site).1 :=
  ⟨resolve_snd hk site, resolve_consistent hk site⟩

/-- resolving a call site a second time (by the same or by another context) neither changes the
    cache nor the answer: the write `call->u.fun.fun = fun` is idempotent -/
theorem cache_write_idempotent (p : Prog) (k : Cache) (site : Nat) :
    resolve p (resolve p k site).1 site = ((resolve p k site).1, (resolve p k site).2) := by
  unfold resolve
  cases hk : k site with
  | some fid => simp [hk]
  | none =>
    cases p.lookup (p.siteName site) with
    | none => simp [hk]
    | some fid => simp [Cache.set]

/-- every operation on a context leaves the shared cache consistent with the program, and the
    context's new state and its observation do not depend on which consistent cache it started from:
    the cache is the only shared state and it carries no information -/
theorem op_touches_only_own_ctx_and_cache (p : Prog) (k₁ k₂ : Cache) (hk₁ : Consistent p k₁) (hk₂ : Consistent p k₂)
    (c : Ctx) (op : Op) :
    (stepCtx p k₁ c op).1 = (stepCtx p k₂ c op).1 ∧ (stepCtx p k₁ c op).2.2 = (stepCtx p k₂ c op).2.2 ∧
    Consistent p (stepCtx p k₁ c op).2.1 :=
  stepCtx_blind hk₁ hk₂ c op

/-- an operation on one context does not touch any other context -/
theorem other_contexts_untouched (w : World) (o : WOp) (cid : Nat) (h : o.cid ≠ cid) :
    (w.step o).1.ctxs cid = w.ctxs cid := step_other w o cid h

/-! ## 2. non-interference -/

/-- for any interleaving `h` of API operations on any number of contexts of one interpreter, the
    observation sequence of context `cid` (return values, reference counts, argument values,
    error number, exit level, stack height, open streams, NR, console output, file contents) is
    the one obtained by running only `cid`'s own operations on a fresh interpreter -/
theorem noninterference (p : Prog) (h : List WOp) (cid : Nat) :
    obsOf cid ((World.init p).run h).2 =
    obsOf cid ((World.init p).run (h.filter (fun o => o.cid == cid))).2 := by
  apply run_isolated
  exact ⟨rfl, consistent_empty p, consistent_empty p, rfl⟩

/-- the same for two arbitrary interleavings that contain the same operations of `cid` in the same order -/
theorem noninterference_two_schedules (p : Prog) (h₁ h₂ : List WOp) (cid : Nat)
    (hsame : h₁.filter (fun o => o.cid == cid) = h₂.filter (fun o => o.cid == cid)) :
    obsOf cid ((World.init p).run h₁).2 = obsOf cid ((World.init p).run h₂).2 := by
  rw [noninterference p h₁ cid, noninterference p h₂ cid, hsame]

/-! ## 3. reachable states -/

theorem step_ok (w : World) (o : WOp) (h : WorldOK w) : WorldOK (w.step o).1 := (step_ok_obs w o h).1

theorem run_ok (ops : List WOp) : ∀ (w : World), WorldOK w → WorldOK (w.run ops).1 := by
  induction ops with
  | nil => intro w h; exact h
  | cons o os ih => intro w h; simp only [World.run]; exact ih _ (step_ok w o h)

/-- every state reachable from a freshly parsed interpreter by any history satisfies the invariant -/
theorem reachable_ok (p : Prog) (h : List WOp) : WorldOK ((World.init p).run h).1 :=
  run_ok h _ ⟨consistent_empty p, fun cid c hc => by simp [World.init, Interp.parse, Interp.clear] at hc⟩

/-! ## 4. a context stays usable after a failed call -/

/-- the stack is restored on every path of every operation: between API calls only the globals
    are on the stack (`stack_top` = number of globals) and `stack_base` is 0 -/
theorem stack_restored (p : Prog) (k : Cache) (hk : Consistent p k) (c : Ctx) (hc : Clean c) (op : Op) :
    let c' := (stepCtx p k c op).1
    c'.stack.length = c'.ng ∧ c'.base = 0 ∧ c'.tmps = [] := by
  have h := stepCtx_clean p k c op hc
  exact ⟨h.len, h.base, h.tmps⟩

/-- a call that fails (run-time error, stack exhaustion at any depth, unknown function, too many
    arguments, a by-reference copy-back rejected after the callee already executed `return`) on a
    context that has not exited leaves `exit_level` at NONE, the stack restored (`core`: bookkeeping
    slots, base, number of globals), the application's handle table at its size and every reference
    count exact.  These are the hypotheses again, so the next call is admitted as the failed one was;
    what remains of the failed call are the effects of the statements that did run (globals, streams,
    records, the sticky error number).  That the handles themselves are untouched is
    `call_leaves_arguments`. -/
theorem usable_after_failed_call (p : Prog) (k : Cache) (hk : Consistent p k) (c : Ctx)
    (hc : Clean c) (hs : Sound c) (hx : c.exitLevel = xlNone) (fname : String) (args : List Arg)
    (hf : (stepCtx p k c (.call fname args)).2.2.failed = true) :
    let c' := (stepCtx p k c (.call fname args)).1
    Clean c' ∧ Sound c' ∧ c'.exitLevel = xlNone ∧ c'.core = c.core ∧ c'.handles.length = c.handles.length := by
  exact ⟨stepCtx_clean p k c _ hc, stepCtx_sound p k c _ hs, stepCtx_call_failed_xl p k c fname args hx hf,
    (stepCtx_rest p k c _).1, congrArg List.length ((stepCtx_rest p k c _).2.2.2 rfl)⟩

/-- `exit` and `hawk_rtx_halt` are the documented exceptions: once the exit level is GLOBAL or ABORT
    every further call is refused with EPERM and changes nothing else ... -/
theorem latched_call_refused (p : Prog) (c : Ctx) (k : Cache) (f : Fun) (args : List Val)
    (h : xlGlobal ≤ c.exitLevel) : callFun p c k f args = (c.setErr .eperm, k, none) := by
  unfold callFun; simp [h]

/-- ... until `hawk_rtx_loop` runs, which always ends with the exit level reset -/
theorem loop_unlatches (p : Prog) (c : Ctx) (k : Cache) : (loop p c k).1.exitLevel = xlNone := by
  rcases loop_cases p c with h | h <;> rw [h k]
  · rfl
  · rfl

/-! ## 5. ownership -/

/-- for every operation — in particular `call`, on its success, failure and exit paths, with
    by-reference and map arguments — once the caller has dropped the result once (and its own
    temporaries), every reference count equals the number of references that exist, nothing is
    in flight, no count was dropped below zero or touched after being freed (`fault`), and the
    application's handle table is as large as before: the ledger is balanced -/
theorem ownership_balanced (p : Prog) (k : Cache) (hk : Consistent p k) (c : Ctx) (hs : Sound c) (op : Op) :
    let r := stepCtx p k c op
    (∀ id, r.1.heap.rc id = r.1.refs id) ∧ r.1.heap.fault = false ∧ r.1.handles.length = c.handles.length := by
  have h := stepCtx_sound p k c op hs
  refine ⟨fun id => by simpa [occL] using h.inv.2 id, h.inv.1.nofault, by rw [h.hlen, hs.hlen]⟩

/-- a `call` leaves the application's handles exactly as they were: arguments are left to the caller
    (the patched `push_arg_from_vals` never writes to the caller's array) -/
theorem call_leaves_arguments (p : Prog) (k : Cache) (hk : Consistent p k) (c : Ctx) (fname : String) (args : List Arg) :
    (stepCtx p k c (.call fname args)).1.handles = c.handles :=
  (stepCtx_rest p k c _).2.2.2 rfl

/-- no dangling reference: whatever a sound context or the application refers to is live, with
    exactly the count of those references -/
theorem no_dangling (c : Ctx) (hs : Sound c) (j : Nat) (h : 1 ≤ c.refs j) :
    ∃ cell, c.heap.cells j = some cell ∧ cell.rc = c.refs j :=
  hs.inv.cell h

/-- nothing leaks: when the application has dropped its handles and the context is closed, the
    heap is empty and no count ever went wrong -/
theorem close_releases_all (c : Ctx) (hc : Clean c) (hs : Sound c) :
    (releaseAll c).heap.fault = false ∧ ∀ id, (releaseAll c).heap.cells id = none :=
  releaseAll_empty hs.inv hc.tmps

/-- consequently the model never predicts a FAULT flag, a non-zero stack height or base in any
    observation of any reachable history (these are the lines the C harness must reproduce) -/
theorem observations_clean (ops : List WOp) : ∀ (w : World), WorldOK w →
    ∀ x, x ∈ (w.run ops).2 → x.2.top = 0 ∧ x.2.base = 0 ∧ x.2.fault = false := by
  induction ops with
  | nil => intro w _ x hx; simp [World.run] at hx
  | cons o os ih =>
    intro w hw x hx
    simp only [World.run, List.mem_cons] at hx
    rcases hx with rfl | hx
    · exact (step_ok_obs w o hw).2
    · exact ih _ (step_ok w o hw) x hx

/-! ## 6. the explicit stack budget is the context's own `HAWK_RTX_STACK_AVAIL` -/

/-- `runBody` carries the free stack space as an explicit argument (that is what makes it a total
    function: the C recursion is bounded by `rtx_stack_limit` in the same way).  Entering a frame
    reduces `HAWK_RTX_STACK_AVAIL` of the context by exactly what `runBody` subtracts ... -/
theorem avail_enter (c : Ctx) (f : Fun) (args : List Expr) (nl : Nat) (h : args.length ≤ f.nargs) :
    (pushNils (enterCall c f args) nl).avail = c.avail - stackReq f args.length - nl := by
  rw [avail_frame (skel_enterCall c f args nl h), stackReq, Nat.max_eq_right h]
  omega

/-- ... and a body hands the context back with the stack height it found, so the budget passed on
    to the rest of the calling body is again the context's own free space: by induction every
    HAWK_ESTACK decision of `runBody p c.avail c ..` is the one the C code takes from `stack_top` -/
theorem avail_after (p : Prog) (k : Cache) (hk : Consistent p k) (avail : Nat) (c : Ctx) (body : List Action) :
    (runBody p avail c k body).2.1.avail = c.avail :=
  avail_of_skel (runBody_run p avail c k body).skel

/-! ## 7. reset and reuse of the interpreter -/

/-- `hawk_clear` followed by `hawk_parse` of program `p` — on an interpreter with any past (any
    earlier program, any cache contents) whose contexts have all been closed — gives a world that is
    the freshly created interpreter that parsed `p`: every later history is observed identically -/
theorem clear_then_parse_eq_fresh (w : World) (hclosed : ∀ cid, w.ctxs cid = none) (p : Prog) (h : List WOp) :
    ({ w with interp := w.interp.clear.parse p } : World).run h = (World.init p).run h := by
  rw [parse_eq_init w hclosed p]

/-- `hawk_parse` alone clears first, so it has the same effect -/
theorem parse_eq_fresh (w : World) (hclosed : ∀ cid, w.ctxs cid = none) (p : Prog) (h : List WOp) :
    ({ w with interp := w.interp.parse p } : World).run h = (World.init p).run h :=
  clear_then_parse_eq_fresh w hclosed p h

/-- after a reset nothing of the earlier program is left: no function, no global, no cached pointer -/
theorem clear_forgets (i : Interp) : i.clear.prog.funs = [] ∧ i.clear.prog.ng = 0 ∧ ∀ s, i.clear.cache s = none :=
  ⟨rfl, rfl, fun _ => rfl⟩


/-- the hypotheses of `usable_after_failed_call` are satisfiable: a fresh context of any program is
    clean, sound and at exit level NONE, and a call of an unknown function fails on it -/
example (p : Prog) : Clean (Ctx.fresh p 0) ∧ Sound (Ctx.fresh p 0) ∧ (Ctx.fresh p 0).exitLevel = xlNone :=
  ⟨fresh_clean p 0, fresh_sound p 0, rfl⟩

example : (stepCtx {} Cache.empty (Ctx.fresh {} 0) (.call "nosuch" [])).2.2.failed = true := by
  simp [stepCtx, mkArgs, callByName, Prog.lookup, Ctx.snapIO, Ctx.snap]

/-- a world with two open contexts is reachable and satisfies the invariant -/
example (p : Prog) : WorldOK ((World.init p).run [.open 0, .open 1, .op 0 .halt, .op 1 (.mkstr 0 "a")]).1 :=
  reachable_ok p _

/-- the hypothesis of `clear_then_parse_eq_fresh` holds after every context has been closed -/
example (p : Prog) : ∀ cid, ((World.init p).run [.open 0, .close 0]).1.ctxs cid = none := by
  intro cid
  simp [World.run, World.step, World.init, World.setCtx, Interp.parse, Interp.clear]

end Hawk.Ctx

/-!
## 8. several `hawk_t`: the object level of the embedding API (model: `HawkModel/CtxApi.lean`)

A world is any number of `hawk_t` objects, each with its runtimes.  One API call is `World.step`; by construction
it reads and writes only the `hawk_t` it is made on (`stepHawk`), which is what the correspondence harness
`harness/ctxapi_h.c` checks on the real code with one counting memory manager per `hawk_t`.
-/
namespace Hawk.CtxApi


/-- a call on one `hawk_t` leaves every other `hawk_t` (with all its runtimes) exactly as it was -/
theorem api_other_hawk_untouched (w : World) (o : Op) (j : Nat) (h : o.hawk ≠ j) : (w.step o).1 j = w j :=
  World.set_other w _ h

/-- the result of a call and the new state of its `hawk_t` depend on that `hawk_t` alone -/
theorem api_step_local (w w' : World) (o : Op) (h : w o.hawk = w' o.hawk) :
    (w.step o).2 = (w'.step o).2 ∧ (w.step o).1 o.hawk = (w'.step o).1 o.hawk := by
  simp [World.step, h]

/-- calls on different `hawk_t` commute: same final world, and each call returns what it returns alone -/
theorem api_commute (w : World) (a b : Op) (h : a.hawk ≠ b.hawk) :
    ((w.step a).1.step b).1 = ((w.step b).1.step a).1 ∧
    ((w.step a).1.step b).2 = (w.step b).2 ∧ ((w.step b).1.step a).2 = (w.step a).2 := by
  simp only [World.step, World.set_other w _ h, World.set_other w _ (Ne.symm h), and_true]
  exact World.set_comm w _ _ h

theorem api_trace_congr (i : Nat) (ops : List Op) : ∀ w w' : World, w i = w' i → w.trace i ops = w'.trace i ops :=
  fun w w' h => (World.trace_isolated i ops w w' h).trans (World.trace_isolated i ops w' w' rfl).symm

/-- non-interference over any number of `hawk_t`: for every interleaving, what is observable of `hawk_t` `i`
    is what the history's projection on `i` (its own calls alone, in order) produces -/
theorem api_noninterference (i : Nat) (ops : List Op) : ∀ w : World,
    w.trace i ops = w.trace i (ops.filter (fun o => o.hawk == i)) :=
  fun w => World.trace_isolated i ops w w rfl

/-- two interleavings with the same calls of `i` in the same order are indistinguishable on `i` -/
theorem api_noninterference_two_schedules (i : Nat) (h₁ h₂ : List Op) (w : World)
    (hsame : h₁.filter (fun o => o.hawk == i) = h₂.filter (fun o => o.hawk == i)) :
    w.trace i h₁ = w.trace i h₂ := by
  rw [api_noninterference i h₁ w, api_noninterference i h₂ w, hsame]

/-! ### inside one `hawk_t`: runtimes are isolated from each other, error state is per object -/

/-- a call on runtime `r` leaves every sibling runtime (values, handles, error number, exit level, callback chain,
    extension area) and everything of the `hawk_t` but its error number exactly as it was -/
theorem api_rtx_call_siblings_untouched (w : World) (h r q : Nat) (op : ROp) (s : HawkS) (hs : w h = some s) (hq : q ≠ r) :
    ∃ s', (w.step (.rcall h r op)).1 h = some s' ∧ s'.rtxs q = s.rtxs q ∧ s'.frame = s.frame := by
  refine ⟨(stepRtxIn h r s op).1, ?_, stepRtxIn_sibling h r q s op hq, stepRtxIn_frame h r s op⟩
  simp [World.step, Op.hawk, stepHawk, hs]

/-- the error number of the `hawk_t` after a call on one of its runtimes: `hawk_rtx_open` clears it; a call that
    looks a function up by name and misses stores ENOENT there (the one place where a runtime call writes the
    interpreter's error number: `res.herr`); every other runtime call leaves it alone -/
theorem api_rtx_call_hawk_err (w : World) (h r : Nat) (op : ROp) (s : HawkS) (hs : w h = some s) :
    ∃ s', (w.step (.rcall h r op)).1 h = some s' ∧
      s'.err = match s.rtxs r, op with
               | none, .«open» => .noerr
               | none, _ => s.err
               | some _, _ => ((w.step (.rcall h r op)).2.herr).getD s.err := by
  refine ⟨(stepRtxIn h r s op).1, by simp [World.step, Op.hawk, stepHawk, hs], ?_⟩
  have e : (w.step (.rcall h r op)).2 = (stepRtxIn h r s op).2 := by simp [World.step, Op.hawk, stepHawk, hs]
  rw [e]
  exact stepRtxIn_err h r s op

/-- only a function call writes the interpreter's error number, and only with ENOENT -/
theorem api_herr_only_lookup (tag : String) (v : View) (x : Rtx) (op : ROp) :
    (stepR tag v x op).2.herr = none ∨ ((stepR tag v x op).2.herr = some .enoent ∧ ∃ f a, op = .call f a) := by
  cases op with
  | call f a =>
    have h := stepCall_herr tag v x f a
    simp only [stepR]
    cases he : (stepCall tag v x f a).2.herr with
    | none => exact .inl rfl
    | some e => rw [he] at h; exact .inr ⟨congrArg some h, f, a, rfl⟩
  | _ => exact .inl (stepR_herr tag v x _)

/-- a call on the `hawk_t` itself (options, callbacks, globals, functions, error number, halt-all, clear, parse)
    never touches the state of a runtime -/
theorem api_hawk_call_runtimes_untouched (w : World) (h : Nat) (op : HOp) (s s' : HawkS) (hs : w h = some s)
    (hs' : (w.step (.hcall h op)).1 h = some s') : s'.rtxs = s.rtxs := by
  simp [World.step, Op.hawk, stepHawk, hs] at hs'
  have := stepH_keeps_rtxs h s op
  rw [hs'] at this
  exact this


/-- `hawk_rtx_halt` stops its own runtime only: the siblings and the halt-all flag are untouched -/
theorem api_halt_one (w : World) (h r : Nat) (s : HawkS) (x : Rtx) (hs : w h = some s) (hx : s.rtxs r = some x) :
    ∃ s', (w.step (.rcall h r .halt)).1 h = some s' ∧ (∃ x', s'.rtxs r = some x' ∧ x'.xl = 6) ∧
      (∀ q, q ≠ r → s'.rtxs q = s.rtxs q) ∧ s'.haltall = s.haltall := by
  refine ⟨(stepRtxIn h r s .halt).1, by simp [World.step, Op.hawk, stepHawk, hs], ?_, fun q hq => stepRtxIn_sibling h r q s .halt hq, ?_⟩
  · simp [stepRtxIn, hx, stepR]
  · exact congrArg Frame.haltall (stepRtxIn_frame h r s .halt)

/-- `hawk_haltall` reaches every runtime of its `hawk_t` (they all read the flag) and no other `hawk_t` -/
theorem api_haltall_reaches_every_runtime (w : World) (h : Nat) (s : HawkS) (hs : w h = some s) :
    ∃ s', (w.step (.hcall h .haltall)).1 h = some s' ∧ s'.view.haltall = true ∧ s'.rtxs = s.rtxs ∧
      ∀ j, j ≠ h → (w.step (.hcall h .haltall)).1 j = w j := by
  refine ⟨{ s with haltall := true }, by simp [World.step, Op.hawk, stepHawk, hs, stepH], rfl, rfl, ?_⟩
  intro j hj
  exact api_other_hawk_untouched w _ j (by simpa [Op.hawk] using Ne.symm hj)

/-- under halt-all every admitted function call ends with the runtime aborted and nothing else of it changed -/
theorem api_haltall_aborts (tag : String) (v : View) (r : Rtx) (f a : String) (p : Nat) (hp : v.prog = some p)
    (hf : f ∈ progFuns p) (hh : v.haltall = true) (hx : r.xl < 5) :
    (stepCall tag v r f a).1.xl = 6 ∧ (stepCall tag v r f a).1.heap = r.heap ∧
    (stepCall tag v r f a).1.g0 = r.g0 ∧ (stepCall tag v r f a).1.hnd = r.hnd := by
  unfold stepCall
  simp only [hp, hf, not_true_eq_false, if_false, Nat.not_le.mpr hx, hh, if_true]
  split <;> exact ⟨rfl, rfl, rfl, rfl⟩

/-- a runtime that exited or was halted refuses every further call with EPERM and changes nothing else ... -/
theorem api_latched_refused (tag : String) (v : View) (r : Rtx) (f a : String) (p : Nat) (hp : v.prog = some p)
    (hf : f ∈ progFuns p) (hx : 5 ≤ r.xl) :
    stepCall tag v r f a = ({ r with err := .eperm }, { out := "fail:EPERM" }) := by
  unfold stepCall
  simp [hp, hf, hx]

/-- ... until `hawk_rtx_loop`, which always ends with the exit level reset -/
theorem api_loop_unlatches (tag : String) (v : View) (r : Rtx) : (stepLoop tag v r).1.xl = 0 := by
  unfold stepLoop
  repeat' split
  all_goals rfl

/-! ### callbacks: exactly once, top first -/

/-- `hawk_close` runs the `clear` callback of every pushed set, top first, then the `close` callback of every
    pushed set, top first, and the object is gone -/
theorem api_hclose_callbacks (h : Nat) (s : HawkS) (hb : s.busy = false) :
    stepH h s .close =
      (none, { out := "ok", log := cbLog "hclear" (toString h) s.ecbs ++ cbLog "hclose" (toString h) s.ecbs }) := by
  simp [stepH, hb]

/-- `hawk_rtx_close` runs the `close` callback of every pushed runtime set, top first -/
theorem api_rclose_callbacks (tag : String) (v : View) (r : Rtx) :
    (stepR tag v r .close).1 = none ∧ (stepR tag v r .close).2.log = cbLog "rclose" tag r.ecbs := ⟨rfl, rfl⟩

/-- one event per set of the chain, in chain order -/
theorem api_cbLog_once (what tag : String) (ecbs : List Nat) :
    (cbLog what tag ecbs).length = ecbs.length ∧
    ∀ k (hk : k < ecbs.length), (cbLog what tag ecbs)[k]? = some (what ++ tag ++ ":" ++ toString ecbs[k]) := by
  refine ⟨by simp [cbLog], ?_⟩
  intro k hk
  simp [cbLog, hk]

/-- push puts a set on top, pop takes the top one off: the chain is the stack of pushed-and-not-popped sets -/
theorem api_ecb_stack (h : Nat) (s : HawkS) (e : Nat) (he : e < 4) (hn : e ∉ s.ecbs) :
    (stepH h s (.pushecb e)).1 = some { s with ecbs := e :: s.ecbs } ∧
    (stepH h { s with ecbs := e :: s.ecbs } .popecb).1 = some s := by
  constructor
  · simp [stepH, Nat.not_le.mpr he, hn]
  · simp [stepH]

/-! ### ledger: nothing of a closed object is touched, close is refused while runtimes exist -/

/-- a call on a `hawk_t` that is closed (or was never opened) changes nothing anywhere -/
theorem api_closed_hawk_untouched (w : World) (o : Op) (hn : w o.hawk = none) (hno : ∀ x, o ≠ .hopen x) :
    (w.step o).1 = w ∧ (w.step o).2.out = "nohawk" := by
  have key : stepHawk o.hawk none o = (none, { out := "nohawk" }) := by
    cases o with
    | hopen x => exact absurd rfl (hno x)
    | hcall x op => rfl
    | rcall x r op => rfl
  simp only [World.step, hn, key, and_true]
  exact World.set_eq_self hn

/-- a call on a runtime that is closed changes nothing (only `hawk_rtx_open` may name it) -/
theorem api_closed_rtx_untouched (w : World) (h r : Nat) (s : HawkS) (hs : w h = some s) (hr : s.rtxs r = none)
    (op : ROp) (hop : op ≠ .«open») :
    (w.step (.rcall h r op)).1 = w ∧ (w.step (.rcall h r op)).2.out = "nortx" := by
  have key : stepRtxIn h r s op = (s, { out := "nortx" }) := by
    unfold stepRtxIn
    cases op <;> simp_all
  simp only [World.step, Op.hawk, stepHawk, hs, key, and_true]
  exact World.set_eq_self hs

/-- `hawk_close`, `hawk_clear` and `hawk_parse` are refused while a runtime of the `hawk_t` exists, so no runtime
    ever outlives its interpreter or its program -/
theorem api_refused_while_busy (h : Nat) (s : HawkS) (hb : s.busy = true) (p : Nat) :
    stepH h s .close = (some s, { out := "busy" }) ∧ stepH h s .clear = (some s, { out := "busy" }) ∧
    stepH h s (.parse p) = (some s, { out := "busy" }) := by
  simp [stepH, hb]

/-- after `hawk_close` the object does not exist any more -/
theorem api_hclose_removes (w : World) (h : Nat) (s : HawkS) (hs : w h = some s) (hb : s.busy = false) :
    (w.step (.hcall h .close)).1 h = none := by
  simp [World.step, Op.hawk, stepHawk, hs, stepH, hb]


/-- two interpreters, the first with two runtimes, are reachable; the hypotheses of the theorems above hold there -/
example : ∃ s, ((World.empty.run [.hopen 0, .hopen 1, .hcall 0 (.parse 0), .rcall 0 0 .open, .rcall 0 1 .open]).1 0) = some s ∧
    (∃ x, s.rtxs 0 = some x ∧ x.xl < 5) ∧ s.rtxs 2 = none ∧ s.busy = true ∧ s.view.prog = some 0 := by
  refine ⟨_, rfl, ⟨_, rfl, by decide⟩, rfl, rfl, rfl⟩

example : (World.empty.run [.hopen 0, .hcall 0 (.pushecb 1), .hcall 0 (.pushecb 3), .hcall 0 .close]).2.map (·.log) =
    [[], [], [], ["hclear0:3", "hclear0:1", "hclose0:3", "hclose0:1"]] := by
  rfl

example : "getg" ∈ progFuns 0 := by decide

end Hawk.CtxApi
