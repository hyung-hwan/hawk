import HawkModel.Utf8
import HawkModel.CTieLemmas
import HawkModel.Gen.CFunsUtf8
/-!
# C15 tie (encoder arithmetic only) — the byte expressions of hawk_uc_to_utf8, machine-translated, equal the model's

`HawkModel/Gen/CFunsUtf8.lean` is regenerated by extract/c2lean.py from the checked tree's lib/utf8.c on every check:
the value stored by `utf8[--index] = (uc & 0x3F) | 0x80`, by `uc >>= 6` and by `utf8[0] = uc | cur->fbyte`
(`hawk_uch_t` promoted to `int`, the result converted to `hawk_bch_t` = `char`: the generated value is the signed char,
its byte pattern is `% 256`).  The theorems say that the bytes and the shifted character of `encTail` / `ucToUtf8` are
exactly those.  NOT tied by translation: the table walk of get_utf8_slot (the table itself is extracted by
extract/utf8_table.py), the loop structure, and all of hawk_utf8_to_uc / hawk_utf8_len (reads of `char` bytes enter
`&` as possibly negative ints; struct-pointer iteration; early returns inside loops) - those stay under correspondence.
-/
namespace Hawk.Utf8
open Hawk.Gen.C

/-- the continuation byte `encTail` conses is the byte the C stores -/
theorem tie_enc_cont (uc : Nat) :
    (UInt8.ofNat ((uc &&& 0x3F) ||| 0x80)).toNat = (utf8EncCont uc % 256).toNat :=
  CTie.toNat_ofNat_schar _

/-- `uc >>= 6` on a `hawk_uch_t` is the model's `uc >>> 6` -/
theorem tie_enc_shift (uc : Nat) (h : uc < 65536) : utf8EncShift uc = uc >>> 6 := by
  have hlt : ((uc >>> 6 : Nat) : Int) < 65536 := Int.ofNat_lt.mpr (Nat.lt_of_le_of_lt (Nat.shiftRight_le uc 6) h)
  rw [utf8EncShift, Int.ofNat_eq_natCast, Int.emod_eq_of_lt (Int.natCast_nonneg _) hlt, Int.toNat_natCast]

/-- the first byte `ucToUtf8` produces (`r.1 ||| cur.fbyte`) is the byte the C stores into `utf8[0]` -/
theorem tie_enc_first (uc fbyte : Nat) :
    (UInt8.ofNat (uc ||| fbyte)).toNat = (utf8EncFirst uc fbyte % 256).toNat :=
  CTie.toNat_ofNat_schar _

end Hawk.Utf8
