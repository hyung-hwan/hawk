import HawkModel.HtbLemmas
import HawkModel.ForInLemmas
/-!
# C16 (hash-table and for-in half) — maps behave as dictionaries; hash-table iteration visits every pair exactly once;
# `for (k in m)` visits exactly the keys present when the loop started

Models: `HawkModel/Htb.lean` (lib/htb.c) and `HawkModel/ForIn.lean` (run_forin in lib/run.c).
The hash-table theorems are stated for an arbitrary hash function, value-copier kind, value-length function and sizer
callback (`Cfg`), for every allocator behaviour, and for every history from `hawk_htb_init`.
-/
namespace Hawk.Htb

theorem init_wf (c : Cfg) (capa factor : Nat) : WF c (init capa factor) :=
  WF.of_empty c rfl (by simp only [init]; split <;> omega) rfl

theorem init_abs (c : Cfg) (capa factor : Nat) : abs c (init capa factor) = Dict.empty :=
  abs_of_empty c rfl

theorem find_of_chainFind {c : Cfg} {t : Htb} {k : Nat} {p : Pair}
    (hf : chainFind k (bucketAt t (c.hash k % t.capa)) = some p) : abs c t k = some p.2 := by
  simp [abs, find, hf]

theorem setVal_table (c : Cfg) (t : Htb) (h : WF c t) (k old v : Nat)
    (hf : chainFind k (bucketAt t (c.hash k % t.capa)) = some (k, old)) :
    WF c { t with buckets := t.buckets.set (c.hash k % t.capa) (chainSet k v (bucketAt t (c.hash k % t.capa))) } ∧
    abs c { t with buckets := t.buckets.set (c.hash k % t.capa) (chainSet k v (bucketAt t (c.hash k % t.capa))) }
      = (abs c t).set k v := by
  have := h.setBucket k (x := chainSet k v (bucketAt t (c.hash k % t.capa))) t.size
    (fun k' hk => by rw [chainFind_chainSet, if_neg hk]) (by rw [chainSet_keys]; exact (h.bucket _).1)
    (by rw [chainSet_length])
  rwa [chainFind_chainSet, if_pos rfl, hf] at this

theorem addNew_table (c : Cfg) (t : Htb) (h : WF c t) (k v : Nat) (hd : abs c t k = none) :
    WF c { t with buckets := t.buckets.set (c.hash k % t.capa) ((k, v) :: bucketAt t (c.hash k % t.capa)), size := t.size + 1 } ∧
    abs c { t with buckets := t.buckets.set (c.hash k % t.capa) ((k, v) :: bucketAt t (c.hash k % t.capa)), size := t.size + 1 }
      = (abs c t).set k v := by
  have hnone := ((scan_cases c t k).resolve_left fun ⟨w, _, hw⟩ => nomatch hw.symm.trans hd).1
  have := h.setBucket k (x := (k, v) :: bucketAt t (c.hash k % t.capa)) (t.size + 1)
    (fun k' hk => chainFind_cons_ne hk) (List.nodup_cons.2 ⟨chainFind_none.1 hnone, (h.bucket _).1⟩)
    (by rw [List.length_cons]; omega)
  rwa [chainFind_cons_eq] at this

/-- `rr` is the optional reorganization `insert` and `hawk_htb_cbsert` start the insertion of a missing key with, the
    left side of the last conjunct their `hc` afterwards: recomputed or not, it is the index for the capacity then in force -/
theorem maybeReorg_facts (c : Cfg) (t : Htb) (h : WF c t) (k : Nat) (o : Oracle) :
    let rr := if t.threshold > 0 ∧ t.size ≥ t.threshold then reorganize c t o else (t, false, o)
    WF c rr.1 ∧ abs c rr.1 = abs c t ∧ (false ∈ rr.2.2 → false ∈ o) ∧
    (if rr.2.1 = true then c.hash k % rr.1.capa else c.hash k % t.capa) = c.hash k % rr.1.capa := by
  intro rr
  by_cases hc : t.threshold > 0 ∧ t.size ≥ t.threshold
  · have e : rr = reorganize c t o := if_pos hc
    rw [e]
    obtain ⟨hw, ha, ho, hcapa⟩ := reorganize_spec h o
    refine ⟨hw, ha, ho, ?_⟩
    by_cases hb : (reorganize c t o).2.1 = true
    · rw [if_pos hb]
    · rw [if_neg hb, hcapa (Bool.eq_false_iff.2 hb)]
  · have e : rr = (t, false, o) := if_neg hc
    rw [e]
    exact ⟨h, rfl, id, rfl⟩

theorem changeVal_refines (c : Cfg) (t : Htb) (h : WF c t) (k old v : Nat) (o : Oracle)
    (hf : chainFind k (bucketAt t (c.hash k % t.capa)) = some (k, old)) :
    let r := changeVal c t (c.hash k % t.capa) k old v o
    WF c r.tb ∧ ((abs c r.tb = (abs c t).set k v ∧ r.ret = .ok (k, v)) ∨
                 (r.ret = .error .enomem ∧ r.tb = t ∧ false ∈ o)) := by
  obtain ⟨hwf', habs'⟩ := setVal_table c t h k old v hf
  intro r
  simp only [r]
  fun_cases changeVal c t (c.hash k % t.capa) k old v o with
  | case1 _ e => exact ⟨h, Or.inl ⟨(Dict.set_same (e ▸ find_of_chainFind hf)).symm, rfl⟩⟩
  | case4 _ _ o' ho => exact ⟨h, Or.inr ⟨rfl, rfl, Oracle.false_mem_of_refused ho⟩⟩
  | case2 | case3 | case5 => exact ⟨hwf', Or.inl ⟨habs', rfl⟩⟩

/-- hawk_htb_cbsert: the invariant is kept, and either the call did and returned exactly what the ideal
    dictionary does with that callback, or the allocator refused the callback's hawk_htb_allocpair, the
    call failed with ENOMEM and the dictionary is unchanged -/
theorem cbsert_refines (c : Cfg) (t : Htb) (h : WF c t) (k : Nat) (f : Option Nat → CbAns) (o : Oracle) :
    let r := cbsert c t k f o
    WF c r.tb ∧ ((abs c r.tb, r.ret) = specCb (abs c t) k f ∨
                 (r.ret = .error .enomem ∧ abs c r.tb = abs c t ∧ false ∈ o)) := by
  intro r
  obtain ⟨w, hf, hd⟩ | ⟨hf, hd⟩ := scan_cases c t k
  · simp only [r, cbsert, hf, specCb, hd]
    cases f (some w) with
    | fail | keep => exact ⟨h, Or.inl rfl⟩
    | fresh v =>
      have hsv := setVal_table c t h k w v hf
      cases hn : o.next with
      | mk b o' =>
        cases b with
        | false => exact ⟨h, Or.inr ⟨rfl, rfl, Oracle.false_mem_of_refused hn⟩⟩
        | true => exact ⟨hsv.1, Or.inl (by rw [hsv.2])⟩
  · have hm := maybeReorg_facts c t h k o
    simp only at hm
    simp only [r, cbsert, hf, specCb, hd]
    generalize (if t.threshold > 0 ∧ t.size ≥ t.threshold then reorganize c t o else (t, false, o)) = rr at hm
    obtain ⟨hw1, ha1, ho1, hc1⟩ := hm
    simp only [hc1]
    cases f none with
    | fail | keep => exact ⟨hw1, Or.inl (by rw [ha1])⟩
    | fresh v =>
      have hadd := addNew_table c rr.1 hw1 k v (ha1 ▸ hd)
      cases hn : rr.2.2.next with
      | mk b o2 =>
        cases b with
        | false => exact ⟨hw1, Or.inr ⟨rfl, ha1, ho1 (Oracle.false_mem_of_refused hn)⟩⟩
        | true => exact ⟨hadd.1, Or.inl (by rw [hadd.2, ha1])⟩

/-- insert / upsert / update / ensert: the invariant is kept, and either the call did and returned
    exactly what the ideal dictionary does, or the allocator refused a request, the call reported
    ENOMEM and the dictionary is unchanged (a rehash or a disabled threshold may have happened) -/
theorem insertG_refines (c : Cfg) (t : Htb) (h : WF c t) (k v : Nat) (opt : Opt) (o : Oracle) :
    let r := insertG c t k v opt o
    WF c r.tb ∧ ((abs c r.tb, r.ret) = specIns (abs c t) k v opt ∨
                 (r.ret = .error .enomem ∧ abs c r.tb = abs c t ∧ false ∈ o)) := by
  intro r
  obtain ⟨w, hf, hd⟩ | ⟨hf, hd⟩ := scan_cases c t k
  · have hcv := changeVal_refines c t h k w v o hf
    cases opt with
    | upsert | update =>
      simp only [r, insertG, hf, specIns, hd]
      exact ⟨hcv.1, hcv.2.imp (fun ⟨ha, hr⟩ => by rw [ha, hr]) (fun ⟨hr, ht, ho⟩ => ⟨hr, by rw [ht], ho⟩)⟩
    | ensert | insert => simp only [r, insertG, hf, specIns, hd]; exact ⟨h, Or.inl trivial⟩
  · by_cases hu : opt = .update
    · subst hu; simp only [r, insertG, hf, if_pos, specIns, hd]; exact ⟨h, Or.inl trivial⟩
    · -- a missing key under any other option: the code that runs is `cbsert`'s, with a callback that builds a pair for `v`
      have e : r = cbsert c t k (fun _ => .fresh v) o := by simp only [r, insertG, cbsert, hf, if_neg hu]
      have hspec : specIns (abs c t) k v opt = specCb (abs c t) k (fun _ => .fresh v) := by
        cases opt with
        | update => exact absurd rfl hu
        | upsert | ensert | insert => simp only [specIns, specCb, hd]
      rw [e, hspec]
      exact cbsert_refines c t h k _ o

/-- delete: the invariant is kept and the call does and returns exactly what the ideal dictionary does -/
theorem delete_refines (c : Cfg) (t : Htb) (h : WF c t) (k : Nat) :
    let r := delete c t k
    WF c r.1 ∧ (abs c r.1, r.2.1) = specDel (abs c t) k := by
  intro r
  obtain ⟨w, hf, hd⟩ | ⟨hf, hd⟩ := scan_cases c t k
  · have hb := h.bucket (c.hash k % t.capa)
    have := h.setBucket k (x := chainDel k (bucketAt t (c.hash k % t.capa))) (t.size - 1)
      (fun k' hk => by rw [chainFind_chainDel _ _ _ hb.1, if_neg hk]) (((chainDel_sublist k _).map _).nodup hb.1)
      (by have := chainDel_length hf; have := hb.2.2; omega)
    rw [chainFind_chainDel _ _ _ hb.1, if_pos rfl] at this
    simp only [r, delete, hf, specDel, hd]
    exact ⟨this.1, congrArg (·, _) this.2⟩
  · simp only [r, delete, hf, specDel, hd]
    exact ⟨h, trivial⟩

/-- search returns what the ideal dictionary holds -/
theorem search_refines (c : Cfg) (t : Htb) (k : Nat) : search c t k = specSearch (abs c t) k := by
  obtain ⟨w, hf, hd⟩ | ⟨hf, hd⟩ := scan_cases c t k <;> simp only [search, specSearch, hf, hd]

/-- clear: invariant kept, dictionary empty, size field back to 0 -/
theorem clear_refines (c : Cfg) (t : Htb) (h : WF c t) :
    WF c (clear t).1 ∧ abs c (clear t).1 = Dict.empty ∧ (clear t).1.size = 0 := by
  have hb : (clear t).1.buckets = List.replicate t.capa [] := by
    simp [clear, h.len]
  have hs : (clear t).1.size = 0 := by
    simp only [clear]; rw [h.size_pairs]; omega
  exact ⟨WF.of_empty c hb h.pos hs, abs_of_empty c hb, hs⟩

/-- one call: an allocating `Op` brings the allocator's answers for that call alone; what it leaves of them (`Res.orc`) and
    the callback events (`Res.evs`) are dropped -/
def step (c : Cfg) (t : Htb) : Op → Htb × Ret
  | .ins opt k v o => let r := insertG c t k v opt o; (r.tb, .pair r.ret)
  | .cbsert k f o => let r := cbsert c t k f o; (r.tb, .pair r.ret)
  | .delete k => let r := delete c t k; (r.1, .code r.2.1)
  | .search k => (t, .pair (search c t k))
  | .clear => ((clear t).1, .code (.ok ()))

def run (c : Cfg) (t : Htb) : List Op → Htb × List Ret
  | [] => (t, [])
  | op :: ops => let s := step c t op; let r := run c s.1 ops; (r.1, s.2 :: r.2)

theorem step_wf (c : Cfg) (t : Htb) (h : WF c t) (op : Op) : WF c (step c t op).1 := by
  cases op with
  | ins opt k v o => exact (insertG_refines c t h k v opt o).1
  | cbsert k f o => exact (cbsert_refines c t h k f o).1
  | delete k => exact (delete_refines c t h k).1
  | search k => exact h
  | clear => exact (clear_refines c t h).1

theorem step_refines (c : Cfg) (t : Htb) (h : WF c t) (op : Op) :
    SpecStep (abs c t) op (step c t op).2 (abs c (step c t op).1) := by
  cases op with
  | ins opt k v o =>
    rcases (insertG_refines c t h k v opt o).2 with he | ⟨hr, ha, ho⟩
    · exact .of_eq (by simp only [step, specStep, ← he])
    · simp only [step, hr, ha]; exact SpecStep.refused _ _ _ _ _ ho
  | cbsert k f o =>
    rcases (cbsert_refines c t h k f o).2 with he | ⟨hr, ha, ho⟩
    · exact .of_eq (by simp only [step, specStep, ← he])
    · simp only [step, hr, ha]; exact SpecStep.refusedCb _ _ _ _ ho
  | delete k => exact .of_eq (by simp only [step, specStep, ← (delete_refines c t h k).2])
  | search k => exact .of_eq (by simp only [step, specStep, search_refines])
  | clear => exact .of_eq (by simp only [step, specStep, (clear_refines c t h).2.1])

theorem step_refines_exact (c : Cfg) (t : Htb) (h : WF c t) (op : Op) (hc : op.calm) :
    (abs c (step c t op).1, (step c t op).2) = specStep (abs c t) op :=
  (step_refines c t h op).eq_of_calm hc

theorem run_wf (c : Cfg) (t : Htb) (h : WF c t) (ops : List Op) : WF c (run c t ops).1 := by
  induction ops generalizing t with
  | nil => exact h
  | cons op ops ih => exact ih _ (step_wf c t h op)

theorem run_refines (c : Cfg) (t : Htb) (h : WF c t) (ops : List Op) :
    SpecRun (abs c t) ops (run c t ops).2 (abs c (run c t ops).1) := by
  induction ops generalizing t with
  | nil => exact SpecRun.nil _
  | cons op ops ih => exact SpecRun.cons (step_refines c t h op) (ih _ (step_wf c t h op))

theorem run_refines_exact (c : Cfg) (t : Htb) (h : WF c t) (ops : List Op) (hc : ∀ op ∈ ops, op.calm) :
    (abs c (run c t ops).1, (run c t ops).2) = specRun (abs c t) ops :=
  (run_refines c t h ops).eq_of_calm hc

/-- **structure invariant** — after any history from `hawk_htb_init`, for any hash function and allocator
    behaviour: the bucket array has `capa > 0` slots, every pair sits in the bucket its hash selects,
    no chain holds a key twice, and the `size` field is the sum of the chain lengths -/
theorem reachable_wf (c : Cfg) (capa factor : Nat) (ops : List Op) : WF c (run c (init capa factor) ops).1 :=
  run_wf c _ (init_wf c capa factor) ops

/-- `size` = Σ bucket lengths in every reachable state -/
theorem reachable_size_eq_sum (c : Cfg) (capa factor : Nat) (ops : List Op) :
    let t := (run c (init capa factor) ops).1
    t.size = (t.buckets.map List.length).sum ∧ t.buckets.length = t.capa :=
  ⟨(reachable_wf c capa factor ops).size, (reachable_wf c capa factor ops).len⟩

/-- keys are unique across the whole table in every reachable state -/
theorem reachable_keys_unique (c : Cfg) (capa factor : Nat) (ops : List Op) :
    ((pairs (run c (init capa factor) ops).1).map Prod.fst).Nodup :=
  pairs_keys_nodup (reachable_wf c capa factor ops)

/-- every pair of a reachable table sits in the bucket selected by its hash and the current capacity
    (in particular after every rehash) -/
theorem reachable_placement (c : Cfg) (capa factor : Nat) (ops : List Op) (i : Nat) (b : Chain) (p : Pair) :
    let t := (run c (init capa factor) ops).1
    t.buckets[i]? = some b → p ∈ b → c.hash p.1 % t.capa = i :=
  fun hb hp => (reachable_wf c capa factor ops).place i b hb p hp

/-- **dictionary refinement** — the visible results of any history are those of the ideal dictionary
    started empty (which may refuse an allocating call only when the allocator refuses), and the final
    table stands for the ideal dictionary's final state -/
theorem reachable_refines (c : Cfg) (capa factor : Nat) (ops : List Op) :
    SpecRun Dict.empty ops (run c (init capa factor) ops).2 (abs c (run c (init capa factor) ops).1) := by
  have := run_refines c _ (init_wf c capa factor) ops
  rw [init_abs] at this; exact this

/-- without allocator refusals the results are *exactly* the ideal dictionary's, deterministically -/
theorem reachable_refines_exact (c : Cfg) (capa factor : Nat) (ops : List Op) (hc : ∀ op ∈ ops, op.calm) :
    (abs c (run c (init capa factor) ops).1, (run c (init capa factor) ops).2) = specRun Dict.empty ops :=
  (reachable_refines c capa factor ops).eq_of_calm hc

/-- the n-th call of getfirstpair/getnextpair/getnextpair/… returns the n-th pair of the bucket
    traversal and NULL from call number `size` on: the iteration ends after exactly `size` pairs -/
theorem iter_nth (c : Cfg) (t : Htb) (h : WF c t) (n : Nat) :
    (iterSeq t n).map (·.cur) = (pairs t)[n]? := by
  rw [← List.head?_drop, pending_iterSeq h.len n]
  cases iterSeq t n <;> rfl

/-- a walk whose walker never says STOP hands over every pair of the traversal; any walk hands over
    a prefix of it -/
theorem walk_spec (t : Htb) (f : Pair → Bool) : walk t (fun _ => true) = pairs t ∧ walk t f <+: pairs t :=
  ⟨walkList_all _, walkList_prefix f _⟩

/-- the traversal is a permutation of any duplicate-free association list that represents the same
    dictionary -/
theorem pairs_perm_assoc (c : Cfg) (t : Htb) (h : WF c t) (d : List Pair) (hd : (d.map Prod.fst).Nodup)
    (hm : ∀ k v, (k, v) ∈ d ↔ abs c t k = some v) : (pairs t).Perm d :=
  pairs_perm_of_mem_iff h (nodup_of_map _ hd) hm

/-- **iteration visits every pair exactly once** — in every state reachable by any history (rehashes
    and failed rehashes included): the iterator and the walk enumerate the same list; it has exactly
    `size` entries, no key twice, and its entries are exactly the pairs of the dictionary the table
    stands for -/
theorem reachable_iteration (c : Cfg) (capa factor : Nat) (ops : List Op) :
    let t := (run c (init capa factor) ops).1
    (∀ n, (iterSeq t n).map (·.cur) = (pairs t)[n]?) ∧
    walk t (fun _ => true) = pairs t ∧
    (pairs t).length = t.size ∧
    ((pairs t).map Prod.fst).Nodup ∧
    (∀ k v, (k, v) ∈ pairs t ↔ abs c t k = some v) := by
  intro t
  have h : WF c t := reachable_wf c capa factor ops
  exact ⟨iter_nth c t h, walkList_all _, h.size_pairs.symm, pairs_keys_nodup h, mem_pairs_iff h⟩

/-! ## non-vacuity: histories with rehashes and with a failed rehash are covered -/

private def cId : Cfg := { hash := id }
private def cConst : Cfg := { hash := fun _ => 7, vinline := true, vlen := fun v => v % 3 + 1 }

/-- three inserts from capacity 1 rehash twice (1 → 2 → 4) -/
example : (run cId (init 1 75) [.ins .insert 1 10 [], .ins .insert 2 20 [], .ins .insert 3 30 []]).1
    = { buckets := [[], [(1, 10)], [(2, 20)], [(3, 30)]], size := 3, capa := 4, threshold := 3, factor := 75 } := by
  decide

/-- a refused rehash allocation disables the threshold, the insertion still happens -/
example : (run cId (init 1 75) [.ins .insert 1 10 [], .ins .insert 2 20 [false], .ins .insert 3 30 []]).1
    = { buckets := [[(3, 30), (2, 20), (1, 10)]], size := 3, capa := 1, threshold := 0, factor := 75 } := by
  decide

/-- all keys colliding, an in-place value change and a delete in the middle of the chain -/
example : (run cConst (init 2 100) [.ins .insert 1 10 [], .ins .insert 2 20 [], .ins .insert 3 30 [],
      .ins .upsert 2 21 [], .delete 1]).1
    = { buckets := [[], [], [], [(3, 30), (2, 21)]], size := 2, capa := 4, threshold := 4, factor := 100 } := by
  decide

/-- cbsert with an "append" callback: creates the pair, then replaces it in the middle of a collision chain;
    a refusing callback changes nothing -/
example :
    let add (v : Nat) : Option Nat → CbAns := fun | none => .fresh v | some w => .fresh (w + v)
    (run cConst (init 4 100) [.cbsert 1 (add 10) [], .cbsert 2 (add 20) [], .cbsert 3 (add 30) [], .cbsert 2 (add 5) [],
      .cbsert 2 (fun _ => .fail) [], .cbsert 3 (fun _ => .keep) []])
    = ({ buckets := [[], [], [], [(3, 30), (2, 25), (1, 10)]], size := 3, capa := 4, threshold := 4, factor := 100 },
       [.pair (.ok (1, 10)), .pair (.ok (2, 20)), .pair (.ok (3, 30)), .pair (.ok (2, 25)), .pair (.error .ecb), .pair (.ok (3, 30))]) := by
  rfl

end Hawk.Htb

namespace Hawk.ForIn

variable {σ κ : Type}

/-- `iter_eq_loopSpec` with the stack written out: below the loop's snapshot `pre`, then `done` snapshot entries
    consumed and `ks` still ahead; the stack-reading loop of the C is the plain recursion over `ks` -/
theorem iter_eq_spec (L : Loop σ κ) (hb : Bal L.body) (pre : List κ) (ks : List κ) :
    ∀ (fuel : Nat) (done : List κ) (u : σ) (acc : List κ), ks.length ≤ fuel →
      iter L fuel (pre.length + done.length) ⟨u, pre ++ done ++ ks⟩ acc
        = loopSpec L ks ⟨u, pre ++ done ++ ks⟩ acc := by
  intro fuel done u acc hf
  have := iter_eq_loopSpec L hb fuel (pre.length + done.length) ⟨u, pre ++ done ++ ks⟩ acc
    (by simp only [List.length_append]; omega)
  rwa [List.drop_left' List.length_append] at this

theorem loopSpec_stack (L : Loop σ κ) (hb : Bal L.body) (ks : List κ) :
    ∀ (s : St σ κ) (acc : List κ), (loopSpec L ks s acc).st.stack = s.stack := by
  intro s acc
  fun_induction loopSpec L ks s acc with
  | case1 | case2 => rfl
  | case3 k ks s acc u _ r _ ih | case4 k ks s acc u _ r _ ih => exact ih.trans (hb _)
  | case5 | case6 => exact hb _

/-- **the loop is a fold over the entry-time key list.**  For every body that leaves the snapshot stack
    balanced (every statement does: `exec_balanced`) — whatever else it does to the state, deleting,
    adding, resetting or replacing the iterated container included — `run_forin` behaves exactly like
    the recursion over the list of keys the container had on entry, and restores the stack. -/
theorem runForIn_eq_spec (L : Loop σ κ) (hb : Bal L.body) (s : St σ κ) (ks : List κ)
    (hk : L.coll s.user = .keys ks) :
    runForIn L s =
      let r := loopSpec L ks { s with stack := s.stack ++ ks } []
      { r with st := { r.st with stack := s.stack } } := by
  have h1 := iter_eq_loopSpec L hb ks.length s.stack.length { s with stack := s.stack ++ ks } []
    (Nat.le_of_eq List.length_append)
  rw [List.drop_left] at h1
  have h2 := loopSpec_stack L hb ks { s with stack := s.stack ++ ks } []
  simp only [runForIn, hk, h1, h2, List.take_left']

/-- the fuel of `iter` (number of snapshot entries) is never what stops the loop: more fuel changes nothing -/
theorem fuel_irrelevant (L : Loop σ κ) (hb : Bal L.body) (s : St σ κ) (ks : List κ) (extra : Nat) :
    iter L (ks.length + extra) s.stack.length { s with stack := s.stack ++ ks } []
      = iter L ks.length s.stack.length { s with stack := s.stack ++ ks } [] := by
  rw [iter_eq_loopSpec L hb _ _ _ _ (by rw [List.length_append]; omega),
    iter_eq_loopSpec L hb _ _ _ _ (Nat.le_of_eq List.length_append)]

theorem loopSpec_visited_prefix (L : Loop σ κ) (ks : List κ) :
    ∀ (s : St σ κ) (acc : List κ), ∃ v, (loopSpec L ks s acc).visited = acc.reverse ++ v ∧ v <+: ks := by
  intro s acc
  fun_induction loopSpec L ks s acc with
  | case1 | case2 => exact ⟨[], (List.append_nil _).symm, List.nil_prefix⟩
  | case3 k ks s acc u _ r _ ih | case4 k ks s acc u _ r _ ih =>
    obtain ⟨v, hv, hp⟩ := ih
    exact ⟨k :: v, by rw [hv, List.reverse_cons, List.append_assoc]; rfl, (List.prefix_cons_inj k).mpr hp⟩
  | case5 k ks s acc | case6 k ks s acc =>
    exact ⟨[k], List.reverse_cons, (List.prefix_cons_inj k).mpr List.nil_prefix⟩

theorem loopSpec_visited_all (L : Loop σ κ) (ks : List κ)
    (hgo : ∀ s, (L.body s).2 = .none ∨ (L.body s).2 = .cont) (has : ∀ k u, L.assign k u ≠ none) :
    ∀ (s : St σ κ) (acc : List κ), (loopSpec L ks s acc).visited = acc.reverse ++ ks ∧ (loopSpec L ks s acc).exit = .none := by
  intro s acc
  fun_induction loopSpec L ks s acc with
  | case1 => exact ⟨(List.append_nil _).symm, rfl⟩
  | case2 k ks s acc ha => exact absurd ha (has _ _)
  | case3 k ks s acc u _ r _ ih | case4 k ks s acc u _ r _ ih =>
    rw [ih.1, List.reverse_cons, List.append_assoc]
    exact ⟨rfl, ih.2⟩
  | case5 k ks s acc u _ r hr =>
    exact (hgo _).elim (fun h => nomatch h.symm.trans hr) (fun h => nomatch h.symm.trans hr)
  | case6 k ks s acc u _ r h1 h2 => exact ((hgo _).elim h1 h2).elim

/-- **`for (k in m)` visits exactly the keys present when the loop started.**  `ks` is the key list of the
    container in its iteration order *at loop entry*.  Whatever the (balanced) body does, the keys assigned
    to the loop variable form a prefix of `ks`; the snapshot stack is restored -/
theorem forin_visits_prefix (L : Loop σ κ) (hb : Bal L.body) (s : St σ κ) (ks : List κ)
    (hk : L.coll s.user = .keys ks) :
    (runForIn L s).visited <+: ks ∧ (runForIn L s).st.stack = s.stack := by
  rw [runForIn_eq_spec L hb s ks hk]
  rcases loopSpec_visited_prefix L ks { s with stack := s.stack ++ ks } [] with ⟨v, hv, hp⟩
  simp only [hv, List.reverse_nil, List.nil_append]
  exact ⟨hp, trivial⟩

/-- … and it is all of `ks`, each key once and in order, unless an iteration ends in
    break / return / exit / an error: if every run of the body ends normally or with `continue`, the loop
    variable takes exactly the entry-time key sequence -/
theorem forin_visits_all (L : Loop σ κ) (hb : Bal L.body) (s : St σ κ) (ks : List κ)
    (hk : L.coll s.user = .keys ks)
    (hgo : ∀ s, (L.body s).2 = .none ∨ (L.body s).2 = .cont) (has : ∀ k u, L.assign k u ≠ none) :
    (runForIn L s).visited = ks ∧ (runForIn L s).exit = .none := by
  rw [runForIn_eq_spec L hb s ks hk]
  have := loopSpec_visited_all L ks hgo has { s with stack := s.stack ++ ks } []
  simpa using this

/-- run_forin itself is balanced when its body is: nested loops may share the stack -/
theorem runForIn_balanced (L : Loop σ κ) (hb : Bal L.body) (s : St σ κ) : (runForIn L s).st.stack = s.stack := by
  cases hk : L.coll s.user with
  | nil => simp [runForIn, hk]
  | other => simp [runForIn, hk]
  | keys ks => exact (forin_visits_prefix L hb s ks hk).2

/-- every statement of the language (any nesting of loops, calls, deletes, resets, reassignments) is balanced -/
theorem exec_balanced (st : Stmt) : Bal (exec st) := by
  induction st with
  | forin x m b ih => intro s; exact runForIn_balanced (loopOf x m (exec b)) ih s
  | seq a b iha ihb =>
    intro s; simp only [exec]; split
    · rw [ihb, iha]
    · exact iha s
  | ifeq x k b ih => intro s; simp only [exec]; split; exact ih s; rfl
  | call b ih => intro s; exact ih s
  | del m k => intro s; simp only [exec]; split <;> rfl
  | delcur m x => intro s; simp only [exec]; split <;> rfl
  | reset m => intro s; simp only [exec]; split <;> rfl
  | _ => intro s; rfl

/-- language level, no side condition: for any loop body written in the statement language, the loop
    variable of `for (K_x in M_m) body` runs through a prefix of the key list `M_m` had at entry, and
    through all of it when no iteration ends in break/return/exit -/
theorem forin_stmt_visits (x m : Nat) (b : Stmt) (s : S) (ks : List Nat) (hk : (s.user.var m).coll = .keys ks) :
    let r := runForIn (loopOf x m (exec b)) s
    exec (.forin x m b) s = (r.st, r.exit) ∧ r.visited <+: ks ∧ r.st.stack = s.stack ∧
    ((∀ s', (exec b s').2 = .none ∨ (exec b s').2 = .cont) → r.visited = ks ∧ r.exit = .none) := by
  intro r
  have hp := forin_visits_prefix (loopOf x m (exec b)) (exec_balanced b) s ks hk
  refine ⟨rfl, hp.1, hp.2, fun hgo => ?_⟩
  exact forin_visits_all (loopOf x m (exec b)) (exec_balanced b) s ks hk hgo (by intro k u; simp [loopOf])

/-! non-vacuity: a body that deletes the whole array and adds new keys still sees 1, 5, 9 -/
example :
    let prog := Stmt.seq (.newarr 0) (.seq (.set 0 5 1) (.seq (.set 0 1 1) (.seq (.set 0 9 1)
      (.forin 0 0 (.seq (.emit 0) (.seq (.reset 0) (.setcur 0 0 1)))))))
    let r := exec prog ⟨U.init, []⟩
    r.1.user.out.reverse = [1, 5, 9] ∧ r.1.user.var 0 = .arr [(10, 1)] ∧ r.1.stack = [] := by
  decide

/-! non-vacuity of the error exits: a for-in over a scalar inside a running loop aborts both loops with `err`,
    after one visit, and the shared snapshot stack is back to empty -/
example :
    let prog := Stmt.seq (.set 0 1 1) (.seq (.set 0 2 1) (.seq (.scalar 1) (.forin 0 0 (.seq (.emit 0) (.forin 1 1 .skip)))))
    let r := exec prog ⟨U.init, []⟩
    r.2 = .err ∧ r.1.user.out = [1] ∧ r.1.stack = [] := by
  decide

end Hawk.ForIn
