import HawkModel.RecLemmas
/-!
# C03 — The record, its fields and NF always agree

Model: `HawkModel/Rec.lean`, a transcription of lib/rec.c (with patches/rec-field-spans.diff), the NF case of
run.c:set_global, the tokenisers of lib/misc-imp.h and the positional-reference readers of lib/val.c.

Regular-expression matching is a parameter `m : Matcher`; the theorems hold for every matcher
whose reported matches lie inside the text at or after the search start (`Sane m`, which the
C code itself assumes: it computes `match.ptr - realsub.ptr` and `match.ptr + match.len`).
-/
namespace Hawk.Rec

/-- ghost update: whether an op makes the record text by a split or by a join, and with which globals in force -/
def stepB (st : St) (b : Built) : Op → Built
  | .set0 _ => .split st.e
  | .rewrite _ => .split st.e
  | .getline _ => .split st.e
  | .setf i _ =>
    if i = 0 then .split st.e
    else if growFails st.r i then .init          -- ENOMEM: the record is cleared
    else .joined st.e.ofs
  | .setnf n =>
    if n < 0 then b
    else if growFails st.r n.toNat then .init
    else .joined st.e.ofs
  | _ => b

/-- a history run from the empty record, together with the ghost -/
def runG (m : Matcher) (ops : List Op) : St × Built :=
  ops.foldl (fun sb op => (step m sb.1 op, stepB sb.1 sb.2 op)) ({}, .init)

theorem runG_fst (m : Matcher) (ops : List Op) : (runG m ops).1 = run m ops :=
  (List.foldl_hom Prod.fst fun _ _ => rfl).symm

/-- a matcher that never matches (used by the examples that do not split) -/
def colonMatcher' : Matcher := fun _ _ _ _ => none

/-- whole-record assignment (`$0 = s`, sub/gsub on `$0`, plain getline, the main loop's read) -/
theorem setrec0_coherent (m : Matcher) (hm : Sane m) (st : St) (b : Built) (s : Str)
    (h : Coherent m st b) :
    Coherent m { st with r := setrec0 m st.e st.r s } (.split st.e) := by
  obtain ⟨hline, hd0, hflds, hnf⟩ := setrec0_shape m st.e st.r s
  refine ⟨hnf h.nf_eq, setrec0_spans m hm st.e st.r s, hd0.trans hline.symm, ?_⟩
  show texts (setrec0 m st.e st.r s) = splitTextsE m st.e (setrec0 m st.e st.r s).line
  rw [hline]
  exact congrArg (List.map Fld.text) hflds

/-- `$i = s` for i ≥ 1 (recomp_record_fields) -/
theorem setfld_coherent (m : Matcher) (st : St) (b : Built) (i : Nat) (s : Str)
    (h : Coherent m st b) :
    Coherent m { st with r := setfld st.e st.r i s } (.joined st.e.ofs) :=
  rebuilt_coherent m st.e st.e.ofs _ st.r rfl

/-- hawk_rtx_truncrec: `NF = n` with n ≤ NF -/
theorem truncrec_coherent (m : Matcher) (st : St) (b : Built) (n : Nat)
    (h : Coherent m st b) :
    Coherent m { st with r := { truncrec st.e st.r n with nf := ((st.r.flds.take n).length : Int) } }
      (.joined st.e.ofs) := by
  rw [truncrec_eq _ _ _ h.spans]
  exact rebuilt_coherent m st.e st.e.ofs _ st.r (by rw [texts, ← List.map_take, List.length_map])

/-- `NF = n`, n ≥ 0 (set_global, case HAWK_GBL_NF) -/
theorem setNF_coherent (m : Matcher) (st : St) (b : Built) (n : Int) (r' : Rec)
    (h : Coherent m st b) (hr : setNF st.e st.r n = .ok r') :
    0 ≤ n ∧ Coherent m { st with r := r' } (.joined st.e.ofs) := by
  obtain ⟨hn, rfl⟩ := setNF_ok h.spans hr
  exact ⟨hn, rebuilt_coherent m st.e _ _ st.r (by rw [resize_length, Int.toNat_of_nonneg hn])⟩

/-- the error path of hawk_rtx_setrec (the field table cannot be grown): the cleared record is
    coherent -/
theorem clrrec_coherent (m : Matcher) (st : St) (b : Built) (h : Coherent m st b) :
    Coherent m { st with r := clrrec st.r } .init := by
  exact ⟨clrrec_nf _ h.nf_eq, fun f hf => (nomatch hf), rfl, ⟨rfl, rfl⟩⟩

/-- every statement of the alphabet preserves coherence -/
theorem step_coherent (m : Matcher) (hm : Sane m) (st : St) (b : Built) (op : Op)
    (h : Coherent m st b) : Coherent m (step m st op) (stepB st b op) := by
  cases op with
  | set0 s | rewrite s | getline s => exact setrec0_coherent m hm st b s h
  | setf i s =>
    by_cases hi : i = 0
    · simp only [step, stepB, if_pos hi]
      exact setrec0_coherent m hm st b s h
    · cases hg : growFails st.r i with
      | true =>
        simp only [step_setf_fails m st hi s hg, stepB, if_neg hi, hg, if_true]
        exact clrrec_coherent m st b h
      | false =>
        simp only [step_setf m st hi s hg, stepB, if_neg hi, hg, Bool.false_eq_true, if_false]
        exact setfld_coherent m st b i s h
  | setnf n =>
    by_cases hneg : n < 0
    · simp only [step_setnf_neg m st hneg, stepB, if_pos hneg]
      exact h
    · have hn : 0 ≤ n := Int.not_lt.mp hneg
      cases hg : growFails st.r n.toNat with
      | true =>
        simp only [step_setnf_fails m st hn hg, stepB, if_neg hneg, hg, if_true]
        exact clrrec_coherent m st b h
      | false =>
        simp only [step_setnf m st h.spans hn hg, stepB, if_neg hneg, hg, Bool.false_eq_true, if_false]
        exact rebuilt_coherent m st.e _ _ st.r (by rw [resize_length, Int.toNat_of_nonneg hn])
  | ofs _ | fs _ | strip _ | ic _ => exact ⟨h.nf_eq, h.spans, h.d0_eq, h.built⟩
  | ofmt _ | read _ | readnf => exact h

/-- after any history of statements from the empty record, the record, its
    fields, the spans and NF agree, and text and fields are related as the last split or join left them -/
theorem reachable_coherent (m : Matcher) (hm : Sane m) (ops : List Op) :
    Coherent m (runG m ops).1 (runG m ops).2 :=
  List.foldlRecOn (motive := fun sb : St × Built => Coherent m sb.1 sb.2) ops _
    (b := ({}, .init)) ⟨rfl, (fun _ hf => nomatch hf), rfl, ⟨rfl, rfl⟩⟩
    fun sb h op _ => step_coherent m hm sb.1 sb.2 op h

/-- reading `$i` through a positional reference (the span) gives what reading it by value
    gives — for `$0` too -/
theorem val_eq_ref (m : Matcher) (st : St) (b : Built) (h : Coherent m st b) (i : Nat) :
    readRef st.r i = readVal st.r i :=
  h.readRef_eq i

/-- the truth value taken through a positional reference is "the text is not empty" -/
theorem refbool_eq (m : Matcher) (st : St) (b : Built) (h : Coherent m st b) (i : Nat) :
    readRefBool st.r i = !(readVal st.r i).isEmpty := by
  unfold readRefBool readVal
  split
  · rw [h.d0_eq]; cases st.r.line <;> simp
  · cases hf : st.r.flds[i - 1]? with
    | none => rfl
    | some f =>
      have := (h.spans f (List.mem_of_getElem? hf)).2
      dsimp only
      rw [this]; cases f.text <;> simp

/-- fields beyond NF read as empty, by value and by reference -/
theorem read_beyond_NF (m : Matcher) (st : St) (b : Built) (h : Coherent m st b) (i : Nat)
    (hi : st.r.nf < (i : Int)) : readVal st.r i = [] ∧ readRef st.r i = [] :=
  h.both (readVal_beyond _ (by have := h.nf_eq; omega))

/-- `NF` reads the number of fields -/
theorem readNF_eq (m : Matcher) (st : St) (b : Built) (h : Coherent m st b) :
    readNF st.r = st.r.flds.length := h.nf_eq

/-- after `$i = s` (i ≥ 1): `$i` reads `s`; every other existing field reads what it read
    before; the fields between the old NF and `i` are created empty; NF = max NF i; and the
    same through positional references -/
theorem setfld_reads (m : Matcher) (st : St) (b : Built) (h : Coherent m st b) (i : Nat)
    (hi : 1 ≤ i) (s : Str) :
    let r' := setfld st.e st.r i s
    (readVal r' i = s ∧ readRef r' i = s) ∧
    (∀ j, 1 ≤ j → j ≠ i → j ≤ st.r.flds.length →
        readVal r' j = readVal st.r j ∧ readRef r' j = readVal st.r j) ∧
    (∀ j, st.r.flds.length < j → j < i → readVal r' j = [] ∧ readRef r' j = []) ∧
    r'.nf = max st.r.flds.length i := by
  intro r'
  have hc := setfld_coherent m st b i s h
  have hv : ∀ j, 1 ≤ j → readVal r' j = if j = i then s else readVal st.r j :=
    fun j hj => readVal_setfld _ _ hi hj s
  refine ⟨hc.both (by rw [hv i hi, if_pos rfl]), fun j hj hne _ => hc.both (by rw [hv j hj, if_neg hne]),
    fun j hlt hji => hc.both ?_, ?_⟩
  · rw [hv j (Nat.zero_lt_of_lt hlt), if_neg (Nat.ne_of_lt hji), readVal_beyond _ hlt]
  · rw [hc.nf_eq, setfld_length _ _ hi]

/-- after `NF = n` (n ≥ 0): NF reads n; the first min(n, old NF) fields read what they read
    before; every field beyond the old NF reads empty; `$0` is the fields joined by OFS -/
theorem setNF_reads (m : Matcher) (st : St) (b : Built) (h : Coherent m st b) (n : Int) (r' : Rec)
    (hr : setNF st.e st.r n = .ok r') :
    readNF r' = n ∧
    (∀ j : Nat, 1 ≤ j → (j : Int) ≤ n → j ≤ st.r.flds.length →
        readVal r' j = readVal st.r j ∧ readRef r' j = readVal st.r j) ∧
    (∀ j, st.r.flds.length < j → readVal r' j = [] ∧ readRef r' j = []) ∧
    readVal r' 0 = st.e.ofs.intercalate (texts r') ∧ r'.flds.length = n.toNat := by
  obtain ⟨hn, hc⟩ := setNF_coherent m st b n r' h hr
  have hv : ∀ j, 1 ≤ j → readVal r' j = if (j : Int) ≤ n then readVal st.r j else [] :=
    fun j hj => readVal_setNF h.spans hr hj
  obtain ⟨_, rfl⟩ := setNF_ok h.spans hr
  refine ⟨rfl, fun j hj hjn _ => hc.both (by rw [hv j hj, if_pos hjn]), fun j hlt => hc.both ?_,
    hc.d0_eq.trans hc.built.1, ?_⟩
  · rw [hv j (Nat.zero_lt_of_lt hlt), readVal_beyond _ hlt]
    exact ite_self _
  · rw [rebuilt_length, resize_length]

/-- **one separator on every path**: however `$0` is rebuilt - by `NF = n` (hawk_rtx_truncrec,
    or recomp_record_fields when the record grows) or by `$i = v` (recomp_record_fields) - the
    fields are joined with the same text: the one made of OFS when OFS was last assigned
    (`Env.ofs` = rtx->gbl.ofs, which print uses as well), whatever type of value OFS holds.
    In particular `NF = NF` and `$i = $i` produce the same record text. -/
theorem rebuild_same_separator (m : Matcher) (st : St) (b : Built) (h : Coherent m st b) :
    (∀ n r', setNF st.e st.r n = .ok r' → r'.line = st.e.ofs.intercalate (texts r')) ∧
    (∀ i s, (setfld st.e st.r i s).line = st.e.ofs.intercalate (texts (setfld st.e st.r i s))) ∧
    (∀ i r', 1 ≤ i → i ≤ st.r.flds.length → setNF st.e st.r st.r.flds.length = .ok r' →
        r'.line = (setfld st.e st.r i (readVal st.r i)).line) :=
  ⟨fun n r' hr => (setNF_coherent m st b n r' h hr).2.built.1,
    fun i s => (setfld_coherent m st b i s h).built.1,
    fun _ _ hi hle hr => congrArg Rec.line (Except.ok.inj (hr.symm.trans (setNF_self st.e h.spans hi hle)))⟩

/-- non-vacuity of `rebuild_same_separator`: with three fields and OFS = "-", `NF = NF` and
    `$1 = $1` both give `--x` -/
example :
    let st := run colonMatcher' [.setf 3 ['x'], .ofs ['-']]
    (∃ r', setNF st.e st.r 3 = .ok r' ∧ r'.line = ['-', '-', 'x']) ∧
    (setfld st.e st.r 1 (readVal st.r 1)).line = ['-', '-', 'x'] := by
  refine ⟨⟨_, rfl, by decide⟩, by decide⟩

/-- a negative NF is rejected (EINVAL) and the statement changes nothing -/
theorem setNF_negative_rejected (m : Matcher) (st : St) (n : Int) (hn : n < 0) :
    setNF st.e st.r n = .error .einval ∧ step m st (.setnf n) = st :=
  ⟨setNF_neg _ _ hn, step_setnf_neg m st hn⟩

/-- a field number or an NF the field table cannot be grown to (beyond `maxFlds`) fails with
    ENOMEM; the record is left cleared: no fields, NF = 0, `$0` empty -/
theorem grow_failure_clears (m : Matcher) (st : St) (b : Built) (h : Coherent m st b) (k : Nat)
    (hk : growFails st.r k = true) (hk0 : k ≠ 0) (s : Str) :
    step m st (.setf k s) = { st with r := clrrec st.r } ∧
    step m st (.setnf k) = { st with r := clrrec st.r } ∧
    (clrrec st.r).flds = [] ∧ readNF (clrrec st.r) = 0 ∧ readVal (clrrec st.r) 0 = [] :=
  ⟨step_setf_fails m st hk0 s hk, step_setnf_fails m st (Int.natCast_nonneg k) (by rwa [Int.toNat_natCast]), rfl,
    (clrrec_coherent m st b h).nf_eq, rfl⟩

/-- after a whole-record assignment (`$0 = s`, sub/gsub on `$0`, plain getline): `$0` reads `s`,
    the fields are the pieces of the split of `s` under the FS in force, NF is their number;
    by value and through positional references alike -/
theorem setrec0_reads (m : Matcher) (hm : Sane m) (st : St) (b : Built) (h : Coherent m st b) (s : Str) :
    let r' := setrec0 m st.e st.r s
    let pieces := splitTextsE m st.e s
    readVal r' 0 = s ∧ readRef r' 0 = s ∧ texts r' = pieces ∧ readNF r' = pieces.length ∧
    ∀ j, 1 ≤ j → readVal r' j = (pieces[j - 1]?).getD [] ∧ readRef r' j = (pieces[j - 1]?).getD [] := by
  intro r' pieces
  have hc := setrec0_coherent m hm st b s h
  obtain ⟨_, hd0, hflds, _⟩ := setrec0_shape m st.e st.r s
  have ht : texts r' = pieces := congrArg (List.map Fld.text) hflds
  refine ⟨hd0, (hc.both (j := 0) hd0).2, ht, ?_, fun j hj => hc.both (ht ▸ readVal_pos r' hj)⟩
  rw [← ht, texts_length]
  exact readNF_eq m _ _ hc

/-- merely reading a field or NF changes nothing (trivial by construction: in the model the
    readers are functions of the state) -/
theorem reads_change_nothing (m : Matcher) (st : St) (j : Nat) :
    step m st (.read j) = st ∧ step m st .readnf = st := ⟨rfl, rfl⟩

/-- assigning OFS, FS, STRIPRECSPC or OFMT leaves the record, its fields and NF alone (FS takes
    effect at the next split, OFS at the next rebuild); OFMT does not touch OFS either -/
theorem other_assignments_keep_record (m : Matcher) (st : St) (x : Str) (bb : Bool) :
    (step m st (.ofs x)).r = st.r ∧ (step m st (.fs x)).r = st.r ∧
    (step m st (.strip bb)).r = st.r ∧ step m st (.ofmt x) = st := ⟨rfl, rfl, rfl, rfl⟩

/-- across any number of statements that `Keeps i`, field `i` keeps its value, by value and by reference -/
theorem field_kept (m : Matcher) (hm : Sane m) (i : Nat) (hi : 1 ≤ i) (v : Str) (ops : List Op) :
    ∀ (st : St) (b : Built), Coherent m st b → readVal st.r i = v → i ≤ st.r.flds.length →
      (∀ op ∈ ops, Keeps i op) →
      readVal (ops.foldl (step m) st).r i = v ∧ readRef (ops.foldl (step m) st).r i = v :=
  fun st _ hc hv hle hk => hv ▸ foldl_keeps m hi ops st hc.spans hle hk

theorem run_append (m : Matcher) (a b : List Op) :
    run m (a ++ b) = b.foldl (step m) (run m a) := by
  simp [run, List.foldl_append]

/-- **a field reads back the value last given to it**: after any history, `$i = v`, and then any
    statements that do not re-split the record, assign `$i` again or cut the record below `i`,
    `$i` reads `v` — by value and through a positional reference (`i ≤ maxFlds`: a field number
    whose table size cannot be represented is refused, see `grow_failure_clears`) -/
theorem field_reads_last_assigned (m : Matcher) (hm : Sane m) (ops ops' : List Op) (i : Nat)
    (hi : 1 ≤ i) (him : i ≤ maxFlds) (v : Str) (hk : ∀ op ∈ ops', Keeps i op) :
    readVal (run m (ops ++ [.setf i v] ++ ops')).r i = v ∧
    readRef (run m (ops ++ [.setf i v] ++ ops')).r i = v := by
  rw [run_append, run_append]
  -- any state will do for the start: `$i = v` lays every span afresh
  generalize run m ops = st
  rw [show [Op.setf i v].foldl (step m) st = { st with r := setfld st.e st.r i v } from
    step_setf m _ (Nat.ne_of_gt hi) v (growFails_false _ him)]
  have := foldl_keeps m hi ops' { st with r := setfld st.e st.r i v } (rebuilt_spans _ _ _ _)
    ((setfld_length _ _ hi v).symm ▸ Nat.le_max_right ..) hk
  rwa [readVal_setfld _ _ hi hi, if_pos rfl] at this

/-- **... or its piece of the last whole-record split**: after any history, a whole-record
    assignment of `s` (`$0 = s`; the same for sub/gsub and getline), and then statements that do
    not disturb field `i`, `$i` reads the i-th piece of the split of `s` under the FS then in
    force -/
theorem field_reads_split_piece (m : Matcher) (hm : Sane m) (ops ops' : List Op) (i : Nat)
    (hi : 1 ≤ i) (s : Str) (hk : ∀ op ∈ ops', Keeps i op)
    (hlen : i ≤ (splitTextsE m (run m ops).e s).length) :
    readVal (run m (ops ++ [.set0 s] ++ ops')).r i
      = ((splitTextsE m (run m ops).e s)[i - 1]?).getD [] ∧
    readRef (run m (ops ++ [.set0 s] ++ ops')).r i
      = ((splitTextsE m (run m ops).e s)[i - 1]?).getD [] := by
  rw [run_append, run_append]
  -- any state will do for the start: the split cuts every span anew
  generalize run m ops = st at hlen ⊢
  obtain ⟨_, _, hflds, _⟩ := setrec0_shape m st.e st.r s
  have ht : texts (setrec0 m st.e st.r s) = splitTextsE m st.e s := congrArg (List.map Fld.text) hflds
  have hv : readVal (setrec0 m st.e st.r s) i = ((splitTextsE m st.e s)[i - 1]?).getD [] := ht ▸ readVal_pos _ hi
  exact hv ▸ foldl_keeps m hi ops' { st with r := setrec0 m st.e st.r s } (setrec0_spans m hm _ _ s)
    (by rwa [← texts_length, ht]) hk

/-- in every reachable state: NF is the number of fields, fields beyond NF read empty, and the
    two ways of reading any `$i` agree -/
theorem reachable_reads (m : Matcher) (hm : Sane m) (ops : List Op) (i : Nat) :
    readNF (run m ops).r = (run m ops).r.flds.length ∧
    readRef (run m ops).r i = readVal (run m ops).r i ∧
    ((run m ops).r.nf < (i : Int) → readVal (run m ops).r i = []) := by
  have hc := reachable_coherent m hm ops
  rw [runG_fst] at hc
  exact ⟨hc.nf_eq, val_eq_ref m _ _ hc i, fun h => (read_beyond_NF m _ _ hc i h).1⟩

/-- in every FS mode (blank, single character, empty, regular expression with any sane matcher,
    '?'-quoted) the fields of a whole-record split are pieces of the buffer that follow one
    another without overlapping, and each reads back exactly the characters of its piece -/
theorem split_pieces_in_order (m : Matcher) (hm : Sane m) (e : Env) (r : Rec) (s : Str) :
    let r' := setrec0 m e r s
    InOrder 0 r'.flds ∧ ∀ f ∈ r'.flds, f.off + f.len ≤ r'.buf.length ∧ f.text = slice r'.buf f.off f.len := by
  intro r'
  obtain ⟨ho, hp⟩ := setrec0_pieces m hm e r s
  exact ⟨ho, fun f hf => ⟨(hp f hf).1, (hp f hf).2.1.symm⟩⟩

/-- FS is a single character other than a blank (also a tab): the pieces joined by that
    character are the text again, and no piece contains the character.  (These two facts
    determine the pieces; the empty text has no pieces.) -/
theorem char_split_law (m : Matcher) (c : Char) (hc : c ≠ ' ') (strip : Bool) (s : Str) :
    ([c] : Str).intercalate (splitTexts m [c] strip s) = s ∧
    ∀ t ∈ splitTexts m [c] strip s, c ∉ t := by
  have hcb : (c == ' ') = false := by simpa using hc
  have e : splitTexts m [c] strip s
      = (splitLoop (roStep (tokChar c)) s.length true s 0).2.map Fld.text := by
    unfold splitTexts splitTextsE texts splitRecord roTok
    simp [fsMode, Env.fsText, hcb]
  obtain ⟨h1, h2⟩ := char_loop_law c s.length true s 0 rfl (Nat.zero_le _)
  rw [e, ← joinSep_eq_intercalate]
  exact ⟨by simpa using h1, h2⟩

/-- FS is a single blank (the default): the pieces are exactly the maximal runs of non-space
    characters of the text, in order (`Blanked`: the text is the pieces with runs of blanks,
    tabs and newlines between, before and after them) -/
theorem blank_split_law (m : Matcher) (strip : Bool) (s : Str) :
    Blanked (splitTexts m [' '] strip s) s := by
  have e : splitTexts m [' '] strip s
      = (splitLoop (roStep tokBlank) s.length true s 0).2.map Fld.text := by
    unfold splitTexts splitTextsE texts splitRecord roTok
    simp [fsMode, Env.fsText]
  rw [e]
  have := blank_loop_law s.length true s 0 rfl (Nat.zero_le _) (fun h => by cases h)
  simpa using this

/-- `Blanked` describes the pieces completely: any list of words that lays out the text this way
    is the list of pieces -/
theorem blank_split_unique (m : Matcher) (strip : Bool) (s : Str) (ts : List Str)
    (h : Blanked ts s) : ts = splitTexts m [' '] strip s :=
  blanked_unique ts _ s h (blank_split_law m strip s)

/-- joining the blank-mode fields with single blanks and splitting again gives the same fields
    (`$1 = $1` does not change the fields) -/
theorem blank_resplit (m : Matcher) (strip : Bool) (s : Str) :
    splitTexts m [' '] strip (([' '] : Str).intercalate (splitTexts m [' '] strip s))
      = splitTexts m [' '] strip s := by
  have hw := blanked_words _ s (blank_split_law m strip s)
  have hj := blanked_join _ hw
  rw [joinSep_eq_intercalate] at hj
  exact (blank_split_unique m strip _ _ hj).symm

/-- FS is the empty string: every character is a field -/
theorem each_split_law (m : Matcher) (strip : Bool) (s : Str) :
    splitTexts m [] strip s = s.map (fun c => [c]) := by
  have e : splitTexts m [] strip s
      = (splitLoop (roStep tokEach) s.length true s 0).2.map Fld.text := by
    unfold splitTexts splitTextsE texts splitRecord roTok
    simp [fsMode, Env.fsText]
  rw [e]
  have := each_loop_law s.length true s 0 rfl (Nat.zero_le _) (fun h => by cases h)
  simpa using this

/-- a matcher satisfying `Sane`: the first `:` at or after the start -/
def colonMatcher : Matcher := fun _ _ line start =>
  match (line.drop start).findIdx? (· == ':') with
  | some k => some (start + k, 1)
  | none => none

example : Sane colonMatcher := by
  intro ic fs line start ms ml h
  unfold colonMatcher at h
  split at h
  · rename_i k hk
    cases h
    have := List.findIdx?_eq_some_iff_findIdx_eq.mp hk
    have hlt := this.1
    simp only [List.length_drop] at hlt
    omega
  · cases h

/-- a reachable, non-trivial coherent state: after `$3 = "x"; OFS = "-"; $1 = "ab"; NF = 2` the
    record is `ab-` with two fields at offsets 0 and 3 -/
example : (run colonMatcher [.setf 3 ['x'], .ofs ['-'], .setf 1 ['a', 'b'], .setnf 2]).r =
    { line := ['a', 'b', '-'], linew := [], inw := false,
      flds := [{ text := ['a', 'b'], off := 0, len := 2 }, { text := [], off := 3, len := 0 }],
      nf := 2, d0 := ['a', 'b', '-'] } := by
  decide

/-- the hypotheses of `field_reads_last_assigned` are satisfiable with a non-trivial tail -/
example : ∀ op ∈ [Op.setf 1 ['q'], .ofs [':'], .setnf 2, .read 2, .ofmt []], Keeps 2 op := by
  intro op h
  simp only [List.mem_cons, List.mem_nil_iff, or_false] at h
  rcases h with rfl | rfl | rfl | rfl | rfl <;> simp [Keeps, maxFlds]

end Hawk.Rec
