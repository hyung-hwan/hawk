import HawkModel.StrFn
import HawkModel.CTieLemmas
import HawkModel.Gen.CFunsStrFn
/-!
# C13 tie — the index/length clamps of hawk_fnc_substr, machine-translated, equal the hand-written model

The theorems say that `substrIndex` and `substrCount` - the clamps under the C13 substr theorems - are the composition of
the C statements `lindex = lindex - 1; if (lindex < 0) lindex = 0; if (lindex >= (hawk_int_t)len) lindex = (hawk_int_t)len;`
and `if (lcount < 0) lcount = 0;` / `lcount = HAWK_TYPE_MAX(hawk_int_t)` / `if (lcount > (hawk_int_t)len - lindex) lcount = ...`,
in both the byte-string and the character-string arm, for every `hawk_int_t` argument and every length below 2^63
(in `HawkModel/Gen/CFunsStrFn.lean` `hawk_int_t` is `Int` with the explicit two's-complement wrap, `(hawk_int_t)len` the
wrapped cast of a `Nat`).
-/
namespace Hawk.StrFn
open Hawk.Gen.C

/-- the start index: decrement, clamp below at 0, clamp above at the length (character-string arm) -/
theorem tie_substr_index (n : Nat) (start : Int) (hn : n < 2 ^ 63)
    (h1 : -9223372036854775808 < start) (h2 : start < 9223372036854775808) :
    substrIndex n start = (subIdxHiU (subIdxLo (subIdxDec start)) n).toNat := by
  simp only [substrIndex, subIdxHiU, subIdxLo, subIdxDec, Int.ofNat_eq_natCast]
  simp only [CTie.wrap64_id (x := start - 1) (by omega) (by omega), CTie.wrap64_id (x := (n : Int)) (by omega) (by omega)]

/-- the byte-string arm has the same statement -/
theorem tie_substr_index_b (lindex : Int) (len : Nat) : subIdxHiB lindex len = subIdxHiU lindex len := rfl

/-- the upper clamp of the count at an index inside the string, for every count -/
theorem tie_substr_count_hi (n lindex : Nat) (c : Int) (hn : n < 2 ^ 63) (hl : lindex ≤ n) :
    subCntHiU c n (lindex : Int) = (if c > (n : Int) - (lindex : Int) then (n : Int) - (lindex : Int) else c) := by
  simp only [subCntHiU, Int.ofNat_eq_natCast]
  rw [CTie.wrap64_id (x := (n : Int)) (by omega) (by omega), CTie.wrap64_id (x := (n : Int) - lindex) (by omega) (by omega)]

/-- the count of the three-argument form: clamp below at 0, above at `len - lindex` -/
theorem tie_substr_count_some (n lindex : Nat) (l : Int) (hn : n < 2 ^ 63) (hl : lindex ≤ n) :
    substrCount n lindex (some l) = (subCntHiU (subCntLo l) n (lindex : Int)).toNat := by
  rw [tie_substr_count_hi n lindex _ hn hl]
  simp only [substrCount, subCntLo]

/-- the two-argument form: `lcount = HAWK_TYPE_MAX(hawk_int_t)` is always clamped to the rest of the string -/
theorem tie_substr_count_none (n lindex : Nat) (hn : n < 2 ^ 63) (hl : lindex ≤ n) :
    substrCount n lindex none = (subCntHiU subCntDefault n (lindex : Int)).toNat := by
  rw [tie_substr_count_hi n lindex _ hn hl]
  simp only [substrCount, subCntDefault]
  omega

/-- the byte-string arm has the same statement -/
theorem tie_substr_count_b (lcount : Int) (len : Nat) (lindex : Int) :
    subCntHiB lcount len lindex = subCntHiU lcount len lindex := rfl

end Hawk.StrFn
