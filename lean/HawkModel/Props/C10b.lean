/-
  C10: the error number, the retry levels and the nested evaluation stack (models and lemmas: HawkModel/OomRetry.lean).
  Every theorem is for ALL heap states (`State`, containing `Gc`), ALL failure schedules (`Oracle`)
  and ALL work trees (`Work`); those about trees are read off one invariant, proved by induction on the
  tree (`StepOK`, `exec_spec`), but for `single_refusal_absorbed_gcval`, which has an induction of its own.
-/
import HawkModel.OomRetry

namespace Hawk.Oom

/-- **retry_at_most_once_per_level** — for every work tree, heap state and failure schedule:
    `goto retry` (makemapval/makearrval) is taken at most once per container built, gc_calloc_val goes
    to its second request at most once per invocation (one invocation per gcval node, at most two per
    container node), and the total number of allocator requests is bounded by an explicit linear
    function of the tree: nothing loops. -/
theorem retry_at_most_once_per_level (w : Work) (s : State) (o : Oracle) :
    let r := exec w s o
    r.ctrRetries ≤ w.containers ∧
    r.gcRetries ≤ w.gcvals + 2 * w.containers ∧
    requests r.evs ≤ 6 * w.containers + 2 * w.gcvals + w.allocs + w.ivals := by
  have h := exec_spec w s o
  exact ⟨h.ctrRetries_le, h.gcRetries_le, h.requests_le⟩

/-- the `goto retry` is really taken (table refused twice: 1 retry, 4 requests, failure), and the
    bounds 6 requests / 2 second requests of gc_calloc_val per container are attained (on a success) -/
example : (exec .container s0 [true, false, true, false]).ctrRetries = 1 ∧
    requests (exec .container s0 [true, false, true, false]).evs = 4 := by decide
example : requests (exec .container s0 [false, true, false, false, true, true]).evs = 6 ∧
    (exec .container s0 [false, true, false, false, true, true]).gcRetries = 2 ∧
    (exec .container s0 [false, true, false, false, true, true]).ok = true := by decide

/-- **exec_failure_sets_enomem** — every failure in the model comes from a refused request
    (see `exec_failure_needs_refusal`), and whenever a tree fails, at whatever depth, the rtx's
    error number is HAWK_ENOMEM when control is back at the top: no step on the way up clears or
    overwrites it. -/
theorem exec_failure_sets_enomem (w : Work) (s : State) (o : Oracle)
    (hf : (exec w s o).ok = false) : (exec w s o).st.gem.errnum = .enomem :=
  (exec_spec w s o).fail_enomem hf

/-- non-vacuity: a failure three frames down, after a completed sibling, with a stale other error -/
example : (exec (.call (.seq .gcval (.call (.call .container))))
    { s0 with gem := { errnum := .other 7 } } [true, true, false, true, false]).ok = false := by decide

/-- **exec_errnum_exact** — "the only failure source is allocation", precisely: for every tree, state
    and schedule (a) a tree only fails after some request was refused, and (b) when control is back at
    the top the rtx error number is HAWK_ENOMEM iff some request on the way was refused — otherwise it
    is exactly what it was before.  (So ENOMEM is never lost on a failure path, never invented, but it
    DOES stay behind when a refusal was absorbed by a retry: the success paths do not reset it.) -/
theorem exec_errnum_exact (w : Work) (s : State) (o : Oracle) :
    let r := exec w s o
    grants r.evs ≤ requests r.evs ∧
    (r.ok = false → grants r.evs < requests r.evs) ∧
    r.st.gem.errnum = if grants r.evs = requests r.evs then s.gem.errnum else .enomem :=
  (exec_spec w s o).err

/-- **exec_failure_needs_refusal** — if the allocator grants every request, every tree succeeds and
    the error number is untouched: no spurious ENOMEM. -/
theorem exec_failure_needs_refusal (w : Work) (s : State) (o : Oracle) (hg : o.all id = true) :
    (exec w s o).ok = true ∧ (exec w s o).st.gem = s.gem := by
  have h := (exec_spec w s o).of_grantsAll hg
  exact ⟨h.1, h.2.1⟩

example : ([true, true, true] : Oracle).all id = true := by decide
/-- the hypothesis matters: ONE refusal that is absorbed by a retry still leaves HAWK_ENOMEM behind on
    the rtx although the call succeeded (the C never resets errnum on the success path) -/
example : (exec .gcval s0 [false]).ok = true ∧ (exec .gcval s0 [false]).st.gem.errnum = .enomem := by decide

theorem exec_call_ok (w : Work) (s : State) (o : Oracle) : (exec (.call w) s o).ok = (exec w s o).ok := by
  simp only [exec]
  cases h : (exec w s o).ok <;> simp [h]

/-- **api_propagates_enomem** (hawk_rtx_loop / hawk_rtx_callfun) — the API returns HAWK_NULL iff the
    evaluation failed or the final flush failed; when the evaluation failed the rtx error number is
    HAWK_ENOMEM even if the flush fails too (flush_ios_at_end saves and restores the error);
    with an allocator that grants everything and a clean flush the call succeeds and the error
    number is not modified. -/
theorem api_propagates_enomem (w : Work) (s : State) (o : Oracle) (fl : Option Errnum) :
    let a := apiCall w s o fl
    (a.retNull = true ↔ ((exec w s o).ok = false ∨ fl.isSome = true)) ∧
    ((exec w s o).ok = false → a.rtx.gem.errnum = .enomem) ∧
    (o.all id = true → fl = none → a.retNull = false ∧ a.rtx.gem = s.gem) := by
  intro a
  have h := exec_spec (.call w) s o
  simp only [a, apiCall, ← exec_call_ok w s o]
  cases hok : (exec (.call w) s o).ok with
  | false =>
    exact ⟨iff_of_true rfl (Or.inl rfl), fun _ => h.fail_enomem hok,
      fun hg => absurd ((h.of_grantsAll hg).1.symm.trans hok) nofun⟩
  | true =>
    cases fl with
    | none => exact ⟨iff_of_false nofun (by simp), nofun, fun hg _ => ⟨rfl, (h.of_grantsAll hg).2.1⟩⟩
    | some e => exact ⟨iff_of_true rfl (Or.inr rfl), nofun, fun _ hn => nomatch hn⟩

/-- non-vacuity: evaluation fails AND the flush fails with another error: ENOMEM survives -/
example : (apiCall (.seq .alloc .container) s0 [true, false, false] (some (.other 3))).retNull = true ∧
    (apiCall (.seq .alloc .container) s0 [true, false, false] (some (.other 3))).rtx.gem.errnum = .enomem := by
  decide

/-- **open_propagates_enomem** (hawk_rtx_open, the place where the library itself calls
    hawk_rtx_errortohawk) — HAWK_NULL is returned iff initialisation failed, and then both the rtx
    and the hawk object carry HAWK_ENOMEM; on success the hawk object's error number is not modified. -/
theorem open_propagates_enomem (w : Work) (s : State) (hawk : Gem) (o : Oracle) :
    let a := rtxOpen w s hawk o
    (a.retNull = true ↔ (exec w s o).ok = false) ∧
    (a.retNull = true → a.rtx.gem.errnum = .enomem ∧ a.hawk.errnum = .enomem) ∧
    (a.retNull = false → a.hawk = hawk) ∧
    (o.all id = true → a.retNull = false ∧ a.rtx.gem = s.gem ∧ a.hawk = hawk) := by
  intro a
  have h := exec_spec (.call w) s o
  simp only [a, rtxOpen, ← exec_call_ok w s o]
  cases hok : (exec (.call w) s o).ok with
  | false =>
    exact ⟨iff_of_true rfl rfl, fun _ => ⟨h.fail_enomem hok, h.fail_enomem hok⟩, nofun,
      fun hg => absurd ((h.of_grantsAll hg).1.symm.trans hok) nofun⟩
  | true => exact ⟨iff_of_false nofun nofun, nofun, fun _ => rfl, fun hg => ⟨rfl, (h.of_grantsAll hg).2.1, rfl⟩⟩

example : (rtxOpen (.seq .container .gcval) s0 { errnum := .noerr } [true, true, false, false]).retNull = true ∧
    (rtxOpen (.seq .container .gcval) s0 { errnum := .noerr } [true, true, false, false]).hawk.errnum = .enomem := by
  decide

/-- **exec_balanced** — for every tree, state and schedule, failed or not: every granted block is either
    given back (gc_free_val / frame unwinding), or owned by a value a COMPLETED step returned, or linked
    into rtx->vmgr.ichunk (released by hawk_rtx_close); a failed step owns nothing, so `owned` never
    exceeds what the tree's completed steps can hold, and equals it on success. -/
theorem exec_balanced (w : Work) (s : State) (o : Oracle) :
    let r := exec w s o
    grants r.evs + s.ichunks = frees r.evs + r.owned + r.st.ichunks ∧
    s.ichunks ≤ r.st.ichunks ∧ r.owned ≤ w.blocks ∧ (r.ok = true → r.owned = w.blocks) := by
  have h := exec_spec w s o
  exact ⟨h.balance, h.ichunks_le, h.owned_le, h.owned_eq⟩

/-- **exec_failure_balanced** — (1) a failed constructor (any leaf: plain allocation, gc_calloc_val,
    makemapval/makearrval, makeintval) leaves `grants = frees` and the chunk list unchanged: nothing of
    a half-built value survives (`makeval_retry_bounded`, here with the error number and for every leaf);
    (2) a failed call frame — whatever completed inside it — leaves nothing but the int chunks it linked. -/
theorem exec_failure_balanced (w : Work) (s : State) (o : Oracle) :
    ((w = .alloc ∨ w = .gcval ∨ w = .container ∨ (∃ b, w = .ival b)) → (exec w s o).ok = false →
      grants (exec w s o).evs = frees (exec w s o).evs ∧ (exec w s o).st.ichunks = s.ichunks ∧
      (exec w s o).st.ifree = s.ifree) ∧
    ((exec (.call w) s o).ok = false →
      (exec (.call w) s o).owned = 0 ∧
      grants (exec (.call w) s o).evs + s.ichunks = frees (exec (.call w) s o).evs + (exec (.call w) s o).st.ichunks) := by
  constructor
  · intro hw hf
    rcases hw with rfl | rfl | rfl | ⟨b, rfl⟩
    · exact (alloc_ok s o).1.fail_noChunk (alloc_ok s o).2 hf
    · exact (gcval_ok s o).1.fail_noChunk (gcval_ok s o).2.1 hf
    · exact (container_ok s o).1.fail_noChunk (container_ok s o).2 hf
    · exact (ival_ok b s o).2 hf
  · intro hf
    have hc := exec_call_ok w s o
    rw [hf] at hc
    have h6 := (exec_spec (.call w) s o).balance
    have h0 : (exec (.call w) s o).owned = 0 := by
      simp only [exec]; simp [← hc]
    exact ⟨h0, by omega⟩

/-- non-vacuity of (2): the first container completes (2 blocks), the second fails in a nested frame;
    the outer frame gives the two blocks back -/
example : (exec (.call (.seq .container (.call .container))) s0 [true, true, true, false, true, false]).ok = false ∧
    grants (exec (.call (.seq .container (.call .container))) s0 [true, true, true, false, true, false]).evs = 4 ∧
    frees (exec (.call (.seq .container (.call .container))) s0 [true, true, true, false, true, false]).evs = 4 := by
  decide
/-- without the frame the completed sibling keeps its blocks (and `exec_balanced` accounts for them) -/
example : (exec (.seq .container .container) s0 [true, true, true, false, true, false]).ok = false ∧
    (exec (.seq .container .container) s0 [true, true, true, false, true, false]).owned = 2 := by decide

/-- **makeintval_no_retry** — hawk_rtx_makeintval: at most ONE request, no collection and no second
    attempt (unlike gc_calloc_val); a refusal returns NULL with ENOMEM and leaves free list and chunk
    list unchanged; a non-empty free list or a small integer makes no request at all. -/
theorem makeintval_no_retry (small : Bool) (s : State) (o : Oracle) :
    let r := makeIntVal small s o
    requests r.evs ≤ 1 ∧ collects r.evs = 0 ∧ r.gcRetries = 0 ∧
    (r.ok = false → r.st.gem.errnum = .enomem ∧ r.st.ifree = s.ifree ∧ r.st.ichunks = s.ichunks) ∧
    ((small = true ∨ s.ifree > 0) → r.ok = true ∧ r.evs = [] ∧ r.st.gem = s.gem) ∧
    (r.ok = true → small = false → s.ifree = 0 → r.st.ifree = chunkSize - 1 ∧ r.st.ichunks = s.ichunks + 1) := by
  intro r
  simp only [r]
  cases small
  · by_cases hf : s.ifree = 0
    · rcases o with _ | ⟨_ | _, o⟩ <;>
        simp [makeIntVal, hf, collects, requests_cons, requests_nil, rtxAlloc_nil, rtxAlloc_true, rtxAlloc_false]
    · have : s.ifree > 0 := by omega
      simp [makeIntVal, hf, collects, requests]
  · simp [makeIntVal, collects, requests]

example : (makeIntVal false s0 [false]).ok = false := by decide

/-- **single_refusal_absorbed_gcval** — with at most one refusal in the whole schedule, a tree made only
    of gc_calloc_val steps (in any nesting) always succeeds: the refusal is absorbed by the full
    collection and the second request (lifts `gc_calloc_single_refusal` to sequences and frames). -/
theorem single_refusal_absorbed_gcval (w : Work) (hw : w.onlyGcval = true) :
    ∀ (s : State) (o : Oracle), o.count false ≤ 1 →
      (exec w s o).ok = true ∧ (exec w s o).rest.count false ≤ o.count false := by
  induction w with
  | alloc => simp [Work.onlyGcval] at hw
  | container => simp [Work.onlyGcval] at hw
  | ival b => simp [Work.onlyGcval] at hw
  | gcval =>
    intro s o ho
    exact (gcval_ok s o).2.2 ho
  | seq a b iha ihb =>
    simp only [Work.onlyGcval, Bool.and_eq_true] at hw
    intro s o ho
    obtain ⟨a1, a2⟩ := iha hw.1 s o ho
    obtain ⟨b1, b2⟩ := ihb hw.2 (exec a s o).st (exec a s o).rest (by omega)
    simp only [exec, a1, Bool.not_true, Bool.false_eq_true, if_false]
    exact ⟨b1, by omega⟩
  | call b ih =>
    simp only [Work.onlyGcval] at hw
    intro s o ho
    obtain ⟨b1, b2⟩ := ih hw s o ho
    simp only [exec, b1, if_true]
    exact ⟨trivial, b2⟩

example : (Work.seq .gcval (.call (.seq .gcval .gcval))).onlyGcval = true ∧
    ([true, false, true, true] : Oracle).count false ≤ 1 := by decide
/-- two refusals are not absorbed -/
example : (exec .gcval s0 [false, false]).ok = false := by decide

end Hawk.Oom
