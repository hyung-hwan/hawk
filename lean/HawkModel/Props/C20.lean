import HawkModel.XmaLive
/-!
  C20 - "The zone allocator never corrupts or loses memory" (lib/xma.c, modelled in HawkModel/Xma.lean).

  Vocabulary
  * `WF s` (HawkModel/Xma.lean) is the bookkeeping invariant; `wf_meaning` spells it out without the recursive helpers.
    Every header starts at a multiple of ALIGN, so every block but the last of the zone has an aligned size: the zone may be
    a caller-supplied buffer of ANY size >= FBLKMINSIZE and keeps exactly that size (a block can never reach beyond the bytes
    the caller handed over).
  * `Live s o sz d`: an allocated block has its header at zone offset `o` (the user pointer is `o + HDR`), `sz` usable bytes
    and payload `d`; `live_meaning` spells it out.
  * `alloc`/`realloc`/`free` return `Except Err _`; `Err` stands for what is undefined behaviour in C (a pointer that is not
    a live block, a dangling free-list entry).  The `*_total` theorems show that no call on a well-formed state with a live
    pointer ever ends there.
-/
namespace Hawk.Xma.C20
open Hawk.Xma

def Live (s : Xma) (o sz : Nat) (d : List Nat) : Prop := (o, sz, d) ∈ liveOffs 0 s.blks

instance (s : Xma) (o sz : Nat) (d : List Nat) : Decidable (Live s o sz d) := by unfold Live; infer_instance

/-- the states reachable from a fresh allocator over a zone of exactly `z` bytes (any `z` hawk_xma_init accepts, aligned
    or not) by any history of calls -/
def Reachable (z : Nat) (s : Xma) : Prop :=
  ∃ s0 ops, initx z = some s0 ∧ s = run s0 ops

theorem wf_meaning {s : Xma} (h : WF s) :
    total s.blks = s.zone ∧
    (∀ p b q, s.blks = p ++ b :: q → total p % ALIGN = 0 ∧ MINALLOC ≤ b.size) ∧
    (∀ b, s.blks.head? = some b → b.prev = 0) ∧
    (∀ p a b q, s.blks = p ++ a :: b :: q → b.prev = a.size ∧ ¬(a.free = true ∧ b.free = true)) ∧
    (∀ i, (fl s.xfree i).Nodup) ∧
    (∀ i o, o ∈ fl s.xfree i ↔ ∃ p b q, s.blks = p ++ b :: q ∧ total p = o ∧ b.free = true ∧ getxfi b.size = i) := by
  refine ⟨h.tile, fun p b q e => by simpa using chainOK_sizes h.chain p b q e, ?_,
    fun p a b q e => chainOK_adjacent h.chain e, h.nodup, ?_⟩
  · intro b hb
    obtain ⟨l, hl⟩ := List.head?_eq_some_iff.1 hb
    exact (hl ▸ h.chain : ChainOK 0 0 false (b :: l)).1
  · intro i o
    rw [h.mem]
    constructor
    · rintro ⟨sz, hm, hc⟩
      obtain ⟨p, b, q, e1, e2, e3, e4⟩ := freeOffs_mem_iff.1 hm
      exact ⟨p, b, q, e1, by omega, e3, e4 ▸ hc⟩
    · rintro ⟨p, b, q, e1, e2, e3, e4⟩
      exact ⟨b.size, freeOffs_mem_iff.2 ⟨p, b, q, e1, by omega, e3, rfl⟩, e4⟩

theorem live_meaning {s : Xma} {o sz : Nat} {d : List Nat} :
    Live s o sz d ↔ ∃ p b q, s.blks = p ++ b :: q ∧ total p = o ∧ b.free = false ∧ b.size = sz ∧ b.data = d := by
  simp only [Live, liveOffs_mem_iff, Nat.zero_add]

/-! ## the invariant holds initially and is preserved by every call -/

/-- hawk_xma_init over a caller-supplied zone of `z` bytes, for EVERY size it accepts (no alignment assumed): the zone
    the allocator works with has exactly `z` bytes - not one more - and is one free block, linked into the free list of its class -/
theorem init_wf {z : Nat} (hz2 : FBLKMIN ≤ z) :
    ∃ s, initx z = some s ∧ WF s ∧ s.zone = z ∧ s.blks = [{ size := z - HDR, free := true, prev := 0 }] :=
  initx_wf hz2

/-- a zone too small for one block is refused -/
theorem init_too_small {z : Nat} (hz : z < FBLKMIN) : initx z = none := by
  unfold initx; rw [if_pos hz]

/-- hawk_xma_init with zoneptr = NULL (the `hawk -m N` path): any requested size gives a well-formed allocator -/
theorem init_internal_wf (z : Nat) : ∃ s, init z = some s ∧ WF s ∧ s.zone = initSize z ∧ Reachable (initSize z) s := by
  obtain ⟨s, h1, h2, h3, _⟩ := initx_wf (initSize_ok z).2
  exact ⟨s, h1, h2, h3, s, [], h1, rfl⟩

theorem alloc_wf {s s' : Xma} {n : Nat} {r : Option Nat} (h : WF s) (ha : alloc s n = .ok (r, s')) : WF s' :=
  Hawk.Xma.alloc_wf h ha

theorem free_wf {s s' : Xma} {o : Nat} (h : WF s) (hf : free s o = .ok s') : WF s' :=
  Hawk.Xma.free_wf h hf

theorem realloc_wf {s s' : Xma} {o n : Nat} {r : Option Nat} (h : WF s) (hr : realloc s o n = .ok (r, s')) : WF s' :=
  Hawk.Xma.realloc_wf h hr

theorem calloc_wf {s s' : Xma} {n : Nat} {r : Option Nat} (h : WF s) (hc : calloc s n = .ok (r, s')) : WF s' :=
  Hawk.Xma.calloc_wf h hc

/-- every history of alloc/calloc/realloc/free (and user writes) keeps the bookkeeping consistent -/
theorem reachable_wf {z : Nat} {s : Xma} (h : Reachable z s) : WF s := by
  obtain ⟨s0, ops, h0, rfl⟩ := h
  exact run_wf (initx_some h0).2.1 ops

theorem reachable_step {z : Nat} {s : Xma} (h : Reachable z s) (op : Op) : Reachable z (step s op) := by
  obtain ⟨s0, ops, h0, rfl⟩ := h
  exact ⟨s0, ops ++ [op], h0, by simp [run, List.foldl_append]⟩

/-- the allocator never changes its idea of the zone: after any history it is still the `z` bytes given to init -/
theorem reachable_zone {z : Nat} {s : Xma} (h : Reachable z s) : s.zone = z := by
  obtain ⟨s0, ops, h0, rfl⟩ := h
  rw [run_zone]
  exact (initx_some h0).2.2

/-! ## no call on a consistent heap reads a dangling pointer -/

theorem alloc_total {s : Xma} (h : WF s) (n : Nat) : ∃ r s', alloc s n = .ok (r, s') :=
  Hawk.Xma.alloc_total h n

theorem free_total {s : Xma} {o sz : Nat} {d : List Nat} (hl : Live s o sz d) : ∃ s', free s o = .ok s' :=
  Hawk.Xma.free_total hl

theorem realloc_total {s : Xma} {o sz n : Nat} {d : List Nat} (h : WF s) (hl : Live s o sz d) :
    ∃ r s', realloc s o n = .ok (r, s') :=
  Hawk.Xma.realloc_total h hl

/-! ## returned blocks: aligned, inside the zone, disjoint -/

/-- in a consistent heap every live block is aligned (header and user pointer), lies inside the zone, ends at a multiple
    of ALIGN or exactly at the zone end, and the byte ranges (header included) of two different live blocks do not overlap -/
theorem live_aligned_inside_disjoint {s : Xma} (h : WF s) {o sz : Nat} {d : List Nat} (hl : Live s o sz d) :
    (o + HDR) % ALIGN = 0 ∧ MINALLOC ≤ sz ∧ o + HDR + sz ≤ s.zone ∧ (sz % ALIGN = 0 ∨ o + HDR + sz = s.zone) ∧
    ∀ o2 sz2 d2, Live s o2 sz2 d2 → o2 ≠ o → o + HDR + sz ≤ o2 ∨ o2 + HDR + sz2 ≤ o := by
  obtain ⟨f1, f2, f3, f4⟩ := wf_live_facts h hl
  exact ⟨f1, f2, f3, f4, fun o2 sz2 d2 hl2 hne => live_disjoint hl hl2 (fun e => hne e.symm)⟩

/-- for every history over a zone of `z` bytes: a live block lies inside those `z` bytes -/
theorem reachable_inside {z : Nat} {s : Xma} (hr : Reachable z s) {o sz : Nat} {d : List Nat} (hl : Live s o sz d) :
    o + HDR + sz ≤ z := by
  have := (live_aligned_inside_disjoint (reachable_wf hr) hl).2.2.1
  rw [reachable_zone hr] at this
  exact this

/-- over a zone whose size is a multiple of ALIGN all live blocks have aligned sizes -/
theorem live_size_aligned {s : Xma} (h : WF s) (hz : s.zone % ALIGN = 0) {o sz : Nat} {d : List Nat} (hl : Live s o sz d) :
    sz % ALIGN = 0 := by
  have f := live_aligned_inside_disjoint h hl
  rcases f.2.2.2.1 with e | e
  · exact e
  · exact Nat.mod_eq_zero_of_dvd ((Nat.dvd_add_right (Nat.dvd_of_mod_eq_zero f.1)).1 (Nat.dvd_of_mod_eq_zero (e ▸ hz)))

/-- hawk_xma_alloc returning a pointer: the block is fresh (no live block had this address), has at least the requested
    `n` bytes, and every block that was live is still live at the same address with the same size and contents
    (and nothing else is).  With `live_aligned_inside_disjoint` on `s'`: aligned, inside the zone, disjoint from all others. -/
theorem alloc_returns {s s' : Xma} {n o : Nat} (h : WF s) (hz : s.zone < WORD) (hn : n < WORD)
    (ha : alloc s n = .ok (some o, s')) :
    ∃ sz, Live s' o sz [] ∧ n ≤ sz ∧ (∀ o2 sz2 d2, Live s o2 sz2 d2 → o2 ≠ o) ∧
      (∀ o2 sz2 d2, Live s' o2 sz2 d2 ↔ Live s o2 sz2 d2 ∨ (o2, sz2, d2) = (o, sz, [])) := by
  obtain ⟨sz, m1, m2, hle⟩ := alloc_spec h ha
  exact ⟨sz, (m1 _).2 (Or.inr rfl), hle hn, fun o2 sz2 d2 hl => m2 _ hl, fun o2 sz2 d2 => m1 _⟩

/-- hawk_xma_calloc returning a pointer: as hawk_xma_alloc, and the `n` requested bytes are zero -/
theorem calloc_returns {s s' : Xma} {n o : Nat} (h : WF s) (hz : s.zone < WORD) (hn : n < WORD)
    (hc : calloc s n = .ok (some o, s')) :
    ∃ sz, Live s' o sz (List.replicate n 0) ∧ n ≤ sz ∧ (∀ o2 sz2 d2, Live s o2 sz2 d2 → o2 ≠ o) ∧
      (∀ o2 sz2 d2, Live s' o2 sz2 d2 ↔ Live s o2 sz2 d2 ∨ (o2, sz2, d2) = (o, sz, List.replicate n 0)) := by
  obtain ⟨sz, hle, m1, m2⟩ := calloc_spec h hn hc
  exact ⟨sz, (m1 _).2 (Or.inr rfl), hle, fun o2 sz2 d2 hl => m2 _ hl, fun o2 sz2 d2 => m1 _⟩

/-- hawk_xma_alloc returning NULL changes nothing -/
theorem alloc_null_unchanged {s s' : Xma} {n : Nat} (ha : alloc s n = .ok (none, s')) : s' = s :=
  alloc_none ha

/-- the best-fit branch takes the head of a fixed class without looking at its size: a block filed in the fixed class of
    an aligned request size has at least that many bytes, also when the block itself is not aligned (odd external zone) -/
theorem bestfit_enough {a b : Nat} (ha2 : ALIGN ≤ a) (ha3 : a < WORD)
    (hb1 : b % ALIGN = 0) (hb2 : ALIGN ≤ b) (hb3 : b < WORD) (h : getxfi a = getxfi b) (hf : getxfi b < FIXED) : b ≤ a :=
  fixed_class_ge ha2 hb1 hb2 hb3 h hf

/-- the best-fit branch relies on `HAWK_ASSERT(cand->size == size)`: in a consistent heap over a zone smaller than the
    address space two aligned sizes of the same fixed class are indeed equal -/
theorem bestfit_exact {a b : Nat} (ha1 : a % ALIGN = 0) (ha2 : ALIGN ≤ a) (ha3 : a < WORD)
    (hb1 : b % ALIGN = 0) (hb2 : ALIGN ≤ b) (hb3 : b < WORD) (h : getxfi a = getxfi b) (hf : getxfi b < FIXED) : a = b :=
  fixed_class_exact ha1 ha2 ha3 hb1 hb2 hb3 h hf

/-- szlog2() of xma.c is floor(log2 n) on non-zero machine words -/
theorem szlog2_floor_log2 (n : Nat) (h1 : n < 2 ^ 64) (h2 : 1 ≤ n) : 2 ^ szlog2 n ≤ n ∧ n < 2 ^ (szlog2 n + 1) :=
  szlog2_spec n h1 h2

/-! ## contents are kept -/

/-- hawk_xma_free removes exactly the freed block from the live set; all other blocks keep address, size and contents -/
theorem free_keeps_others {s s' : Xma} {o : Nat} (hf : free s o = .ok s') :
    (∃ sz d, Live s o sz d) ∧ ∀ o2 sz2 d2, Live s' o2 sz2 d2 ↔ Live s o2 sz2 d2 ∧ o2 ≠ o := by
  obtain ⟨sz, d, hl, m⟩ := free_spec hf
  exact ⟨⟨sz, d, hl⟩, fun o2 sz2 d2 => m _⟩

/-- a user write into a live block changes the payload of that block only -/
theorem write_keeps_others {s : Xma} {o sz : Nat} {d d' : List Nat} (hl : Live s o sz d) (hlen : d'.length ≤ sz) :
    ∀ o2 sz2 d2, Live (step s (.write o d')) o2 sz2 d2 ↔ (Live s o2 sz2 d2 ∧ o2 ≠ o) ∨ (o2, sz2, d2) = (o, sz, d') := by
  obtain ⟨b, hb, hbf, e1, _⟩ := blkAt_live hl
  intro o2 sz2 d2
  simp only [step, hb, hbf, e1, hlen, Bool.not_false, and_self, if_true]
  exact setData_spec hl _

/-- hawk_xma_realloc returning a pointer `o'` (header offset; equal to `o` when done in place): the block has at least `n`
    bytes, its first `min n sz` bytes are those of the old block, the old address is not live afterwards unless `o' = o`, a moved
    block lands on an address that was not live, and every other live block keeps address, size and contents. -/
theorem realloc_contents {s s' : Xma} {o n sz o' : Nat} {d : List Nat} (h : WF s) (hz : s.zone < WORD) (hn : n < WORD)
    (hl : Live s o sz d) (hr : realloc s o n = .ok (some o', s')) :
    ∃ sz' d', Live s' o' sz' d' ∧ n ≤ sz' ∧ (∀ k, k ≤ n → k ≤ sz → d'.take k = d.take k) ∧
      (o' ≠ o → ∀ o2 sz2 d2, Live s o2 sz2 d2 → o2 ≠ o') ∧
      (∀ o2 sz2 d2, Live s' o2 sz2 d2 ↔ (Live s o2 sz2 d2 ∧ o2 ≠ o) ∨ (o2, sz2, d2) = (o', sz', d')) := by
  obtain ⟨sz', d', hle, hd, m1, m2⟩ := realloc_spec h hn hl hr
  exact ⟨sz', d', (m1 _).2 (Or.inr rfl), hle, hd, fun hne o2 sz2 d2 hl2 => m2 hne _ hl2, fun o2 sz2 d2 => m1 _⟩

/-- hawk_xma_realloc returning NULL changes nothing: the old block stays live with its contents -/
theorem realloc_null_unchanged {s s' : Xma} {o n sz : Nat} {d : List Nat} (h : WF s) (hz : s.zone < WORD) (hn : n < WORD)
    (hl : Live s o sz d) (hr : realloc s o n = .ok (none, s')) : s' = s :=
  realloc_none hr

/-- the alloc-copy-free fallback (repaired code) copies no more than the old block holds and no more than was requested
    (so no more than the new block holds, by `alloc_returns`) -/
theorem copy_within_blocks (n osize : Nat) : copyLen n osize ≤ osize ∧ copyLen n osize ≤ n := by
  unfold copyLen; split <;> omega

/-! ## nothing is lost -/

/-- once no block is live, the chain is a single free block covering the whole zone, and it is the only entry of the
    free lists (in the list of its class) - the zone is available again exactly as after init -/
theorem all_freed_single_block {s : Xma} (h : WF s) (hz : FBLKMIN ≤ s.zone) (hnone : ∀ o sz d, ¬ Live s o sz d) :
    ∃ b, s.blks = [b] ∧ b.free = true ∧ b.size = s.zone - HDR ∧ b.prev = 0 ∧
      fl s.xfree (getxfi b.size) = [0] ∧ ∀ i, i ≠ getxfi b.size → fl s.xfree i = [] :=
  wf_all_free h hz (List.eq_nil_iff_forall_not_mem.2 fun _ hx => hnone _ _ _ hx)

/-- for every history from init: when everything has been freed the whole zone is one free block again -/
theorem reachable_all_freed {z : Nat} {s : Xma} (hr : Reachable z s) (hnone : ∀ o sz d, ¬ Live s o sz d) :
    ∃ b, s.blks = [b] ∧ b.free = true ∧ b.size = s.zone - HDR ∧ b.prev = 0 ∧ fl s.xfree (getxfi b.size) = [0] := by
  have hw := reachable_wf hr
  have hz : FBLKMIN ≤ s.zone := by
    rw [reachable_zone hr]
    obtain ⟨s0, _, h0, _⟩ := hr
    exact (initx_some h0).1
  obtain ⟨b, h1, h2, h3, h4, h5, _⟩ := all_freed_single_block hw hz hnone
  exact ⟨b, h1, h2, h3, h4, h5⟩

/-! ## non-vacuity: the hypotheses above are met by non-trivial reachable states -/

/-- a history that splits (alloc x4), frees with no and with two free neighbours, reallocs in place (grow into the free
    next block, with a split) and reallocs again -/
def demo : List Op :=
  [.alloc 16, .alloc 16, .alloc 16, .alloc 16, .write 96 [7, 7, 7], .free 0, .free 64, .free 32, .realloc 96 100, .realloc 96 600]

example : ∃ s0, initx 1024 = some s0 ∧ Reachable 1024 (run s0 demo) ∧
    (run s0 demo).blks.map (fun b => (b.size, b.free, b.prev)) = [(80, true, 0), (608, false, 80), (288, true, 608)] ∧
    Live (run s0 demo) 96 608 [7, 7, 7] ∧ fl (run s0 demo).xfree 4 = [0] ∧ fl (run s0 demo).xfree 17 = [720] :=
  ⟨_, rfl, ⟨_, demo, rfl, rfl⟩, by decide⟩

/-- realloc that has to move (next block live): contents travel with the block, the old address is free again -/
example : ∃ s0, initx 1024 = some s0 ∧
    (realloc (run s0 [.alloc 16, .alloc 16, .write 0 [1, 2, 3]]) 0 40).toOption.map (fun r => (r.1, liveOffs 0 r.2.blks)) =
      some (some 64, [(32, 16, []), (64, 48, [1, 2, 3])]) :=
  ⟨_, rfl, by decide⟩

/-- hypotheses of `reachable_all_freed` are satisfiable after real work -/
example : ∃ s0, initx 1024 = some s0 ∧ liveOffs 0 (run s0 (demo ++ [.free 96])).blks = [] ∧
    (run s0 (demo ++ [.free 96])).blks = [{ size := 1008, free := true, prev := 0 }] :=
  ⟨_, rfl, by decide⟩

/-- a caller-supplied zone of 1000 bytes (not a multiple of ALIGN): the residue stays with the last block, the tail of the
    zone is handed out up to its last byte (960 + 16 + 24 = 1000) and never beyond; everything freed = one block of 984 -/
example : ∃ s0, initx 1000 = some s0 ∧ s0.zone = 1000 ∧
    liveOffs 0 (run s0 [.alloc 944, .calloc 3]).blks = [(0, 944, []), (960, 24, [0, 0, 0])] ∧
    (run s0 [.alloc 944, .calloc 3, .free 0, .free 960]).blks = [{ size := 984, free := true, prev := 0 }] :=
  ⟨_, rfl, rfl, by decide, by decide⟩

/-- a request that cannot be rounded (the machine word would wrap) is refused -/
example : ∃ s0, initx 1024 = some s0 ∧ (alloc s0 (2 ^ 64 - 1)).toOption.map (·.1) = some none := ⟨_, rfl, by decide⟩

end Hawk.Xma.C20
