import HawkModel.CmpLemmas
/-!
# C11 — comparison operators are mutually consistent

Everything is about `cmpVal`, the dispatcher that INTERPRETS the table and routine shapes generated from
lib/run.c (`HawkModel/Gen/CmpTable.lean`), for every parameter instantiation (float order, conversions,
case folding), every `Cfg` (IGNORECASE, NCMPONSTR, FLEXMAP; STRIPSTRSPC only selects the conversion
functions) and all scalar values.  The operator laws ask of the float order only `FltAsymm` (no two floats are
each smaller than the other), which IEEE `<` has with NaN included (`Dy.lt_asymm`); "finite floats" enters for
sorting, as `FltLaws`, whose `negTrans` fails of NaN.
-/
namespace Hawk.Cmp
variable {F : Type}

/-- the expression `a <op> b` evaluates (without run-time error) to 1 -/
def Holds (P : Params F) (cfg : Cfg) (op : Op) (a b : Val F) : Prop := evalOp P cfg op a b = .ok true

/-- Every item `extract/cmp_table.py` reads out of lib/run.c and lib/hawk.h is what the hand-written model
    uses: the ten indexing enumerators and their values, the stride, for each ordered pair of value types the
    table entry at `lvtype * 10 + rvtype` is the routine named for that pair and its body has the shape the
    model assumes (own code / mirror of which routine / alias of which routine / `__cmp_ensure_not_equal` /
    reject), the inverse-hint table, the `__cmp_ensure_not_equal` results, the hint and test of each of the
    six operators, the polarity of `===`/`!==`; consequently the generated dispatcher is the hand-written one. -/
theorem dispatch_correct :
    Gen.valTypes = Ty.all.map (fun t => (t.cname, t.code)) ∧
    Gen.stride = 10 ∧
    (∀ l r : Ty, Gen.table[l.code * Gen.stride + r.code]? = some (l.code, r.code)) ∧
    Gen.table.length = 100 ∧
    (∀ l r : Ty, Gen.shape l.code r.code = expectedShape l r) ∧
    Gen.inverseTab = Hint.all.map (fun h => h.inv.code) ∧
    Gen.ensureNotEqualTab = Hint.all.map ensureNotEqual ∧
    Gen.binops = Op.all.map (fun o => (o.name, o.hint.code, o.testCode)) ∧
    Gen.teqOps = [("teq", true), ("tne", false)] ∧
    (∀ (F : Type) (P : Params F) (cfg : Cfg) (h : Hint) (a b : Val F), cmpVal P cfg h a b = cmpDirect P cfg h a b) :=
  ⟨by decide, rfl, table_ok, rfl, shape_ok, by decide, by decide, by decide, by decide,
   fun _ P cfg h a b => cmpVal_eq_direct P cfg h a b⟩

/-- comparing two scalars never fails and yields -1, 0 or 1, whatever hint the caller passes -/
theorem cmp_scalar_total (P : Params F) (cfg : Cfg) (a b : Val F) (ha : a.scalar = true) (hb : b.scalar = true) :
    ∃ n : Int, (n = -1 ∨ n = 0 ∨ n = 1) ∧ ∀ h, cmpVal P cfg h a b = .ok n :=
  cmpVal_scalar_ok P cfg a b ha hb

/-- antisymmetry: `cmp b a = -(cmp a b)` (as `hawk_rtx_cmpval` and under any hints) -/
theorem cmp_antisymm (P : Params F) (hP : FltAsymm P) (cfg : Cfg) (a b : Val F)
    (ha : a.scalar = true) (hb : b.scalar = true) (h h' : Hint) :
    cmpVal P cfg h' b a = neg (cmpVal P cfg h a b) := by
  obtain ⟨n, h1, h2⟩ := cmpVal_scalar_antisymm P hP cfg a b ha hb
  rw [h1 h, h2 h']; rfl

/-- each operator evaluates without error on scalars, to the test of the one three-way result -/
theorem ops_defined (P : Params F) (cfg : Cfg) (a b : Val F) (ha : a.scalar = true) (hb : b.scalar = true) :
    ∃ n : Int, (n = -1 ∨ n = 0 ∨ n = 1) ∧ rtxCmpVal P cfg a b = .ok n ∧ ∀ op, evalOp P cfg op a b = .ok (op.test n) := by
  obtain ⟨n, ht, hn⟩ := cmpVal_scalar_ok P cfg a b ha hb
  exact ⟨n, ht, hn .none, fun op => by simp [evalOp, hn op.hint]⟩

/-- exactly one of `a<b`, `a==b`, `a>b` holds -/
theorem trichotomy (P : Params F) (cfg : Cfg) (a b : Val F) (ha : a.scalar = true) (hb : b.scalar = true) :
    (Holds P cfg .lt a b ∨ Holds P cfg .eq a b ∨ Holds P cfg .gt a b) ∧
    ¬ (Holds P cfg .lt a b ∧ Holds P cfg .eq a b) ∧
    ¬ (Holds P cfg .lt a b ∧ Holds P cfg .gt a b) ∧
    ¬ (Holds P cfg .eq a b ∧ Holds P cfg .gt a b) := by
  obtain ⟨n, ht, _, hop⟩ := ops_defined P cfg a b ha hb
  simp only [Holds, hop, Op.test]
  rcases ht with rfl | rfl | rfl <;> simp

/-- `a<b` iff `b>a` -/
theorem lt_iff_gt_swapped (P : Params F) (hP : FltAsymm P) (cfg : Cfg) (a b : Val F)
    (ha : a.scalar = true) (hb : b.scalar = true) : Holds P cfg .lt a b ↔ Holds P cfg .gt b a := by
  obtain ⟨n, h1, h2⟩ := cmpVal_scalar_antisymm P hP cfg a b ha hb
  simp only [Holds, evalOp, h1, h2, Op.test, Op.hint]
  simp <;> omega

/-- `a>b` iff `b<a` -/
theorem gt_iff_lt_swapped (P : Params F) (hP : FltAsymm P) (cfg : Cfg) (a b : Val F)
    (ha : a.scalar = true) (hb : b.scalar = true) : Holds P cfg .gt a b ↔ Holds P cfg .lt b a :=
  (lt_iff_gt_swapped P hP cfg b a hb ha).symm

/-- `a<=b` iff `a<b` or `a==b` -/
theorem le_iff_lt_or_eq (P : Params F) (cfg : Cfg) (a b : Val F) (ha : a.scalar = true) (hb : b.scalar = true) :
    Holds P cfg .le a b ↔ (Holds P cfg .lt a b ∨ Holds P cfg .eq a b) := by
  obtain ⟨n, _, _, hop⟩ := ops_defined P cfg a b ha hb
  simp only [Holds, hop, Op.test]
  simp <;> omega

/-- `a>=b` iff `a>b` or `a==b` -/
theorem ge_iff_gt_or_eq (P : Params F) (cfg : Cfg) (a b : Val F) (ha : a.scalar = true) (hb : b.scalar = true) :
    Holds P cfg .ge a b ↔ (Holds P cfg .gt a b ∨ Holds P cfg .eq a b) := by
  obtain ⟨n, _, _, hop⟩ := ops_defined P cfg a b ha hb
  simp only [Holds, hop, Op.test]
  simp <;> omega

/-- `a!=b` iff not `a==b` (both evaluate without error) -/
theorem ne_iff_not_eq (P : Params F) (cfg : Cfg) (a b : Val F) (ha : a.scalar = true) (hb : b.scalar = true) :
    Holds P cfg .ne a b ↔ ¬ Holds P cfg .eq a b := by
  obtain ⟨n, _, _, hop⟩ := ops_defined P cfg a b ha hb
  simp only [Holds, hop, Op.test]
  simp

/-- `a==b` iff `b==a` -/
theorem eq_symm (P : Params F) (hP : FltAsymm P) (cfg : Cfg) (a b : Val F)
    (ha : a.scalar = true) (hb : b.scalar = true) : Holds P cfg .eq a b ↔ Holds P cfg .eq b a := by
  obtain ⟨n, h1, h2⟩ := cmpVal_scalar_antisymm P hP cfg a b ha hb
  simp only [Holds, evalOp, h1, h2, Op.test, Op.hint]
  simp

/-- `a===b` implies `a==b`.  Strings: `===` compares the texts (case-insensitively under IGNORECASE) while `==`
    compares two flagged numeric strings as numbers, so the implication needs the flags to be the ones hawk
    assigns (`NstrOK`) and, only when IGNORECASE is on, the case-insensitivity of number parsing (`FoldNum`;
    with IGNORECASE off it is a theorem: `foldNum_of_exact`).  The check evaluates `FoldNum` on the real
    conversions for every pool pair the real `===` accepts. -/
theorem teq_implies_eq (P : Params F) (hP : FltAsymm P) (cfg : Cfg)
    (hF : cfg.ignorecase = true → FoldNum P cfg) (a b : Val F)
    (ha : a.scalar = true) (hb : b.scalar = true) (hwa : NstrOK P a) (hwb : NstrOK P b)
    (ht : teqVal P cfg a b = true) : Holds P cfg .eq a b := by
  have hF' : FoldNum P cfg := by
    cases hi : cfg.ignorecase
    · exact foldNum_of_exact P hP cfg hi
    · exact hF hi
  simp [Holds, evalOp, teq_cmp_zero P cfg hF' a b ha hb hwa hwb ht, Op.test]

/-- `x ≤ y` under `hawk_rtx_cmpval`, the relation asort sorts by -/
def Le (P : Params F) (cfg : Cfg) (x y : Val F) : Prop := LeC (cmpVal P cfg .none) x y

/-- on values of one kind — all numbers, all plain strings (the property's two kinds), and also all flagged
    numeric strings, all byte strings, all characters, all byte characters — `hawk_rtx_cmpval` never fails and
    is a total preorder -/
theorem cmp_total_preorder_on_kind (P : Params F) (hL : FltLaws P) (cfg : Cfg) (k : Kind) :
    TotalPreorderOn (cmpVal P cfg .none) (fun v : Val F => v.hasKind k = true) :=
  kind_tpo P hL cfg k

/-- asort/asorti return a permutation of their input (whatever the comparator does), the return value is the
    number of elements, and a nil or empty source gives an empty destination -/
theorem asort_perm {α : Type} (P : Params F) (cfg : Cfg) (val : α → Val F) (src : Option (List α)) (rv : Nat) (out : List α)
    (h : asortBy P cfg val src = .ok (rv, out)) :
    rv = out.length ∧ out.Perm (src.getD []) :=
  isort_withLength_perm _ _ rv out (asortBy_eq P cfg val src ▸ h)

/-- for a source whose elements are all of one kind, asort succeeds and its result is non-decreasing:
    every earlier element is `≤` every later one under `hawk_rtx_cmpval` -/
theorem asort_sorted_on_kind {α : Type} (P : Params F) (hL : FltLaws P) (cfg : Cfg) (val : α → Val F) (k : Kind)
    (elems : List α) (hk : ∀ x ∈ elems, (val x).hasKind k = true) :
    ∃ out, asortBy P cfg val (some elems) = .ok (elems.length, out) ∧ out.Perm elems ∧
      out.Pairwise (fun x y => Le P cfg (val x) (val y)) := by
  rw [asortBy_eq]
  exact isort_withLength_sorted _ _ ((kind_tpo P hL cfg k).comap val) elems hk

/-- The tie between the part of `hawk_qsortx` that is not transcribed (quicksort path, `nmemb >= 7`) and the model:
    two non-decreasing arrangements of the same one-kind multiset agree position by position up to `cmp = 0`.
    So checking "the real output is element-wise comparator-equal to the model's `isort` output" is the same as
    checking "the real output is a sorted permutation". -/
theorem sorted_perm_unique (P : Params F) (hL : FltLaws P) (cfg : Cfg) (k : Kind) (l1 l2 : List (Val F))
    (hk : ∀ x ∈ l1, x.hasKind k = true) (hp : l1.Perm l2)
    (h1 : l1.Pairwise (Le P cfg)) (h2 : l2.Pairwise (Le P cfg)) (i : Nat) (hi1 : i < l1.length) (hi2 : i < l2.length) :
    cmpVal P cfg .none l1[i] l2[i] = .ok 0 := by
  have hT := kind_tpo P hL cfg k
  have hk2 : ∀ x ∈ l2, x.hasKind k = true := fun x hx => hk x (hp.mem_iff.mpr hx)
  obtain ⟨n, hn, hn'⟩ := cmpVal_scalar_antisymm P hL.asymm cfg l1[i] l2[i]
    (hasKind_scalar _ k (hk _ (List.getElem_mem hi1))) (hasKind_scalar _ k (hk2 _ (List.getElem_mem hi2)))
  have h12 := (leC_ok (hn .none)).mp (sorted_perm_pointwise _ _ hT l1 l2 hk hp h1 h2 i hi1 hi2)
  have h21 := (leC_ok (hn' .none)).mp (sorted_perm_pointwise _ _ hT l2 l1 hk2 hp.symm h2 h1 i hi2 hi1)
  rw [hn .none, show n = 0 by omega]

/-- whatever the comparator (default or user function, consistent or not), whatever the source (nil, map with any
    keys, array with any occupied slots) and whichever variable receives it: the result of asort is a permutation of
    the source's values, that of asorti a permutation of the source's subscripts, and the return value is their number -/
theorem asort_src_perm (c : Val F → Val F → Except Err Int) (sortKeys : Bool) (src : Src F) (rv : Nat) (out : List (Val F))
    (h : fncAsortSrc c sortKeys src = .ok (rv, out)) :
    rv = out.length ∧ out.Perm (src.elems sortKeys) :=
  isort_withLength_perm c _ rv out (fncAsortSrc_eq c sortKeys src ▸ h)

/-- the subscripts asorti sorts for an array are exactly the NUMBERS of its occupied slots (slot 0, gaps and deleted
    elements included in the count of positions), as integers -/
theorem asorti_array_subscripts (sl : List (Option (Val F))) (v : Val F) :
    v ∈ (Src.arr sl).subscripts ↔ ∃ j w, v = .int (j : Nat) ∧ sl[j]? = some (some w) := by
  simp only [Src.subscripts, List.mem_map, Prod.exists, mem_occupied, Nat.zero_le, true_and, Nat.sub_zero]
  exact exists₂_congr fun j w => by rw [and_comm, eq_comm]

/-- the subscripts of a map are its keys as plain (unflagged) strings -/
theorem asorti_map_subscripts (ps : List (Str × Val F)) :
    (Src.map ps).subscripts = ps.map (fun p => Val.str p.1 0) := rfl

/-- any user comparator that is a total preorder on the source's elements gives a result sorted by that comparator -/
theorem asort_user_sorted (c : Val F → Val F → Except Err Int) (S : Val F → Prop) (hT : TotalPreorderOn c S)
    (sortKeys : Bool) (src : Src F) (hS : ∀ x ∈ src.elems sortKeys, S x) :
    ∃ out, fncAsortSrc c sortKeys src = .ok ((src.elems sortKeys).length, out) ∧
      out.Perm (src.elems sortKeys) ∧ out.Pairwise (LeC c) := by
  rw [fncAsortSrc_eq]
  exact isort_withLength_sorted c S hT _ hS

/-- asorti with the default comparator ALWAYS succeeds and returns the subscripts in non-decreasing order: the keys
    of a map are all plain strings, the slot numbers of an array all integers -/
theorem asorti_sorted (P : Params F) (hL : FltLaws P) (cfg : Cfg) (src : Src F) :
    ∃ out, fncAsortSrc (cmpVal P cfg .none) true src = .ok (src.subscripts.length, out) ∧
      out.Perm src.subscripts ∧ out.Pairwise (Le P cfg) :=
  have ⟨k, hk⟩ := subscripts_hasKind src
  asort_user_sorted _ _ (kind_tpo P hL cfg k) true src hk

/-- asort with the default comparator on a source whose values are all of one kind: succeeds, permutation, non-decreasing -/
theorem asort_src_sorted_on_kind (P : Params F) (hL : FltLaws P) (cfg : Cfg) (k : Kind) (src : Src F)
    (hk : ∀ x ∈ src.values, x.hasKind k = true) :
    ∃ out, fncAsortSrc (cmpVal P cfg .none) false src = .ok (src.values.length, out) ∧
      out.Perm src.values ∧ out.Pairwise (Le P cfg) :=
  asort_user_sorted _ _ (kind_tpo P hL cfg k) false src hk

/-- a user comparator written with the language's own `<` and `>` (`(a<b)? -1: ((a>b)? 1: 0)`) IS `hawk_rtx_cmpval` on
    scalars, so `asort(src, dst, ucmp)` sorts by the same relation -/
theorem userCmp3_eq_cmp (P : Params F) (cfg : Cfg) (a b : Val F) (ha : a.scalar = true) (hb : b.scalar = true) :
    userCmp3 P cfg a b = cmpVal P cfg .none a b := by
  obtain ⟨n, ht, hn⟩ := cmpVal_scalar_ok P cfg a b ha hb
  simp only [userCmp3, evalOp, hn, Op.test, Op.hint]
  rcases ht with rfl | rfl | rfl <;> simp

/-- an array with slot 0 in use, a gap and a deleted element: asorti yields the slot numbers 0, 2, 5 -/
example : fncAsortSrc (cmpVal exampleParams ⟨false, false, true⟩ .none) true
    (.arr [some (.int 50), none, some (.int 30), none, none, some (.int 10)]) = .ok (3, [.int 0, .int 2, .int 5]) := rfl

example : fncAsortSrc (cmpVal exampleParams ⟨false, false, true⟩ .none) false
    (.arr [some (.int 50), none, some (.int 30), none, none, some (.int 10)]) = .ok (3, [.int 10, .int 30, .int 50]) := rfl

example : fncAsortSrc (userCmp3 exampleParams ⟨false, false, true⟩) true
    (.map [([57], .int 1), ([49, 48], .int 2)]) = .ok (2, [.str [49, 48] 0, .str [57] 0]) := rfl

/-! Non-vacuity: the hypotheses are satisfiable, and "one kind" cannot be dropped. -/

def exLower (c : Nat) : Nat := if 65 ≤ c ∧ c ≤ 90 then c + 32 else c

/-- a lawful instance: integers as floats; a string converts through its case-folded text:
    one decimal digit, "10", or "e"/"E" read as the float 3 -/
def exampleParams : Params Int where
  lt := fun x y => decide (x < y)
  ofInt := id
  lower := exLower
  blower := exLower
  intToStr := fun _ => [48]
  fltToStr := fun _ => [48]
  intToBcs := fun _ => [48]
  fltToBcs := fun _ => [48]
  strToNum := fun s => match s.map exLower with
    | [101] => .flt 3
    | [c] => if 48 ≤ c ∧ c ≤ 57 then .int (c - 48) else .notnum
    | [49, 48] => .int 10
    | _ => .notnum
  strToFlt := fun s => match s.map exLower with | [101] => (3, true) | [c] => ((c : Int) - 48, true) | [49, 48] => (10, true) | _ => (0, false)
  strToInt := fun s => match s.map exLower with | [c] => (c : Int) - 48 | [49, 48] => 10 | _ => 0
  bcsToNum := fun _ => .notnum
  bcsToFlt := fun _ => (0, false)
  encode := id

example : FltLaws exampleParams :=
  ⟨fun _ _ h => decide_eq_false (Int.lt_asymm (of_decide_eq_true h)),
   fun _ _ _ h1 h2 => decide_eq_false fun h => by
     have := of_decide_eq_false h1
     have := of_decide_eq_false h2
     omega,
   fun _ _ => rfl⟩

/-- the float type the correspondence driver computes with (`Dy`: every finite hawk_flt_t exactly, as
    mantissa * 2^exponent, plus the infinities) satisfies the three `FltLaws` as soon as NaN is excluded,
    which is the property's "finite float" proviso -/
theorem driver_float_order_lawful :
    (∀ x y : Dy, Dy.lt x y = true → Dy.lt y x = false) ∧
    (∀ x y z : Dy, x ≠ .nan → y ≠ .nan → z ≠ .nan → Dy.lt x y = false → Dy.lt y z = false → Dy.lt x z = false) ∧
    (∀ i j : Int, Dy.lt (Dy.ofInt i) (Dy.ofInt j) = decide (i < j)) :=
  ⟨Dy.lt_asymm, fun x y z _ hy _ => Dy.lt_negTrans x y z hy, Dy.ofInt_lt⟩

example : CaseInsensitiveParse exampleParams := by
  intro s t (h : s.map exLower = t.map exLower)
  dsimp only [exampleParams]
  rw [h]
  exact ⟨rfl, rfl, rfl⟩

/-- `teq_implies_eq` is not vacuous under IGNORECASE: "E" === "e" (both flagged as float strings) and so "E" == "e" -/
example : Holds exampleParams ⟨true, false, true⟩ .eq (.str [69] 2) (.str [101] 2) :=
  have hA : FltAsymm exampleParams := fun _ _ h => decide_eq_false (Int.lt_asymm (of_decide_eq_true h))
  teq_implies_eq exampleParams hA ⟨true, false, true⟩
    (fun hi => foldNum_of_caseInsensitiveParse _ hA _ hi fun s t (h : s.map exLower = t.map exLower) => by
      dsimp only [exampleParams]
      rw [h]
      exact ⟨rfl, rfl, rfl⟩)
    _ _ rfl rfl (Or.inr (Or.inr ⟨rfl, 3, rfl⟩)) (Or.inr (Or.inr ⟨rfl, 3, rfl⟩)) rfl

/-- with numeric-string flags mixed with plain strings the comparator is NOT transitive (the same holds for
    POSIX awk's strnum rule), which is why the sortedness half of the property is about inputs of one kind:
    `"10"` (flagged) `≤` `"5"` (plain, string comparison) `≤` `"9"` (flagged, string comparison) but
    `"10"` (flagged) `>` `"9"` (flagged, numeric comparison) -/
theorem mixed_flag_strings_not_transitive :
    let cfg : Cfg := ⟨false, false, true⟩
    let a : Val Int := .str [49, 48] 1
    let b : Val Int := .str [53] 0
    let c : Val Int := .str [57] 1
    Le exampleParams cfg a b ∧ Le exampleParams cfg b c ∧ ¬ Le exampleParams cfg a c := by
  refine ⟨⟨-1, rfl, by decide⟩, ⟨-1, rfl, by decide⟩, ?_⟩
  have : cmpVal exampleParams ⟨false, false, true⟩ .none (.str [49, 48] 1) (.str [57] 1) = .ok 1 := rfl
  rw [Le, leC_ok this]
  decide

example : Holds exampleParams ⟨true, false, true⟩ .eq (.str [97] 0) (.char 65) := rfl
example : Holds exampleParams ⟨false, false, true⟩ .lt (.int 3) (.flt 4) := rfl
example : (Val.str [49, 48] 1 : Val Int).hasKind .nstr = true := rfl

end Hawk.Cmp
