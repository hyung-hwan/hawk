import HawkModel.GcGen
import HawkModel.GcCallLemmas
import HawkModel.Gen.GcConst
import HawkModel.GcValLemmas
/-!
# C07 — values live exactly as long as they are reachable

Theorems about `Hawk.Gc` (lean/HawkModel/Gc.lean), the model of the reference counting and of the
generational cycle collector of lib/val.c **as repaired by patches/gc-stale-gcrefs.diff**
(`legacy = false`, the default of the initial state).  Where no state `s` is named they are about *every* history
`run ops`, `ops : List Op` any sequence of client operations (allocation incl. the collection by
pressure inside it, storing/deleting/overwriting container elements, clearing a container, taking and
dropping external references, explicit collections of any generation incl. `-1`/out of range,
threshold changes); an operation whose precondition fails is a no-op.

`Reach s o` = `o` can be reached from an external holder (`s.roots`) through container elements.
`inDeg h o` = number of container elements, over all live containers of `h`, that are `o`.
-/
namespace Hawk.Gc.C07
open Hawk.Gc

/-- the C never runs into `HAWK_ASSERT (val->v_refs > 0)` and never follows a pointer to a freed container -/
theorem no_fault (ops : List Op) : (run ops).fault = false := (inv_run ops).c.nofault

/-- **LedgerInv**: the reference count of every live container is exactly the number of external holders
plus the number of elements of live containers referring to it -/
theorem ledger (ops : List Op) (i : Id) (o : Obj) (h : (run ops).heap.get i = some o) :
    o.refs = (run ops).roots.count i + inDeg (run ops).heap i := (inv_run ops).ledger h

/-- the ledger (with the rest of the invariant) is kept by every single operation from any state satisfying it;
this includes a collection freeing an unreachable container whose elements live in an older generation
(`collectGen_spec`: their counts are decremented, nothing is skipped because of a stale sentinel) -/
theorem ledger_preserved (s : St) (op : Op) (h : Inv s) :
    Inv (step s op) ∧ ∀ i o, (step s op).heap.get i = some o →
      o.refs = (step s op).roots.count i + inDeg (step s op).heap i := by
  have h' := inv_step s op h
  exact ⟨h', fun i o hi => h'.ledger hi⟩

/-- no container holds a freed container (not even garbage does: later collections walk it) -/
theorem no_dangling (ops : List Op) (i : Id) (o : Obj) (c : Id) (h : (run ops).heap.get i = some o)
    (hc : c ∈ o.children) : ((run ops).heap.get c).isSome := (inv_run ops).c.closed i o h c hc

/-- **safety**: whatever an external holder can reach has not been freed -/
theorem safety (ops : List Op) (o : Id) (h : Reach (run ops) o) : ((run ops).heap.get o).isSome :=
  reach_live (inv_run ops) h

/-- safety, step form: a container that an operation frees (by a refdown cascade or by a collection) is
unreachable when the operation is over -/
theorem freed_unreachable (ops : List Op) (op : Op) (o : Id)
    (hfreed : (run (ops ++ [op])).heap.get o = none) : ¬ Reach (run (ops ++ [op])) o := by
  intro hr
  have := safety (ops ++ [op]) o hr
  rw [hfreed] at this
  cases this

/-- safety of a collection, in terms of the state *before* it: everything reachable when `hawk_rtx_gc (gen)`
is called (any `gen`) is still there and still reachable when it returns; holders and the elements of the
survivors are unchanged -/
theorem collect_keeps_reachable (ops : List Op) (gen : Int) (o : Id) (h : Reach (run ops) o) :
    ((run (ops ++ [.gc gen])).heap.get o).isSome ∧ Reach (run (ops ++ [.gc gen])) o := (run_gc ops gen).keeps h

/-- **acyclic_immediate**, count form: a live container never has count 0 (a count that reaches 0 frees the
container within the same operation, recursively through its elements), and it is held or referred to -/
theorem acyclic_immediate (ops : List Op) (o : Id) (ob : Obj) (h : (run ops).heap.get o = some ob) :
    0 < ob.refs ∧ (o ∈ (run ops).roots ∨ ∃ p op, (run ops).heap.get p = some op ∧ o ∈ op.children) :=
  (inv_run ops).held_by h

/-- **acyclic_immediate**, graph form: garbage that is still in the heap after an operation is referred to by
other garbage — so every chain of referrers stays inside the (finite) garbage: it is on or behind a cycle.
Acyclic garbage does not survive the operation that made it garbage. -/
theorem garbage_is_cyclic (ops : List Op) (o : Id) (ob : Obj) (h : (run ops).heap.get o = some ob)
    (hu : ¬ Reach (run ops) o) :
    ∃ p op, (run ops).heap.get p = some op ∧ ¬ Reach (run ops) p ∧ o ∈ op.children :=
  (inv_run ops).garbage_cyclic h hu

/-- **cyclic_by_full_gc**: after a full collection (`hawk_rtx_gc (2)`, or any larger argument, which the C
clamps — `HAWK_RTX_GC_GEN_FULL` is `INT_MAX`) every container left in the heap is reachable from a holder -/
theorem cyclic_by_full_gc (ops : List Op) (gen : Int) (hfull : 2 ≤ gen) (o : Id) (ob : Obj)
    (h : (run (ops ++ [.gc gen])).heap.get o = some ob) : Reach (run (ops ++ [.gc gen])) o :=
  (run_gc ops gen).full (fun i oi hi => gc_snd_full _ gen hfull ▸ ((inv_run ops).gc i oi hi).gen_le) h

/-- **teardown_empty**: after `fini_rtx` (every holder lets go, then a full collection) no container is left:
every block obtained for a container has gone back to the host allocator; and no assertion was hit on the way -/
theorem teardown_empty (ops : List Op) :
    (∀ i, (teardown (run ops)).heap.get i = none) ∧ (teardown (run ops)).fault = false :=
  ⟨(teardown_spec (run ops) (inv_run ops)).1, (teardown_spec (run ops) (inv_run ops)).2.1⟩

/-- between operations no container carries the `GCH_UNREACHABLE` sentinel (the element freeers' test can only
fire inside `gc_free_unreachables`): a container is in generation 0 with the `gc_refs` it was allocated with, or
in generation 1 or 2 with `GCH_MOVED` -/
theorem gcrefs_clean (ops : List Op) (i : Id) (o : Obj) (h : (run ops).heap.get i = some o) :
    o.gcRefs ≠ GCH_UNREACHABLE ∧ o.gen ≤ 2 ∧ ((o.gen = 0 ∧ o.gcRefs = 0) ∨ (1 ≤ o.gen ∧ o.gcRefs = GCH_MOVED)) := by
  have hg := (inv_run ops).gc i o h
  refine ⟨hg.unmarked, hg.gen_le, ?_⟩
  rcases hg with ⟨hm, h1, _⟩ | ⟨hz, h0⟩
  · exact Or.inr ⟨h1, hm⟩
  · exact Or.inl ⟨h0, hz⟩

/-- the encoding of the sentinels is the C's: one decrement of a stale `GCH_MOVED` is `GCH_UNREACHABLE`
(the aliasing behind the defect repaired by patches/gc-stale-gcrefs.diff) -/
theorem sentinel_alias : GCH_MOVED - 1 = GCH_UNREACHABLE := rfl

/-- **never released while held**: a container with an external holder (variable, stack slot, API holder) is
in the heap, and its count is at least the number of its holders -/
theorem held_never_released (ops : List Op) (i : Id) (h : i ∈ (run ops).roots) :
    ∃ o, (run ops).heap.get i = some o ∧ (run ops).roots.count i ≤ o.refs ∧ 0 < o.refs :=
  (inv_run ops).holder_live h

/-- **released at once when the last holder goes**: if the only reference to a container is one external holder
(count 1, so by the ledger no container element refers to it), the `refdownval` of that holder frees it within
the same operation -/
theorem last_holder_releases (ops : List Op) (o : Id) (ob : Obj) (h : (run ops).heap.get o = some ob)
    (h1 : ob.refs = 1) (hr : o ∈ (run ops).roots) : (run (ops ++ [.dropRoot o])).heap.get o = none := by
  rw [run_snoc, step_dropRoot_self _ hr h (by omega), if_pos h1]

/-- … and a container that keeps another holder or a referring element is not freed by that `refdownval` -/
theorem other_reference_keeps (ops : List Op) (o : Id) (ob : Obj) (h : (run ops).heap.get o = some ob)
    (h2 : 2 ≤ ob.refs) (hr : o ∈ (run ops).roots) :
    (run (ops ++ [.dropRoot o])).heap.get o = some { ob with refs := ob.refs - 1 } := by
  rw [run_snoc, step_dropRoot_self _ hr h (by omega), if_neg (by omega)]

/-- **collector soundness**: a container that `hawk_rtx_gc (gen)` (any `gen`) removes from the heap was not
reachable from any holder when the collection started -/
theorem collect_sound (ops : List Op) (gen : Int) (o : Id) (ob : Obj) (h : (run ops).heap.get o = some ob)
    (hfreed : (run (ops ++ [.gc gen])).heap.get o = none) : ¬ Reach (run ops) o := by
  intro hr
  have := (collect_keeps_reachable ops gen o hr).1
  rw [hfreed] at this
  cases this

/-- a collection changes no holder and no element of a surviving container, and creates nothing -/
theorem collect_frame (ops : List Op) (gen : Int) :
    (run (ops ++ [.gc gen])).roots = (run ops).roots ∧
    ∀ i o', (run (ops ++ [.gc gen])).heap.get i = some o' →
      ∃ o, (run ops).heap.get i = some o ∧ o'.children = o.children :=
  ⟨(run_gc ops gen).roots, (run_gc ops gen).frame⟩

/-- **promotion**: after `hawk_rtx_gc (n)`, `n ∈ {0,1,2}`, a survivor that was in one of the collected lists
(generation `≤ n`) is chained in generation `min (n+1) 2`; a container of an older generation stays where it was;
every survivor carries `GCH_MOVED` (no count of `gc_trace_refs`, no `GCH_UNREACHABLE` is left behind) and the
ledger holds for it (`ledger`) -/
theorem promotion (ops : List Op) (n : Nat) (hn : n ≤ 2) (i : Id) (o9 : Obj)
    (h : (run (ops ++ [.gc (n : Int)])).heap.get i = some o9) :
    ∃ o, (run ops).heap.get i = some o ∧ o9.gcRefs = GCH_MOVED ∧
      ((o.gen ≤ n ∧ o9.gen = (if n < 2 then n + 1 else n)) ∨ (n < o.gen ∧ o9.gen = o.gen)) := by
  obtain ⟨o, ho, _, hm, hcase⟩ := (run_gc_nat ops n hn).surv i o9 h
  exact ⟨o, ho, hm, hcase.imp (fun ⟨hle, hg, _⟩ => ⟨hle, hg⟩) id⟩

/-- … in particular the collected lists are empty afterwards: no container is left in a generation `≤ n`
(for `n < 2`) -/
theorem collected_lists_empty (ops : List Op) (n : Nat) (hn : n < 2) (i : Id) (o9 : Obj)
    (h : (run (ops ++ [.gc (n : Int)])).heap.get i = some o9) : n < o9.gen := by
  obtain ⟨o, _, _, hcase⟩ := promotion ops n (by omega) i o9 h
  rcases hcase with ⟨_, hg⟩ | ⟨hlt, hg⟩
  · rw [hg]; simp [hn]
  · omega

/-- **completeness of a collection of generation `n`** (arbitrary object graph across the generations): a
container of a collected list (generation `≤ n`) that cannot be reached from an external holder nor from an
element of a container of an older generation is freed by `hawk_rtx_gc (n)` — cycles included.
(`cyclic_by_full_gc` is the case `n = 2`, where no older generation exists.) -/
theorem young_collect_complete (ops : List Op) (n : Nat) (hn : n ≤ 2) (i : Id) (o : Obj)
    (h0 : (run ops).heap.get i = some o) (hle : o.gen ≤ n) (hu : ¬ ReachG (run ops) n i) :
    (run (ops ++ [.gc (n : Int)])).heap.get i = none := (run_gc_nat ops n hn).freed h0 hle hu

/-- the converse, soundness per generation: what a collection of generation `n` can reach from a holder or from
an older generation is kept -/
theorem young_collect_sound (ops : List Op) (n : Nat) (hn : n ≤ 2) (i : Id) (h : ReachG (run ops) n i) :
    ((run ops).heap.get i).isSome ∧ ((run (ops ++ [.gc (n : Int)])).heap.get i).isSome ∨
    (∃ p ob, (run ops).heap.get p = some ob ∧ n < ob.gen ∧ ¬ Reach (run ops) p) := by
  -- either the whole chain starts at a holder (then `collect_keeps_reachable` applies) or at an old container
  -- that is itself garbage (and may be released, together with what it holds, by the cascade of this collection)
  by_cases hex : ∃ p ob, (run ops).heap.get p = some ob ∧ n < ob.gen ∧ ¬ Reach (run ops) p
  · exact Or.inr hex
  · have hreach : Reach (run ops) i :=
      h.reach fun p ob hp hlt => Classical.not_not.mp fun hnr => hex ⟨p, ob, hp, hlt, hnr⟩
    exact Or.inl ⟨safety ops i hreach, (collect_keeps_reachable ops (n : Int) i hreach).1⟩

/-- **the counters after a collection**: `pressure[n+1]++, pressure[n] = 0, pressure[0] = 0`, thresholds untouched —
whatever the refcount cascades inside the collection did -/
theorem gc_counters (ops : List Op) (n : Nat) (hn : n ≤ 2) :
    (run (ops ++ [.gc (n : Int)])).p0 = 0 ∧
    ((run (ops ++ [.gc (n : Int)])).t0, (run (ops ++ [.gc (n : Int)])).t1, (run (ops ++ [.gc (n : Int)])).t2) =
      ((run ops).t0, (run ops).t1, (run ops).t2) ∧
    (n = 0 → (run (ops ++ [.gc (n : Int)])).p1 = (run ops).p1 + 1 ∧ (run (ops ++ [.gc (n : Int)])).p2 = (run ops).p2 ∧
             (run (ops ++ [.gc (n : Int)])).p3 = (run ops).p3) ∧
    (n = 1 → (run (ops ++ [.gc (n : Int)])).p1 = 0 ∧ (run (ops ++ [.gc (n : Int)])).p2 = (run ops).p2 + 1 ∧
             (run (ops ++ [.gc (n : Int)])).p3 = (run ops).p3) ∧
    (n = 2 → (run (ops ++ [.gc (n : Int)])).p1 = (run ops).p1 ∧ (run (ops ++ [.gc (n : Int)])).p2 = 0 ∧
             (run (ops ++ [.gc (n : Int)])).p3 = (run ops).p3 + 1) := by
  have hrun : run (ops ++ [.gc (n : Int)]) = collectGen (run ops) n := by
    rw [run_snoc]; exact (gc_explicit (run ops) n hn).1
  rw [hrun]
  have hc := collectGen_counters (run ops) n
  simp only [St.counters, Prod.mk.injEq] at hc
  obtain ⟨c0, c1, c2, c3, c4, c5, c6⟩ := hc
  rw [c0, c1, c2, c3, c4, c5, c6]
  have : n = 0 ∨ n = 1 ∨ n = 2 := by omega
  rcases this with rfl | rfl | rfl <;> simp [bumpPressure]

/-- **which generation a collection by pressure takes** (`gc_collect_garbage_auto`, also `hawk_rtx_gc (-1)`):
the oldest generation whose pressure has reached its threshold, generation 0 otherwise -/
theorem auto_collect_choice (s : St) (gen : Int) (hneg : gen < 0) :
    (gc s gen).2 = (if s.t2 ≤ s.p2 then 2 else if s.t1 ≤ s.p1 then 1 else 0) ∧
    (gc s gen).1 = collectGen s (gc s gen).2 := by
  unfold gc collectAuto
  simp only [hneg, if_true]
  by_cases h2 : s.p2 ≥ s.t2
  · simp [h2]
  · by_cases h1 : s.p1 ≥ s.t1
    · simp [h2, h1]
    · simp [h2, h1]

/-- **the trigger in `gc_calloc_val`**: below the threshold an allocation collects nothing (heap unchanged but for the
new container, `pressure[0]++`); at or above it a collection by pressure runs first, so `pressure[0]` restarts at 1 -/
theorem alloc_trigger (ops : List Op) :
    ((run ops).p0 < (run ops).t0 →
      (run (ops ++ [.alloc])).heap = (run ops).heap ++ [some { refs := 1, gcRefs := 0, gen := 0, children := [] }] ∧
      (run (ops ++ [.alloc])).p0 = (run ops).p0 + 1 ∧ (run (ops ++ [.alloc])).p1 = (run ops).p1) ∧
    ((run ops).t0 ≤ (run ops).p0 →
      (run (ops ++ [.alloc])).heap =
        (collectAuto (run ops)).1.heap ++ [some { refs := 1, gcRefs := 0, gen := 0, children := [] }] ∧
      (run (ops ++ [.alloc])).p0 = 1) := by
  rw [run_snoc]
  refine ⟨fun hlt => ?_, fun hge => ?_⟩
  · have : ¬ (run ops).p0 ≥ (run ops).t0 := by omega
    simp [step, alloc, this]
  · have hge' : (run ops).p0 ≥ (run ops).t0 := hge
    simp only [step, alloc, hge', if_true]
    have hc := collectAuto_p0 (run ops)
    simp [hc]

/-- the counters move only in allocations, collections and threshold changes: storing, deleting, overwriting,
clearing, taking and dropping references — with all the cascades of releases they start — leave all seven alone -/
theorem refcount_ops_keep_counters (s : St) (op : Op)
    (hop : match op with | .alloc | .gc _ | .setThr _ _ => False | _ => True) :
    (step s op).counters = s.counters := by
  cases op with
  | alloc => cases hop
  | gc _ => cases hop
  | setThr _ _ => cases hop
  | link p c => exact getD_counters fun _ => link_counters
  | unlink p c => exact getD_counters fun _ => unlink_counters
  | relink p c d => exact getD_counters fun _ => relink_counters
  | clear p => exact getD_counters fun _ => clear_counters
  | addRoot o => exact getD_counters fun _ => addRoot_counters
  | take p c => exact getD_counters fun _ => take_counters
  | dropRoot o => exact getD_counters fun _ => dropRoot_counters

/-- **close returns every block after any history** — `teardown_empty` started from ANY state satisfying the
invariant, not only from the states `run ops` (a program cut short by `exit` or by a run-time error leaves such a
state: every prefix of a history is a history, and the frames unwound on the way are `dropRoot`s) -/
theorem teardown_empty_inv (s : St) (h : Inv s) :
    (∀ i, (teardown s).heap.get i = none) ∧ (teardown s).fault = false ∧ (teardown s).roots = [] :=
  teardown_spec s h

/-! ### call frames (lib/run.c `hawk_rtx_callfun`/`hawk_rtx_evalcall`/`run_block`; model: HawkModel/GcCall.lean) -/

/-- a history in which the host also calls hawk functions (arguments, locals and the return-value slot of the frame
are holders; bodies end by `return`, `exit` or a run-time error) reaches a state that a history of core operations
reaches: **every theorem of this file about `run ops` holds for it** -/
theorem calls_are_histories (xs : List XOp) : ∃ ops, xrun xs = run ops := xrun_is_run xs

/-- **a call is balanced**: after `hawk_rtx_callfun` the external holders are those from before the call plus the
host's one reference to a returned container; the frame has let go of everything — and the ledger is exact again -/
theorem call_balanced (xs : List XOp) (f : Fn) (a b : Id) (s' : St) (h : call (xrun xs) f a b = some s') :
    s'.roots = retHolder f a (xrun xs).heap.length ++ (xrun xs).roots ∧
    s'.fault = false ∧
    ∀ i o, s'.heap.get i = some o → o.refs = s'.roots.count i + inDeg s'.heap i := by
  obtain ⟨ops, hops⟩ := xrun_is_run xs
  have hinv : Inv (xrun xs) := by rw [hops]; exact inv_run ops
  obtain ⟨hinv', hroots⟩ := call_roots (xrun xs) hinv f a b s' h
  exact ⟨hroots, hinv'.c.nofault, fun i o hi => hinv'.ledger hi⟩

/-- **close gives back every container after any history with calls** — also when called functions ended by a
run-time error or by `exit` with containers in their frames -/
theorem teardown_empty_calls (xs : List XOp) :
    (∀ i, (teardown (xrun xs)).heap.get i = none) ∧ (teardown (xrun xs)).fault = false := by
  obtain ⟨ops, hops⟩ := xrun_is_run xs
  rw [hops]
  exact teardown_empty ops

/-- a call whose frame held the last references: `cyc`/`fail`/`quit` leave their local container behind as cyclic
garbage (it refers to itself), which the next collection of generation 0 frees — unless … nothing: it has no holder
and nothing older refers to it (`young_collect_complete` applies to the state after the call) -/
example : (call (xrun [.core .alloc]) .cyc 0 0).isSome = true := by decide

/-- **tie to the source**: the sentinels, the number of generations (`TMP`, the local list `reachable`, is the first
index that is not a generation) and the initial thresholds of the hand-written model are the values
extract/gc_const.py reads from lib/val.c, lib/hawk-prv.h and lib/run.c of the checked tree on every run
(lean/HawkModel/Gen/GcConst.lean is regenerated; the extractor also checks the order of the collector's phases, the
promotion rule, the counter updates and the `>=` of the two pressure tests, and fails closed) -/
theorem consts_match_source :
    GCH_MOVED = Gen.gchMoved ∧ GCH_UNREACHABLE = Gen.gchUnreachable ∧ TMP = Gen.numGens ∧
    ({} : St).t0 = Gen.thr0 ∧ ({} : St).t1 = Gen.thr1 ∧ ({} : St).t2 = Gen.thr2 ∧
    ({} : St).p0 = 0 ∧ ({} : St).p1 = 0 ∧ ({} : St).p2 = 0 ∧ ({} : St).p3 = 0 := by decide

/-! ### both element freeers on an element that survived a collection (class of seed C07-r5s1) -/

/-- **an element carrying `GCH_MOVED` is still refdown'ed when it leaves its container**: the freeer's skip test is
for `GCH_UNREACHABLE` only.  The model's `unlink` (→ `cascade`) is the one transcription of the twins `free_mapval`
and `free_arrval`; the harness drives every history with maps and with arrays as holders and as elements (all
exhaustive prefixes in both kinds and mixed), so a twin that deviates (`>=` instead of `==`) differs from this. -/
theorem moved_element_refdown (ops : List Op) (p c : Id) (op oc : Obj) (hp : (run ops).heap.get p = some op)
    (hmem : c ∈ op.children) (hne : p ≠ c) (hc : (run ops).heap.get c = some oc) (hm : oc.gcRefs = GCH_MOVED) :
    (run (ops ++ [.unlink p c])).heap.get c = if oc.refs = 1 then none else some { oc with refs := oc.refs - 1 } := by
  rw [run_snoc]
  exact step_unlink_elem _ hp hmem hne hc (by rw [hm]; decide) (acyclic_immediate ops c oc hc).1

/-- the hypotheses are satisfiable: an element that survived `gc 0` inside a container carries `GCH_MOVED` -/
example : ∃ oc, (run ([.alloc, .alloc, .link 1 0] ++ [.gc ((0 : Nat) : Int)])).heap.get 0 = some oc ∧ oc.gcRefs = GCH_MOVED := by
  have hl := (collect_keeps_reachable [.alloc, .alloc, .link 1 0] 0 0 (Reach.root (by decide))).1
  obtain ⟨oc, hoc⟩ := Option.isSome_iff_exists.mp hl
  obtain ⟨_, _, hm, _⟩ := promotion [.alloc, .alloc, .link 1 0] 0 (by omega) 0 oc hoc
  exact ⟨oc, hoc, hm⟩

/-! ### leaf values: the host blocks behind boxed numbers and strings (model: HawkModel/GcVal.lean) -/

/-- **cache blocks + live blocks + chunk (free-list) blocks = blocks obtained from the host** after every history of
leaf-value operations; every slot of every chunk is in use or on its free list -/
theorem blocks_accounting (ops : List VOp) :
    (vrun ops).host = (vrun ops).ichunks + (vrun ops).fchunks + (vrun ops).slive + (vrun ops).scache.sum ∧
    (vrun ops).ilive + (vrun ops).ifree = CHUNKSIZE * (vrun ops).ichunks ∧
    (vrun ops).flive + (vrun ops).ffree = CHUNKSIZE * (vrun ops).fchunks ∧
    (vrun ops).slive = leafCount isStr (vrun ops).tab :=
  ⟨(vinv_run ops).blocks, (vinv_run ops).ints, (vinv_run ops).flts, (vinv_run ops).scnt⟩

/-- **close returns all of them**: once the host has released its strings, `fini_rtx` (cache emptied, chunks freed
— whatever is still on or off the free lists) leaves no block of the leaf allocators with the runtime -/
theorem close_returns_leaf_blocks (ops : List VOp) (h : (vrun ops).slive = 0) : (flush (vrun ops)).host = 0 :=
  flush_host (vinv_run ops) h

/-- non-vacuity: a history that obtains a chunk and a string block, caches the string, and has no string in use -/
example : (vrun [.int, .str 5, .rel 1]).slive = 0 ∧ (vrun [.int, .str 5, .rel 1]).host = 2 ∧
    (vrun [.int, .str 5, .rel 1]).scache.sum = 1 := by decide

/-! ### non-vacuity -/

/-- `last_holder_releases`: one holder, count 1 -/
example : (run [.alloc]).heap.get 0 = some { refs := 1, gcRefs := 0, gen := 0, children := [] } ∧ 0 ∈ (run [.alloc]).roots :=
  ⟨rfl, by decide⟩
/-- `other_reference_keeps`: a holder and a referring element, count 2 -/
example : (run [.alloc, .alloc, .link 1 0]).heap.get 0 = some { refs := 2, gcRefs := 0, gen := 0, children := [] } ∧
    0 ∈ (run [.alloc, .alloc, .link 1 0]).roots := ⟨rfl, by decide⟩
/-- `young_collect_complete`: a young self-referring container without holder is not `ReachG … 0` (no holder at all,
no container of an older generation), it has generation `0 ≤ 0` — the theorem frees it in `gc 0` -/
example : ¬ ReachG (run [.alloc, .link 0 0, .dropRoot 0]) 0 0 := by
  intro h
  have hall : ∀ i o, (run [.alloc, .link 0 0, .dropRoot 0]).heap.get i = some o → o.gen ≤ 0 := by
    intro i o hi
    have : (run [.alloc, .link 0 0, .dropRoot 0]).heap = [some { refs := 1, gcRefs := 0, gen := 0, children := [0] }] := rfl
    rw [this] at hi
    match i, hi with
    | 0, hi => simp [Heap.get] at hi; subst hi; simp
    | (k+1), hi => simp [Heap.get] at hi
  exact no_reach_of_no_roots rfl (reachG_reach hall h)
/-- `promotion` / `young_collect_sound`: a held container is `ReachG` and is promoted, not freed, by `gc 0` -/
example : ReachG (run [.alloc]) 0 0 := ReachG.root (by decide)
/-- `promotion` / `collected_lists_empty`: a held young container survives `gc 0` (so there are survivors to speak of) -/
example : ((run ([.alloc] ++ [.gc 0])).heap.get 0).isSome :=
  (collect_keeps_reachable [.alloc] 0 0 (Reach.root (by decide))).1
/-- `alloc_trigger`: both branches occur (default threshold 100; threshold 0 collects in every allocation) -/
example : (run []).p0 < (run []).t0 ∧ (run [.setThr 0 0]).t0 ≤ (run [.setThr 0 0]).p0 := by decide

/-- there are histories with live, held containers -/
example : (run [.alloc, .alloc, .link 1 0]).heap =
    [some { refs := 2, gcRefs := 0, gen := 0, children := [] }, some { refs := 1, gcRefs := 0, gen := 0, children := [0] }] ∧
    (run [.alloc, .alloc, .link 1 0]).roots = [1, 0] := ⟨rfl, rfl⟩

/-- there are histories that leave cyclic garbage behind: a container holding itself, no holder left;
it is live, has count 1, is unreachable — the hypotheses of `garbage_is_cyclic` are satisfiable -/
example : (run [.alloc, .link 0 0, .dropRoot 0]).heap = [some { refs := 1, gcRefs := 0, gen := 0, children := [0] }] ∧
    (run [.alloc, .link 0 0, .dropRoot 0]).roots = [] := ⟨rfl, rfl⟩

example : ¬ Reach (run [.alloc, .link 0 0, .dropRoot 0]) 0 := fun h => no_reach_of_no_roots rfl h

/-- ... and the full collection really removes it (`cyclic_by_full_gc` is not about an empty set of histories) -/
example : (run ([.alloc, .link 0 0, .dropRoot 0] ++ [.gc 2])).heap.get 0 = none := by
  cases h : (run ([.alloc, .link 0 0, .dropRoot 0] ++ [.gc 2])).heap.get 0 with
  | none => rfl
  | some ob =>
    exfalso
    have hr := cyclic_by_full_gc [.alloc, .link 0 0, .dropRoot 0] 2 (by omega) 0 ob h
    have hroots : (run ([.alloc, .link 0 0, .dropRoot 0] ++ [.gc 2])).roots = [] :=
      (collect_frame [.alloc, .link 0 0, .dropRoot 0] 2).1.trans rfl
    exact no_reach_of_no_roots hroots hr

/-- a held container survives a full collection (`collect_keeps_reachable` has satisfiable hypotheses and the
heap after a full collection is not always empty) -/
example : ((run ([.alloc] ++ [.gc 2])).heap.get 0).isSome :=
  (collect_keeps_reachable [.alloc] 2 0 (Reach.root (by decide))).1

/-- an element fetched through a container and held by the host (`take`) survives the container's owner letting go of it:
the history is accepted (not a no-op) and leaves two holders -/
example : (run [.alloc, .alloc, .link 1 0, .dropRoot 0, .take 1 0]).roots = [0, 1] ∧
    (run [.alloc, .alloc, .link 1 0, .dropRoot 0, .take 1 0]).heap.get 0 = some { refs := 2, gcRefs := 0, gen := 0, children := [] } :=
  ⟨rfl, rfl⟩

/-! ## the defect that was repaired, on the model of the unrepaired code (`legacy = true`) -/

/-- `x[1]=1; hawk::gc(0); y[1]=x; y[2]=y; y=@nil; hawk::gc(0)`:
0 = `x` (promoted by the first collection), 1 = `y` (young, cyclic, refers to `x`) -/
def reproducer : List Op := [.alloc, .gc 0, .alloc, .link 1 0, .link 1 1, .dropRoot 1, .gc 0]

/-- with the unguarded decrement of `gc_trace_refs` the ledger breaks on the reproducer: `y` is collected but
`x` keeps count 2 with one holder and nothing referring to it, and is left carrying `GCH_UNREACHABLE`
(so the hypothesis `legacy = false` of the theorems above cannot be dropped, and the C before the patch —
which this variant of the model matches line by line on every generated history — violates the property) -/
theorem legacy_breaks_ledger :
    ∃ o, (reproducer.foldl step { legacy := true }).heap.get 0 = some o ∧ o.refs = 2 ∧
      (reproducer.foldl step { legacy := true }).roots.count 0 = 1 ∧
      inDeg (reproducer.foldl step { legacy := true }).heap 0 = 0 ∧ o.gcRefs = GCH_UNREACHABLE ∧
      (reproducer.foldl step { legacy := true }).heap.get 1 = none := by
  refine ⟨{ refs := 2, gcRefs := -2, gen := 1, children := [] }, ?_⟩
  simp [reproducer, step, alloc, gc, collectGen, mergeYounger, tracePhase1, tracePhase2, moveReachables, moveRoots,
    freeUnreachables, markUnreachable, promote, bumpPressure, Heap.upd, Heap.edgesWhere, Heap.idsWhere, Heap.get,
    decChild, link, refup, dropRoot, refdown, moveLoop_nil, cascade_cons, cascade_nil, finalizePreserve, dropShells,
    GCH_MOVED, GCH_UNREACHABLE, TMP, inDeg, cnt]

/-- the repaired code on the same history: `x` is back to count 1 with `GCH_MOVED`, `y` is gone
(a collection that frees an unreachable container whose element lives in an older generation) -/
example : (run reproducer).heap = [some { refs := 1, gcRefs := GCH_MOVED, gen := 1, children := [] }, none] := by
  simp [reproducer, run, step, alloc, gc, collectGen, mergeYounger, tracePhase1, tracePhase2, moveReachables, moveRoots,
    freeUnreachables, markUnreachable, promote, bumpPressure, Heap.upd, Heap.edgesWhere, Heap.idsWhere, Heap.get,
    decChild, link, refup, dropRoot, refdown, moveLoop_nil, cascade_cons, cascade_nil, finalizePreserve, dropShells,
    GCH_MOVED, GCH_UNREACHABLE, TMP]

end Hawk.Gc.C07
