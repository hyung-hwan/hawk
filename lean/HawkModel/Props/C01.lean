import HawkModel.CrashLemmas
import HawkModel.CrashTables
/-!
# C01 — No script or input can crash or wedge the embedding process  (PARTIAL by design, see DESIGN.md §5 C01)

What is proved here: the *guards* at the crash-prone sites named in the property anchors are sufficient, for all
operand values, and the facts about the C text they rest on are re-extracted from the working tree on every check
(`HawkModel/Gen/*.lean`, each table naming its `extract/` script; `ArgSites`, `SwitchSites`, `SubscriptSites`, `RetrySites`
go over the dominating-facts walker `c01_paths.py`).  Memory safety of
the interpreter as a whole is NOT proved: it is exhibited by the sanitizer campaign of `vlib/props/c01.py`
(sampling).  The evidence file separates the two (`obligations/discharged` vs `evaluations`).

Model totality: every function of `HawkModel/Crash.lean` is a total Lean definition (no `partial def`, no fuel);
the only non-structural recursion, `powLoop`, is accepted with the measure `e` — so "spins inside one statement" is
impossible for the modelled operations, and `pow_loop_bounded` gives the explicit bound.

Trusted (not proved): a builtin is never entered with fewer arguments than the minimum of its function-table entry (parse.c /
run.c check the spec); "dominated by a comparison" is syntactic (c01_paths.py); an argument declared `r`/`R` in a builtin's argument spec arrives as a HAWK_VAL_REF
(`run.c` `__eval_call`/`get_reference`); a push loop runs as often as the text of its bound says (shape (B) of `stackRowOk` compares
bound and reservation as strings; only the call frame, shape (C), has a model); the translators; `valtoint`/`valtonum` return
in-range integers.
-/
namespace Hawk.Crash
open Hawk.Gen

/-! ## failures carry a non-zero error number -/
/-- HAWK_ENOERR is 0; no model failure maps to it -/
theorem err_num_ne_zero (e : Err) : e.num ≠ 0 := by cases e <;> decide

/-! ## tagged values are type-tested before they are dereferenced as a concrete value struct -/

/-- For every cast `(hawk_val_X_t*)v` in lib/fnc.c, mod-str.c, mod-hawk.c, misc.c, std.c, rec.c, rio.c (one table row each), every type
    tag under which control reaches the cast denotes a heap object of exactly that struct.  A row reached under a
    CHAR/BCHR/INT tag (immediate value encoded in the pointer bits) or under another struct's tag makes this false. -/
theorem tagged_value_dispatch : ∀ r ∈ FncDispatch.rows, rowOk r = true := by decide

/-- the shape of the repaired defect is rejected by the criterion: a BCHR immediate cast to hawk_val_mbs_t* -/
example : rowOk ⟨"fnc.c", "index_or_rindex", 578, .mbs, "a0", "guard", [.bchr_, .mbs_]⟩ = false := by decide
example : FncDispatch.rows.length ≥ 20 := by decide
example : (FncDispatch.rows.filter fun r => r.via == "guard").length ≥ 10 := by decide

/-- immediates never look like object pointers: the type test `HAWK_GET_VAL_TYPE` decides INT/CHAR/BCHR from the
    word alone, without reading `v_type` through it (the `heap` argument is ignored), for every encodable value -/
theorem immediates_decided_without_deref (h h' : FncDispatch.Tag) :
    (∀ i : Int, Vtr.getValType (Vtr.encodeInt i) h = .int_ ∧ Vtr.getValType (Vtr.encodeInt i) h' = .int_) ∧
    (∀ c : Nat, Vtr.getValType (Vtr.encodeChar c) h = .char_) ∧
    (∀ b : Nat, Vtr.getValType (Vtr.encodeBchr b) h = .bchr_) ∧
    (∀ w : Nat, w % 4 = 0 → Vtr.getValType w h = h) := by
  refine ⟨fun i => ?_, fun c => ?_, fun b => ?_, fun w hw => ?_⟩
  · simp [Vtr.getValType, Vtr.typeBits_encodeInt]
  · simp [Vtr.getValType, Vtr.typeBits_encodeChar]
  · simp [Vtr.getValType, Vtr.typeBits_encodeBchr]
  · simp [Vtr.getValType, Vtr.typeBits_aligned w hw]

/-- small integers survive the pointer encoding -/
theorem vtr_int_roundtrip (i : Int) (h : -Vtr.INTMAX ≤ i ∧ i ≤ Vtr.INTMAX) : Vtr.decodeInt (Vtr.encodeInt i) = i :=
  Vtr.decode_encode i h

/-! ## IGNORECASE indexes the two-element arrays in range -/

/-- every value any store into `rtx->gbl.ignorecase` can write (table `FlagSites.writes`, for every number the
    script can assign: any integer, any float incl. NaN) is a valid index of every array that is indexed by the
    flag (table `FlagSites.uses`: gbl.fs[], gbl.rs[], hawk_val_rex_t.code[]) -/
theorem flag_index_range :
    ∀ w ∈ FlagSites.writes, ∀ u ∈ FlagSites.uses, ∀ v : Num, IndexOk (storeValue w.shape v) u.len := by
  have key : ∀ w ∈ FlagSites.writes, ∀ u ∈ FlagSites.uses, ∀ x ∈ storedValues w.shape, IndexOk x u.len := by decide
  exact fun w hw u hu v => key w hw u hu _ (storeValue_mem w.shape v)

/-- hence after any history of stores (the first one is `init_rtx`'s) the flag is a valid index everywhere -/
theorem flag_index_range_reachable (hist : List (FlagSites.Write × Num)) (hne : hist ≠ [])
    (hall : ∀ p ∈ hist, p.1 ∈ FlagSites.writes) :
    ∀ u ∈ FlagSites.uses, IndexOk (storeValue (hist.getLast hne).1.shape (hist.getLast hne).2) u.len := by
  exact fun u hu => flag_index_range _ (hall _ (List.getLast_mem hne)) u hu _

/-- the unrepaired computation `(l > 0)? 1: (l < 0)? -1: 0` is rejected: -1 is not an index -/
example : ¬ IndexOk (storeValue .intSign (.int (-1))) 2 := by decide
example : FlagSites.uses.length ≥ 4 ∧ FlagSites.writes.length ≥ 3 := by decide

/-! ## integer division and remainder never reach the machine operation with a trapping operand pair -/

/-- (1) every `/` and `%` on hawk_int_t operands in `eval_binop_*` (run.c) and `fold_constants_for_binop` (parse.c)
    is dominated by facts that exclude a zero divisor and the pair (INT_MIN, −1): the syntactic criterion holds on
    every extracted row, and the criterion is sound for all operand values;
    (2) the transcribed evaluators and folder never trap, for all operand values.
    `script = true` marks the rows of those functions, whose operands the script computes; the other rows of the table
    (the record-number filter `gbl.nr / nrflt.limit % nrflt.size`, divisors set by the host through hawk_rtx_setnrflt)
    are outside the claim. -/
theorem div_guards :
    (∀ r ∈ DivSites.rows, r.script = true → guardsOk r.facts = true) ∧
    (∀ (fs : List DivSites.Fact) (n d : Int), guardsOk fs = true → (∀ f ∈ fs, factHolds n d f = true) →
        (machDiv n d).isSome ∧ (machMod n d).isSome) ∧
    (∀ l1 l2 : Int, evalDiv l1 l2 ≠ .trap ∧ evalIdiv l1 l2 ≠ .trap ∧ evalMod l1 l2 ≠ .trap ∧
        foldDiv l1 l2 ≠ .trap ∧ foldIdiv l1 l2 ≠ .trap ∧ foldMod l1 l2 ≠ .trap) := by
  refine ⟨by decide, ?_, ?_⟩
  · intro fs n d hg hh
    have := guardsOk_sound hg hh
    exact ⟨(machDiv_isSome_iff n d).2 this, (machMod_isSome_iff n d).2 this⟩
  · intro l1 l2
    -- the folder's branches are the evaluator's
    exact ⟨evalDiv_ne_trap _ _, evalIdiv_ne_trap _ _, evalMod_ne_trap _ _,
           foldDiv_eq_evalDiv l1 l2 ▸ evalDiv_ne_trap _ _, evalIdiv_ne_trap l1 l2, evalMod_ne_trap l1 l2⟩

/-- a zero divisor is reported as an error with a non-zero number, at run time and in the folder -/
theorem div_by_zero_is_error (l : Int) :
    evalDiv l 0 = .err .divby0 ∧ evalIdiv l 0 = .err .divby0 ∧ evalMod l 0 = .err .divby0 ∧
    foldDiv l 0 = .err .divby0 ∧ foldIdiv l 0 = .err .divby0 ∧ foldMod l 0 = .err .divby0 := by
  simp [evalDiv, evalIdiv, evalMod, foldDiv, foldIdiv, foldMod]

/-- folding an integer division gives what evaluating it gives -/
theorem fold_matches_eval (l r : Int) :
    foldDiv l r = evalDiv l r ∧ foldIdiv l r = evalIdiv l r ∧ foldMod l r = evalMod l r :=
  ⟨foldDiv_eq_evalDiv l r, rfl, rfl⟩

/-- non-vacuity: the machine operation really traps on the two excluded pairs, and the criterion rejects an
    unguarded row and a row guarded against zero only (the state of the code before the repair) -/
example : machDiv 1 0 = none ∧ machMod INT_MIN (-1) = none ∧ machDiv INT_MIN (-1) = none := by decide
example : guardsOk [] = false ∧ guardsOk [⟨false, [.dEq 0]⟩] = false := by decide
example : (DivSites.rows.filter (·.script)).length ≥ 8 := by decide
example : evalDiv INT_MIN (-1) = .flt INT_MIN (-1) ∧ evalIdiv INT_MIN (-1) = .int INT_MIN ∧ evalMod INT_MIN (-1) = .int 0 := by
  decide

/-! ## substr / index / rindex / match: the region handed on lies inside the subject -/

/-- for every subject length (below 2^63, as any allocated string is), every start/boundary/count the script can
    pass (any in-range integer, or absent), the (offset, length) region handed to the copier (substr), the finder
    (index/rindex) or the matcher (match) satisfies `offset + length ≤ subject length`; offsets are non-negative -/
theorem index_bounds (len : Nat) (hl : Int.ofNat len ≤ INT_MAX) :
    (∀ (lindex : Int) (lcount : Option Int),
        0 ≤ (substrRegion len lindex lcount).1 ∧ 0 ≤ (substrRegion len lindex lcount).2 ∧
        (substrRegion len lindex lcount).1 + (substrRegion len lindex lcount).2 ≤ Int.ofNat len) ∧
    (∀ (b : Option Int) (rindex : Bool), (∀ x, b = some x → InRange x) →
        ∀ off n, indexRegion len b rindex = some (off, n) → off + n ≤ len) ∧
    (∀ start : Int, InRange start → ∀ off n, matchRegion len start = some (off, n) → off + n ≤ len) :=
  ⟨fun lindex lcount => substrRegion_bounds len lindex lcount,
   fun b rindex hb => indexRegion_bounds len b rindex hb,
   fun start _ => matchRegion_bounds len start⟩

/-- non-vacuity: regions are produced and the clamps are exercised -/
example : substrRegion 5 0 (some 2) = (0, 2) ∧ substrRegion 5 4 none = (3, 2) ∧ substrRegion 5 100 (some 3) = (5, 0)
    ∧ substrRegion 5 (-7) (some (-1)) = (0, 0) := by decide
example : indexRegion 6 none false = some (0, 6) ∧ indexRegion 6 (some 3) false = some (2, 4)
    ∧ indexRegion 6 (some (-2)) true = some (0, 5) ∧ indexRegion 6 (some 7) false = none
    ∧ indexRegion 6 (some (-9)) false = none := by decide
example : matchRegion 3 1 = some (0, 3) ∧ matchRegion 3 4 = some (3, 0) ∧ matchRegion 3 5 = none
    ∧ matchRegion 3 (-1) = some (2, 1) ∧ matchRegion 3 (-10) = none := by decide

/-! ## every unbounded loop polls the halt request once per iteration -/

/-- every loop of run.c / fnc.c / mod-str.c / mod-hawk.c / mod-math.c / val.c / rec.c / misc.c whose iteration
    count is decided by script control flow (`script`) or by a script-supplied number (`count`) passes a halt poll
    point (ON_STATEMENT, run_statement(), or a loop condition on rtx->exit_level) on every iteration -/
theorem halt_polled : ∀ r ∈ Loops.rows, (r.cls = .script ∨ r.cls = .count) → r.polled = true := by decide +kernel

/-- the only `while (1)`-shaped loops that evaluate no script code are the four grow-and-retry loops of the
    printf engine (hawk_rtx_format / hawk_rtx_formatmbs; termination is C12's concern) -/
theorem retry_loops_known : ∀ r ∈ Loops.rows, r.cls = .retry →
    r.file = "run.c" ∧ (r.fn = "hawk_rtx_format" ∨ r.fn = "hawk_rtx_formatmbs") := by decide +kernel

example : (Loops.rows.filter fun r => r.cls == .script).length ≥ 4 := by decide
example : ∃ r ∈ Loops.rows, r.fn = "run_while" ∧ r.cls = .script ∧ r.polled = true := by decide +kernel

/-- integer exponentiation: the square-and-multiply loop of `pow_int_by_uint` runs at most 64 times for any 64-bit
    exponent and computes `base ^ exp` modulo 2^64 — what repeated multiplication in hawk_uint_t gives -/
theorem pow_loop_bounded (b e : Nat) (he : e < 2 ^ 64) :
    (powLoop 1 b e).2 ≤ 64 ∧ (powLoop 1 b e).1 % M64 = b ^ e % M64 := by
  refine ⟨powLoop_iters 1 b e 64 he, ?_⟩
  simpa using powLoop_val 1 b e

/-! ## pushes onto the run-time stack stay inside the reserved room -/

/-- every HAWK_RTX_STACK_PUSH of run.c (an unchecked store into rtx->stack) follows an availability test whose reservation
    has one of the accepted shapes (`stackRowOk`), and for the call frame the reservation is sufficient for every
    combination of named-parameter and actual-argument counts — variadic functions included, since the padding loop does
    not look at `fun->variadic` either -/
theorem stack_reserved :
    (∀ r ∈ StackSites.rows, stackRowOk r = true) ∧ (∀ funN callN : Nat, evalcallPushes funN callN ≤ evalcallReserve funN callN) :=
  ⟨by decide +kernel, fun f c => Nat.le_of_eq (evalcallPushes_eq_reserve f c)⟩

/-- a reservation that leaves out the padding for some functions is rejected, and would be insufficient -/
example : stackRowOk ⟨"hawk_rtx_evalcall", 1, "stack_req", 0, "(4+call->nargs)",
    [⟨["!fun->variadic", "(fun->nargs>call->nargs)", "fun"], "(fun->nargs-call->nargs)"⟩], 4, [⟨"padto", "fun->nargs", ["fun"]⟩]⟩ = false := by decide
example : ¬ (4 + 1 + (7 - 1) ≤ 4 + 1 + 0) := by decide
example : StackSites.rows.length ≥ 5 := by decide

/-! ## argument indices of the builtins stay below the arity their function-table entry guarantees -/

/-- (1) every `hawk_rtx_getarg(rtx, I)` of lib/fnc.c, mod-str.c, mod-hawk.c, mod-math.c (table `ArgSites.rows`, regenerated
    from the sources) has its index below the number of arguments known present at the site: the minimum argument count
    of the function-table entries that reach the function (`ArgSites.specs`, same run), or a dominating comparison of
    the actual count (`if (nargs >= 3)`, `for (i = 0; i < nargs; i++)`, `(++i >= nargs)? nil : …`);
    (2) every function-table entry is consistent (min ≤ max);
    (3) the criterion is sound: the cell read lies inside the frame of the call for every frame base, actual count and
    run-time offset that satisfy the spec and the dominating comparison. -/
theorem arg_index_below_arity :
    (∀ r ∈ ArgSites.rows, argRowOk r = true) ∧
    (∀ s ∈ ArgSites.specs, s.min ≤ s.max) ∧
    (∀ r ∈ ArgSites.rows, ∀ base nargs x : Nat, (r.sym = "" → x = 0 ∧ r.specMin ≤ nargs) →
        (0 < r.pathMin → r.pathMin + x ≤ nargs) → argCell base (r.idx + x) < argEnd base nargs) := by
  have h1 : ∀ r ∈ ArgSites.rows, argRowOk r = true := by decide +kernel
  exact ⟨h1, by decide +kernel, fun r hr => argRowOk_sound r (h1 r hr)⟩

/-- non-vacuity: the third argument read without looking at the count is rejected when the spec promises two (the shape
    `a2 = hawk_rtx_getarg(rtx, 2)` in a {2,3} builtin), accepted under `nargs >= 3`; the tables are populated -/
example : argRowOk ⟨"fnc.c", "hawk_fnc_substr", 764, "2", 2, "", 2, 0⟩ = false
    ∧ argRowOk ⟨"fnc.c", "hawk_fnc_substr", 764, "2", 2, "", 2, 3⟩ = true
    ∧ argRowOk ⟨"mod-hawk.c", "fnc_map", 381, "i", 0, "i", 0, 0⟩ = false := by decide
set_option maxRecDepth 100000 in
example : ArgSites.rows.length ≥ 60 ∧ ArgSites.specs.length ≥ 100 := by decide
set_option maxRecDepth 100000 in
example : (ArgSites.rows.filter fun r => r.sym != "").length ≥ 4 ∧ (ArgSites.rows.filter fun r => r.specMin < r.pathMin).length ≥ 10 := by decide +kernel

/-! ## subscripts into arrays of declared length stay inside them -/

/-- the functions that contain a subscript the translator cannot bound syntactically (count-down loops over a table, free-list
    slots `cache[--count]`, the dispatch tables indexed by a node type / opcode stored in a bit-field, the input buffer
    position `buf[pos++]` bounded by `len`, gc generations): the campaign's sanitizer is what covers these.  A new
    unclassified subscript in any other function breaks `subscripts_in_range`. -/
def openSubscriptFunctions : List (String × String) := [
  ("mod-hawk.c", "fnc_gc_get_pressure"),
  ("mod-hawk.c", "fnc_gc_get_threshold"),
  ("mod-hawk.c", "fnc_gc_set_threshold"),
  ("parse.c", "adjust_static_globals"),
  ("parse.c", "assign_to_opcode"),
  ("parse.c", "classify_ident"),
  ("parse.c", "flush_out"),
  ("parse.c", "get_char"),
  ("parse.c", "hawk_initgbls"),
  ("parse.c", "parse_primary_ident"),
  ("parse.c", "put_char"),
  ("parse.c", "query_module"),
  ("parse.c", "unget_char"),
  ("rio.c", "find_rio_in"),
  ("rio.c", "hawk_rtx_clearallios"),
  ("rio.c", "hawk_rtx_closeio"),
  ("rio.c", "hawk_rtx_closio_read"),
  ("rio.c", "hawk_rtx_closio_write"),
  ("rio.c", "hawk_rtx_flushallios"),
  ("rio.c", "hawk_rtx_flushio"),
  ("rio.c", "hawk_rtx_nextio_read"),
  ("rio.c", "hawk_rtx_nextio_write"),
  ("rio.c", "hawk_rtx_readio"),
  ("rio.c", "hawk_rtx_readiobytes"),
  ("rio.c", "prepare_for_write_io_data"),
  ("run.c", "__cmp_val"),
  ("run.c", "defaultify_globals"),
  ("run.c", "eval_assignment"),
  ("run.c", "eval_binary"),
  ("run.c", "eval_expression0"),
  ("run.c", "fini_rtx"),
  ("run.c", "hawk_rtx_format"),
  ("run.c", "hawk_rtx_formatmbs"),
  ("run.c", "hawk_rtx_open"),
  ("run.c", "init_rtx"),
  ("tree.c", "print_expr"),
  ("val.c", "gc_collect_garbage_auto"),
  ("val.c", "gc_collect_garbage_in_generation"),
  ("val.c", "hawk_get_val_type_name"),
  ("val.c", "hawk_rtx_freevalbcstr"),
  ("val.c", "hawk_rtx_freevaloocstr"),
  ("val.c", "hawk_rtx_getvalbcstrwithcmgr"),
  ("val.c", "hawk_rtx_getvaloocstrwithcmgr"),
  ("val.c", "hawk_rtx_getvaltypename"),
  ("val.c", "hawk_rtx_makefltval"),
  ("val.c", "hawk_rtx_makeintval"),
  ("val.c", "hawk_rtx_makerefval"),
  ("val.c", "make_mbs_val"),
  ("val.c", "make_str_val")]

/-- (1) every subscript into an array of declared length in run.c / fnc.c / val.c / rec.c / rio.c / misc.c / parse.c / tree.c /
    mod-str.c / mod-hawk.c (table `SubscriptSites.rows`, regenerated) that the translator classifies — a constant index, a 0/1
    index (the IGNORECASE flag, a comparison), an index dominated by `i < h` / `i mod h` / `i & (h-1)`, an index of an enum
    type with h proper values — satisfies the bound of its class;
    (2) the unclassified ones lie in the listed functions only;
    (3) every table indexed by an enum-typed value has exactly as many entries as the enum has proper values;
    (4) the bound is sound: every index value the class admits is a cell of the array. -/
theorem subscripts_in_range :
    (∀ r ∈ SubscriptSites.rows, r.cls ≠ .open → subRowOk r = true) ∧
    (∀ r ∈ SubscriptSites.rows, r.cls = .open → (r.file, r.fn) ∈ openSubscriptFunctions) ∧
    (∀ r ∈ SubscriptSites.rows, r.cls = .enumT → r.h = r.len) ∧
    (∀ r ∈ SubscriptSites.rows, subRowOk r = true → ∀ v, subAdmits r v → v < r.len) := by
  exact ⟨by decide +kernel, by decide +kernel, by decide +kernel, fun r _ => subRowOk_sound r⟩

/-- non-vacuity: an index known only to be below 3 into a two-cell array (the unrepaired IGNORECASE shape), an off-by-one constant
    and an unclassified index are rejected -/
example : subRowOk ⟨"rec.c", "split_record", 258, "rtx->gbl.fs", 2, "i", .below, 3⟩ = false
    ∧ subRowOk ⟨"run.c", "f", 1, "buf", 64, "64", .lit, 64⟩ = false ∧ subRowOk ⟨"run.c", "f", 1, "buf", 64, "i", .open, 0⟩ = false := by decide
set_option maxRecDepth 1000000 in
example : SubscriptSites.rows.length ≥ 400 ∧ (SubscriptSites.rows.filter fun r => r.cls == .below).length ≥ 40
    ∧ (SubscriptSites.rows.filter fun r => r.cls == .open).length ≤ 120 := by decide +kernel

/-! ## retry-after-failure loops give up -/

/-- (1) every loop of arr.c / ecs-imp.h / val.c / rec.c / misc.c / htb.c / rbt.c that retries a failing attempt
    (`do { if (attempt succeeded) break; if (X <= M) give up; step X; } while (1)`, table `RetrySites.rows`, regenerated) has
    the give-up test `X <= M` on its loop variable and one of the steps known to lower it (halve what is above the floor,
    decrement);
    (2) such a step strictly lowers the variable and keeps it at or above the floor, for all values;
    (3) hence the loop, all attempts failing, gives up after at most `X - M + 1` attempts — it cannot spin inside a statement. -/
theorem retry_measure_decreases :
    (∀ r ∈ RetrySites.rows, retryRowOk r = true) ∧
    (∀ (s : RetrySites.Shape), s ≠ .other → ∀ m c : Nat, m < c → retryStep s m c < c ∧ m ≤ retryStep s m c) ∧
    (∀ (s : RetrySites.Shape) (hs : s ≠ .other) (m c : Nat), failingAttempts s hs m c ≤ c - m + 1) :=
  ⟨by decide, retryStep_decreases, failingAttempts_le⟩

/-- non-vacuity: the table contains the capacity back-off of hawk_arr_insert; a step the translator does not know is rejected;
    and the "round the half up" step really has a fixed point above the floor, from which the give-up test is never reached -/
example : ∃ r ∈ RetrySites.rows, r.fn = "hawk_arr_insert" ∧ r.shape = .halveAbove := by decide
example : retryRowOk ⟨"arr.c", "hawk_arr_insert", 356, "hawk_arr_setcapa", "capa", "mincapa", "(capa<=mincapa)", "(mincapa+(((capa-mincapa)+1)/2))", .other⟩ = false := by decide
example (m : Nat) : m + ((m + 1) - m + 1) / 2 = m + 1 ∧ ¬ (m + 1 ≤ m) := roundUp_step_stuck m
example : RetrySites.rows.length ≥ 3 := by decide

/-! ## a width or precision scanned from a format keeps the recomposed specifier inside its buffer (needs patches/c12-fmt-width-precision-overflow.diff) -/

/-- fmt.c fmt_outv scans the digits of a width / precision into an int; for a floating-point conversion the specifier is
    composed back, from the scanned numbers, into a buffer sized by the length of the original specifier.  With the
    repaired loop (`scanNum`), for every digit string: the scan either refuses the number (`goto oops`: the formatting call fails) or
    yields a value that fits in an int and whose decimal form needs no more digits than were scanned (`m < 10 ^ #digits`) —
    so the composed specifier is never longer than the original one. -/
theorem fmt_number_scan_bounded (ds : List Nat) (hd : ∀ d ∈ ds, d < 10) (m : Nat) (h : scanNum ds 0 = some m) :
    m ≤ INT32_MAX ∧ m < 10 ^ ds.length := by
  simpa using scanNum_bounds ds 0 m (by decide) hd h

/-- non-vacuity and the defect: the repaired scan accepts 2^31-1 and refuses 2^31; the unrepaired loop wrapped 2^31 to
    -2^31, which printed as an unsigned 128-bit number has 39 digits where 10 were scanned -/
example : scanNum [2, 1, 4, 7, 4, 8, 3, 6, 4, 7] 0 = some 2147483647 ∧ scanNum [2, 1, 4, 7, 4, 8, 3, 6, 4, 8] 0 = none
    ∧ scanNum [0, 0, 2, 0] 0 = some 20 := by decide
example : scanNumWrap [2, 1, 4, 7, 4, 8, 3, 6, 4, 8] 0 = -2147483648 := by decide
example : ¬ ((2 : Int) ^ 128 - 2147483648 < 10 ^ 10) := by decide

/-! ## no switch over an enum falls off for a value it forgot -/

/-- the one switch that is selective by design: set_global acts on the special variables that need a side effect and
    falls through to the common store for the others -/
def selectiveSwitches : List (String × String × String) := [("run.c", "set_global", "hawk_gbl_id_t")]

/-- (1) every `switch` of run.c / val.c / fnc.c / tree.c / parse.c / misc.c / rec.c / rio.c / mod-str.c / mod-hawk.c whose
    labels are enumerators (table `SwitchSites.rows`, regenerated) names every value of its enum, or has a `default:`,
    or is followed by an error exit — except the switches listed in `selectiveSwitches`;
    (2) for the value-type and node-type enums there is no exception;
    (3) the counts in the table are consistent;
    (4) the criterion is sound: a switch with no value missing, or with a default, takes an arm for every enum value. -/
theorem switch_total :
    (∀ r ∈ SwitchSites.rows, switchRowOk r = true ∨ (r.file, r.fn, r.enum) ∈ selectiveSwitches) ∧
    (∀ r ∈ SwitchSites.rows, (r.enum = "hawk_val_type_t" ∨ r.enum = "hawk_nde_type_t") → switchRowOk r = true) ∧
    (∀ r ∈ SwitchSites.rows, r.nCovered + r.missing = r.nEnum) ∧
    (∀ (dom labels : List Nat) (d : Bool), missingOf dom labels = 0 ∨ d = true → ∀ v ∈ dom, dispatch labels d v ≠ .falloff) := by
  refine ⟨by decide +kernel, by decide +kernel, by decide +kernel, dispatch_total⟩

/-- non-vacuity: a value-type switch that forgot one type and has no default is rejected; such a switch really falls off -/
example : switchRowOk ⟨"val.c", "hawk_rtx_valtobool", 1837, "vtype", "hawk_val_type_t", 12, 11, 1, 0, false, .none, .value⟩ = false := by decide
example : dispatch [0, 1, 2] false 3 = .falloff ∧ dispatch [0, 1, 2] true 3 = .dflt ∧ dispatch [0, 1, 2] false 1 = .label 1 := by decide
set_option maxRecDepth 100000 in
example : SwitchSites.rows.length ≥ 60 ∧ (SwitchSites.rows.filter fun r => r.enum == "hawk_val_type_t").length ≥ 15
    ∧ (SwitchSites.rows.filter fun r => r.dflt == .error).length ≥ 30 := by decide +kernel

end Hawk.Crash
