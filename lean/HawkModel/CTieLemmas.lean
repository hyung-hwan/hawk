import HawkModel.CoreLemmas
/-!
  Word arithmetic used by the C-translation ties (Props/C13Tie, C15Tie, C19Tie, C20Tie): the C code aligns with
  `x & ~(a-1)` and tests high bits with `x & (~0 << k)`, the hand-written models say `x / a * a` and `x / 2^k = 0`;
  the translation writes `a - b` on a machine word as `(a + w - b) % w`, a `hawk_int_t` result with its two's-complement
  wrap, a `char` result as the signed char.
-/
namespace Hawk.CTie

theorem sub_word {w a b : Nat} (hb : b ≤ a) (ha : a < w) : (a + w - b) % w = a - b := by
  rw [show a + w - b = a - b + w by omega, Nat.add_mod_right, Nat.mod_eq_of_lt (by omega)]

/-- `(2 ^ (w - k) - 1) <<< k` is `~0 << k` on a `w`-bit word -/
theorem and_himask (x k w : Nat) (hk : k ≤ w) (hx : x < 2 ^ w) :
    x &&& ((2 ^ (w - k) - 1) <<< k) = x / 2 ^ k * 2 ^ k := by
  rw [Nat.shiftLeft_eq, Nat.and_two_pow_sub_one_mul,
    Nat.mod_eq_of_lt (Nat.div_lt_of_lt_mul (by rwa [← Nat.pow_add, Nat.add_sub_cancel' hk]))]

/-- the same with the mask given as a literal (`hm` is closed by `decide`) -/
theorem and_mask64 (x k m : Nat) (hk : k ≤ 64) (hm : m = (2 ^ (64 - k) - 1) <<< k) (hx : x < 2 ^ 64) :
    x &&& m = x / 2 ^ k * 2 ^ k := by
  subst hm; exact and_himask x k 64 hk hx

theorem and_mask64_eq_zero (x k m : Nat) (hk : k ≤ 64) (hm : m = (2 ^ (64 - k) - 1) <<< k) (hx : x < 2 ^ 64) :
    x &&& m = 0 ↔ x / 2 ^ k = 0 := by
  rw [and_mask64 x k m hk hm hx]
  have : 0 < 2 ^ k := Nat.two_pow_pos k
  constructor
  · intro h
    rcases Nat.mul_eq_zero.mp h with h | h
    · exact h
    · omega
  · intro h; simp [h]

/-- the two's-complement wrap the translator writes for `hawk_int_t` is the identity on the range of the type -/
theorem wrap64_id {x : Int} (h1 : -9223372036854775808 ≤ x) (h2 : x < 9223372036854775808) :
    (x + 9223372036854775808) % 18446744073709551616 - 9223372036854775808 = x := by
  omega

/-- a value converted to `signed char` and read back as a byte pattern is the value modulo 256 -/
theorem toNat_ofNat_schar (x : Nat) : (UInt8.ofNat x).toNat = ((((x : Int) + 128) % 256 - 128) % 256).toNat := by
  rw [UInt8.toNat_ofNat']
  omega

end Hawk.CTie
