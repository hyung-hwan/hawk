import HawkModel.Arr
import HawkModel.CoreLemmas
/-!
  The C code moves a "hole" instead of swapping.  For the contents (`*_perm`) the hole at `index` with the lifted value
  `tmp` is read as `l.set index tmp`, and one move is a transposition (`hole_move_perm`).  For the order (`*_heap`) what
  the hole holds is never read (`sift*Loop_set_hole`), so the loops run on the heap `g` whose key at `index` is being
  raised or lowered, and every array the C code passes through is a heap (`up_move`, `down_move`) by `heapOrd_set`.
-/
namespace Hawk.Arr

theorem cmp_pos (a b : Nat) : cmp a b > 0 ↔ b < a := by
  fun_cases cmp a b <;> omega

theorem cmp_nonpos (a b : Nat) : cmp a b ≤ 0 ↔ a ≤ b := by
  fun_cases cmp a b <;> omega

theorem cmp_neg (a b : Nat) : cmp a b < 0 ↔ a < b := by
  fun_cases cmp a b <;> omega

theorem cmp_ne_zero (a b : Nat) : cmp a b ≠ 0 ↔ a ≠ b := by
  fun_cases cmp a b <;> omega

theorem getD_take (l : List Nat) (n j : Nat) :
    (l.take n).getD j 0 = if j < n then l.getD j 0 else 0 := by
  simp only [List.getD_eq_getElem?_getD, List.getElem?_take]
  split <;> simp

theorem getD_append_left (l r : List Nat) (j : Nat) (h : j < l.length) : (l ++ r).getD j 0 = l.getD j 0 := by
  rw [List.getD_eq_getElem?_getD, List.getD_eq_getElem?_getD, List.getElem?_append_left h]

theorem siftUpLoop_length (tmp : Nat) (l : List Nat) (i : Nat) :
    (siftUpLoop tmp l i).1.length = l.length := by
  fun_induction siftUpLoop tmp l i with
  | case1 l => simp
  | case2 l index h parent l1 hp => simp [l1]
  | case3 l index h parent l1 hp hc => simp [l1]
  | case4 l index h parent l1 hp hc ih => simpa [l1] using ih

theorem siftDownLoop_length (tmp : Nat) (l : List Nat) (i : Nat) :
    (siftDownLoop tmp l i).1.length = l.length := by
  fun_induction siftDownLoop tmp l i with
  | case1 l index child hc => simp
  | case2 l index child hc l1 hlt ih => simpa [l1] using ih
  | case3 l index child hc l1 hlt => simp [l1]

theorem siftUp_length (l : List Nat) (i : Nat) : (siftUp l i).1.length = l.length := by
  fun_cases siftUp l i with
  | case1 => exact siftUpLoop_length _ _ _
  | case2 | case3 => rfl

theorem siftDown_length (l : List Nat) (i : Nat) : (siftDown l i).1.length = l.length := by
  fun_cases siftDown l i with
  | case1 => exact siftDownLoop_length _ _ _
  | case2 => rfl

theorem hole_move_perm (l : List Nat) (i j tmp : Nat) (hi : i < l.length) (hj : j < l.length)
    (hij : i ≠ j) : ((l.set i (l.getD j 0)).set j tmp).Perm (l.set i tmp) := by
  have h := List.set_set_perm (as := l.set i tmp) (i := i) (j := j) (by simpa using hi) (by simpa using hj)
  rwa [List.set_set, List.getElem_set_self, List.getElem_set_ne hij, List.getElem_eq_getD 0] at h

theorem cons_set_perm (t : List Nat) (i x : Nat) (h : i < t.length) :
    (t.getD i 0 :: t.set i x).Perm (x :: t) :=
  hole_move_perm (x :: t) 0 (i + 1) x (Nat.zero_lt_succ _) (Nat.succ_lt_succ h) (Nat.succ_ne_zero i).symm

theorem hparent_lt (i : Nat) (h : i ≠ 0) : hparent i < i := by
  unfold hparent; omega

theorem hparent_eq_iff (j i : Nat) (h0 : 0 < j) : hparent j = i ↔ j = 2 * i + 1 ∨ j = 2 * i + 2 := by
  unfold hparent; omega

theorem siftUpLoop_perm (tmp : Nat) (l : List Nat) (i : Nat) (h : i < l.length) :
    (siftUpLoop tmp l i).1.Perm (l.set i tmp) := by
  fun_induction siftUpLoop tmp l i with
  | case1 l => exact List.Perm.refl _
  | case2 l index h0 parent l1 hp | case3 l index h0 parent l1 hp hc =>
    have := hparent_lt index h0
    exact hole_move_perm l index parent tmp h (by omega) (by omega)
  | case4 l index h0 parent l1 hp hc ih =>
    have := hparent_lt index h0
    have hpl : parent < l.length := by omega
    exact (ih (by simpa [l1] using hpl)).trans
      (hole_move_perm l index parent tmp h hpl (by omega))

theorem siftUp_perm (l : List Nat) (i : Nat) (h : i < l.length) : (siftUp l i).1.Perm l := by
  fun_cases siftUp l i with
  | case1 =>
    have := siftUpLoop_perm (l.getD i 0) l i h
    rwa [List.set_getD_self] at this
  | case2 | case3 => exact List.Perm.refl _

theorem pickChild_cases (l : List Nat) (i : Nat) :
    (pickChild l i = 2 * i + 1 ∧ (2 * i + 2 < l.length → l.getD (2 * i + 2) 0 ≤ l.getD (2 * i + 1) 0)) ∨
    (pickChild l i = 2 * i + 2 ∧ 2 * i + 2 < l.length ∧ l.getD (2 * i + 1) 0 < l.getD (2 * i + 2) 0) := by
  unfold pickChild; split
  · split
    · next hc => rw [cmp_pos] at hc; exact .inr ⟨rfl, by omega, hc⟩
    · next hc => rw [cmp_pos] at hc; exact .inl ⟨rfl, fun _ => by omega⟩
  · next h => exact .inl ⟨rfl, fun h2 => absurd h2 h⟩

theorem pickChild_spec (l : List Nat) (index : Nat) (h : index < l.length / 2) :
    pickChild l index < l.length ∧ 0 < pickChild l index ∧ hparent (pickChild l index) = index ∧
    ∀ i, 0 < i → i < l.length → hparent i = index →
      l.getD i 0 ≤ l.getD (pickChild l index) 0 := by
  rcases pickChild_cases l index with ⟨e, hle⟩ | ⟨e, hlt, hgt⟩ <;> rw [e]
  · refine ⟨by omega, by omega, (hparent_eq_iff _ _ (by omega)).2 (.inl rfl), fun j h0 hl hp => ?_⟩
    rcases (hparent_eq_iff j index h0).1 hp with rfl | rfl
    · exact Nat.le_refl _
    · exact hle hl
  · refine ⟨hlt, by omega, (hparent_eq_iff _ _ (by omega)).2 (.inr rfl), fun j h0 hl hp => ?_⟩
    rcases (hparent_eq_iff j index h0).1 hp with rfl | rfl
    · exact Nat.le_of_lt hgt
    · exact Nat.le_refl _

theorem siftDownLoop_perm (tmp : Nat) (l : List Nat) (i : Nat) (h : i < l.length / 2) :
    (siftDownLoop tmp l i).1.Perm (l.set i tmp) := by
  fun_induction siftDownLoop tmp l i with
  | case1 l index child hc => exact List.Perm.refl _
  | case2 l index child hc l1 hlt ih =>
    have hcl : child < l.length := (pickChild_spec l index h).1
    have := lt_pickChild l index
    exact (ih (by simpa [l1] using hlt)).trans
      (hole_move_perm l index child tmp (by omega) hcl (by omega))
  | case3 l index child hc l1 hlt =>
    have hcl : child < l.length := (pickChild_spec l index h).1
    have := lt_pickChild l index
    exact hole_move_perm l index child tmp (by omega) hcl (by omega)

theorem siftDown_perm (l : List Nat) (i : Nat) : (siftDown l i).1.Perm l := by
  fun_cases siftDown l i with
  | case1 h2 =>
    have := siftDownLoop_perm (l.getD i 0) l i h2
    rwa [List.set_getD_self] at this
  | case2 => exact List.Perm.refl _

theorem heapOrd_set (l : List Nat) (p v : Nat) (h : HeapOrd l) (hp : p < l.length)
    (above : 0 < p → v ≤ l.getD (hparent p) 0)
    (below : ∀ j, 0 < j → j < l.length → hparent j = p → l.getD j 0 ≤ v) : HeapOrd (l.set p v) := by
  intro i hi0 hil
  rw [List.length_set] at hil
  rw [List.getD_set l p v _ hp, List.getD_set l p v _ hp]
  have hpi := hparent_lt i (by omega)
  by_cases h1 : i = p
  · subst h1; rw [if_pos rfl, if_neg (by omega)]; exact above hi0
  · rw [if_neg h1]
    by_cases h2 : hparent i = p
    · rw [if_pos h2]; exact below i hi0 hil h2
    · rw [if_neg h2]; exact h i hi0 hil

theorem heapOrd_raise (l : List Nat) (p v : Nat) (h : HeapOrd l) (hp : p < l.length) (hv : l.getD p 0 ≤ v)
    (above : 0 < p → v ≤ l.getD (hparent p) 0) : HeapOrd (l.set p v) :=
  heapOrd_set l p v h hp above (fun j hj0 hjl hjp => Nat.le_trans (hjp ▸ h j hj0 hjl) hv)

theorem heapOrd_lower (l : List Nat) (p v : Nat) (h : HeapOrd l) (hp : p < l.length) (hv : v ≤ l.getD p 0)
    (below : ∀ j, 0 < j → j < l.length → hparent j = p → l.getD j 0 ≤ v) : HeapOrd (l.set p v) :=
  heapOrd_set l p v h hp (fun h0 => Nat.le_trans hv (h p h0 hp)) below

theorem siftUpLoop_set_hole (tmp : Nat) (l : List Nat) (index x : Nat) :
    siftUpLoop tmp (l.set index x) index = siftUpLoop tmp l index := by
  rw [siftUpLoop.eq_1 tmp (l.set index x) index, siftUpLoop.eq_1 tmp l index]
  split
  · rw [List.set_set]
  · next h => simp only [List.set_set, List.getD_set_ne l index x _ (Nat.ne_of_lt (hparent_lt index h))]

theorem siftDownLoop_set_hole (tmp : Nat) (l : List Nat) (index x : Nat) :
    siftDownLoop tmp (l.set index x) index = siftDownLoop tmp l index := by
  have hc : pickChild (l.set index x) index = pickChild l index := by
    unfold pickChild
    rw [List.length_set, List.getD_set_ne l index x _ (by omega), List.getD_set_ne l index x _ (by omega)]
  have := lt_pickChild l index
  rw [siftDownLoop.eq_1 tmp (l.set index x) index, siftDownLoop.eq_1 tmp l index]
  simp only [hc, List.set_set, List.length_set, List.getD_set_ne l index x _ (Nat.ne_of_gt this)]

/-- what a round of `siftUpLoop_heap` needs of the array after its copy-down: it is a heap, the parent is a cell of it,
    and that cell still holds the value copied -/
theorem up_move (g : List Nat) (index : Nat) (h : index < g.length) (h0 : index ≠ 0) (H : HeapOrd g) :
    HeapOrd (g.set index (g.getD (hparent index) 0)) ∧
    hparent index < (g.set index (g.getD (hparent index) 0)).length ∧
    (g.set index (g.getD (hparent index) 0)).getD (hparent index) 0 = g.getD (hparent index) 0 := by
  have hpl := hparent_lt index h0
  exact ⟨heapOrd_raise g index _ H h (H index (by omega) h) (fun _ => Nat.le_refl _),
    by rw [List.length_set]; omega, List.getD_set_ne g index _ _ (Nat.ne_of_lt hpl)⟩

theorem siftUpLoop_heap (tmp : Nat) (g : List Nat) (index : Nat) (h : index < g.length) (h0 : index ≠ 0)
    (H : HeapOrd g) (hd : g.getD (hparent index) 0 ≤ tmp) : HeapOrd (siftUpLoop tmp g index).1 := by
  fun_induction siftUpLoop tmp g index with
  | case1 => exact absurd rfl h0
  | case2 g index _ parent l1 hp =>
    obtain ⟨H1, hl1, e⟩ := up_move g index h h0 H
    exact heapOrd_raise l1 parent tmp H1 hl1 (e ▸ hd) (fun h => absurd hp (by omega))
  | case3 g index _ parent l1 hp hc =>
    obtain ⟨H1, hl1, e⟩ := up_move g index h h0 H
    exact heapOrd_raise l1 parent tmp H1 hl1 (e ▸ hd) (fun _ => (cmp_nonpos _ _).1 hc)
  | case4 g index _ parent l1 hp hc ih =>
    obtain ⟨H1, hl1, e⟩ := up_move g index h h0 H
    exact ih hl1 hp H1 (Nat.le_of_not_le (mt (cmp_nonpos _ _).2 hc))

theorem down_move (g : List Nat) (index : Nat) (h : index < g.length / 2) (H : HeapOrd g) :
    HeapOrd (g.set index (g.getD (pickChild g index) 0)) ∧
    (g.set index (g.getD (pickChild g index) 0)).getD (pickChild g index) 0 = g.getD (pickChild g index) 0 := by
  obtain ⟨hcl, hc0, hpc, hmax⟩ := pickChild_spec g index h
  have hle := H _ hc0 hcl
  rw [hpc] at hle
  exact ⟨heapOrd_lower g index _ H (by omega) hle hmax,
    List.getD_set_ne g index _ _ (Nat.ne_of_gt (lt_pickChild g index))⟩

theorem siftDownLoop_heap (tmp : Nat) (g : List Nat) (index : Nat) (h : index < g.length / 2)
    (H : HeapOrd g) (hd : tmp ≤ g.getD index 0) : HeapOrd (siftDownLoop tmp g index).1 := by
  fun_induction siftDownLoop tmp g index with
  | case1 g index child hc =>
    have hmax := (pickChild_spec g index h).2.2.2
    exact heapOrd_lower g index tmp H (by omega) hd
      (fun j hj0 hjl hjp => Nat.le_trans (hmax j hj0 hjl hjp) (Nat.le_of_lt ((cmp_pos _ _).1 hc)))
  | case2 g index child hc l1 hlt ih =>
    obtain ⟨H1, e⟩ := down_move g index h H
    exact ih (by simpa [l1] using hlt) H1 (e ▸ Nat.le_of_not_lt (mt (cmp_pos _ _).2 hc))
  | case3 g index child hc l1 hlt =>
    obtain ⟨H1, e⟩ := down_move g index h H
    have hcl := (pickChild_spec g index h).1
    refine heapOrd_lower l1 child tmp H1 (by simpa [l1] using hcl) (e ▸ Nat.le_of_not_lt (mt (cmp_pos _ _).2 hc)) ?_
    intro j hj0 hjl hjp
    -- `child` is not below `length / 2`: it has no children
    exfalso
    simp only [List.length_set, l1] at hjl
    unfold hparent at hjp
    omega

theorem siftUp_heap (g : List Nat) (index v : Nat) (hi : index < g.length) (H : HeapOrd g)
    (hv : g.getD index 0 ≤ v) : HeapOrd (siftUp (g.set index v) index).1 := by
  unfold siftUp
  rw [List.getD_set g index v index hi, if_pos rfl]
  split
  · next hpos =>
    rw [List.getD_set_ne g index v _ (Nat.ne_of_lt (hparent_lt index (by omega)))]
    split
    · next hc =>
      rw [siftUpLoop_set_hole]
      exact siftUpLoop_heap v g index hi (by omega) H (Nat.le_of_lt ((cmp_pos _ _).1 hc))
    · next hc => exact heapOrd_raise g index v H hi hv (fun _ => Nat.le_of_not_lt (mt (cmp_pos _ _).2 hc))
  · next hpos => exact heapOrd_raise g index v H hi hv (fun h => absurd h hpos)

theorem siftDown_heap (g : List Nat) (index v : Nat) (hi : index < g.length) (H : HeapOrd g)
    (hv : v ≤ g.getD index 0) : HeapOrd (siftDown (g.set index v) index).1 := by
  unfold siftDown
  rw [List.getD_set g index v index hi, if_pos rfl, List.length_set]
  split
  · next h =>
    rw [siftDownLoop_set_hole]
    exact siftDownLoop_heap v g index h H hv
  · next h =>
    refine heapOrd_lower g index v H hi hv (fun j hj0 hjl hjp => ?_)
    exfalso; unfold hparent at hjp; omega

theorem heapOrd_take (l : List Nat) (n : Nat) (h : HeapOrd l) : HeapOrd (l.take n) := by
  intro i hi0 hil
  have hil' : i < n ∧ i < l.length := by
    rw [List.length_take] at hil; omega
  have hpi := hparent_lt i (by omega)
  have := h i hi0 hil'.2
  rw [getD_take, getD_take]
  simp only [hil'.1, (by omega : hparent i < n), if_true]
  exact this

theorem pushheap_perm (l : List Nat) (v : Nat) : (pushheap l v).Perm (v :: l) := by
  unfold pushheap
  exact (siftUp_perm (l ++ [v]) l.length (by simp)).trans (List.perm_append_singleton v l)

theorem heapOrd_append_zero (l : List Nat) (h : HeapOrd l) : HeapOrd (l ++ [0]) := by
  intro i hi0 hil
  by_cases hl : i < l.length
  · have hpi := hparent_lt i (by omega)
    rw [getD_append_left _ _ _ hl, getD_append_left _ _ _ (by omega : hparent i < l.length)]
    exact h i hi0 hl
  · rw [List.getD_eq_getElem?_getD, List.getElem?_append_right (by omega)]
    simp at hil
    rw [(by omega : i - l.length = 0)]
    exact Nat.zero_le _

theorem pushheap_heap (l : List Nat) (v : Nat) (h : HeapOrd l) : HeapOrd (pushheap l v) := by
  unfold pushheap
  have e : l ++ [v] = (l ++ [0]).set l.length v := by
    rw [List.set_append_right _ _ (Nat.le_refl _), Nat.sub_self, List.set_cons_zero]
  rw [e]
  exact siftUp_heap (l ++ [0]) l.length v (by simp) (heapOrd_append_zero l h) (by
    rw [List.getD_eq_getElem?_getD, List.getElem?_append_right (Nat.le_refl _), Nat.sub_self]; exact Nat.zero_le _)

theorem updateheap_perm (l : List Nat) (i v : Nat) : (updateheap l i v).1.Perm (l.set i v) := by
  fun_cases updateheap l i v with
  | case1 hi => exact siftUp_perm _ i (show i < (l.set i v).length by simpa using hi)
  | case2 => exact siftDown_perm _ i
  | case3 hi tmp c hc => rw [Decidable.not_not.1 (mt (cmp_ne_zero v l[i]).2 hc), List.set_getElem_self hi]
  | case4 h => rw [List.set_eq_of_length_le (Nat.le_of_not_lt h)]

theorem updateheap_heap (l : List Nat) (i v : Nat) (h : HeapOrd l) : HeapOrd (updateheap l i v).1 := by
  fun_cases updateheap l i v with
  | case1 hi tmp c hne l1 hgt =>
    exact siftUp_heap l i v hi h (by rw [← List.getElem_eq_getD (h := hi)]; exact Nat.le_of_lt ((cmp_pos v l[i]).1 hgt))
  | case2 hi tmp c hne l1 hgt =>
    exact siftDown_heap l i v hi h (by rw [← List.getElem_eq_getD (h := hi)]; exact Nat.le_of_not_lt (mt (cmp_pos v l[i]).2 hgt))
  | case3 | case4 => exact h

/-- deleting below the last cell is `updateheap` with the last value on the array shortened by one -/
theorem deleteheap_inner (l : List Nat) (i : Nat) (hi : i < l.length - 1) :
    (deleteheap l i).1 = (updateheap (l.take (l.length - 1)) i (l.getD (l.length - 1) 0)).1 := by
  have hin : i < (l.take (l.length - 1)).length := by rw [List.length_take]; omega
  rw [deleteheap, dif_pos (by omega), if_pos ⟨by omega, by omega⟩, updateheap, dif_pos hin]
  simp only [List.take_set, List.getD_set _ i _ i hin, if_true, List.getElem_take]
  generalize l.getD (l.length - 1) 0 = v
  rcases Nat.lt_trichotomy v l[i] with hlt | heq | hgt
  · rw [if_neg (fun h => Nat.lt_asymm hlt ((cmp_pos _ _).1 h)), if_pos ((cmp_neg _ _).2 hlt),
      if_pos ((cmp_ne_zero _ _).2 (Nat.ne_of_lt hlt)), if_neg (fun h => Nat.lt_asymm hlt ((cmp_pos _ _).1 h))]
  · subst heq
    rw [if_neg (fun h => Nat.lt_irrefl _ ((cmp_pos _ _).1 h)), if_neg (fun h => Nat.lt_irrefl _ ((cmp_neg _ _).1 h)),
      if_neg (fun h => (cmp_ne_zero _ _).1 h rfl), ← List.getElem_take (j := l.length - 1) (h := hin),
      List.set_getElem_self]
  · rw [if_pos ((cmp_pos _ _).2 hgt), if_pos ((cmp_ne_zero _ _).2 (Nat.ne_of_gt hgt)), if_pos ((cmp_pos _ _).2 hgt)]

theorem take_pred_append_last (l : List Nat) (hl : 0 < l.length) :
    l.take (l.length - 1) ++ [l.getD (l.length - 1) 0] = l := by
  have hn : l.length - 1 < l.length := by omega
  rw [← List.getElem_eq_getD (h := hn), List.take_append_getElem hn]
  exact List.take_of_length_le (by omega)

theorem deleteheap_perm (l : List Nat) (i : Nat) (hi : i < l.length) :
    (l[i] :: (deleteheap l i).1).Perm l := by
  have hpl : (l.getD (l.length - 1) 0 :: l.take (l.length - 1)).Perm l := by
    have := (List.perm_append_singleton (l.getD (l.length - 1) 0) (l.take (l.length - 1))).symm
    rwa [take_pred_append_last l (by omega)] at this
  by_cases hlt : i < l.length - 1
  · have hin : i < (l.take (l.length - 1)).length := by rw [List.length_take]; omega
    have hset := cons_set_perm (l.take (l.length - 1)) i (l.getD (l.length - 1) 0) hin
    rw [getD_take, if_pos hlt, ← List.getElem_eq_getD (h := hi)] at hset
    rw [deleteheap_inner l i hlt]
    exact ((updateheap_perm _ i _).cons _).trans (hset.trans hpl)
  · rw [deleteheap, dif_pos hi, if_neg (by omega), List.getElem_eq_getD 0, (by omega : i = l.length - 1)]
    exact hpl

theorem deleteheap_heap (l : List Nat) (i : Nat) (h : HeapOrd l) : HeapOrd (deleteheap l i).1 := by
  have ht := heapOrd_take l (l.length - 1) h
  by_cases hlt : i < l.length - 1
  · rw [deleteheap_inner l i hlt]
    exact updateheap_heap _ i _ ht
  · by_cases hi : i < l.length
    · rw [deleteheap, dif_pos hi, if_neg (by omega)]; exact ht
    · rw [deleteheap, dif_neg hi]; exact h

end Hawk.Arr
