/-! Generic facts about core's `List`, `Nat` and `Char` functions that core does not state and more than one area uses. -/

namespace List
variable {α : Type _} {p : α → Bool}

theorem length_dropWhile_le (p : α → Bool) (l : List α) : (l.dropWhile p).length ≤ l.length :=
  (dropWhile_sublist p).length_le

theorem length_takeWhile_le (p : α → Bool) (l : List α) : (l.takeWhile p).length ≤ l.length :=
  (takeWhile_sublist p).length_le

theorem mem_takeWhile_imp {l : List α} {x : α} (h : x ∈ l.takeWhile p) : p x = true :=
  all_eq_true.1 all_takeWhile x h

/-- `head?_dropWhile_not` as an implication -/
theorem head?_dropWhile_eq_some {l : List α} {x : α} (h : (l.dropWhile p).head? = some x) : p x = false := by
  have := head?_dropWhile_not p l
  rwa [h] at this

/-- `xs ++ t` splits at the seam when `p` holds throughout `xs` and fails at the head of `t` -/
theorem takeWhile_dropWhile_append {xs t : List α} (h : ∀ c ∈ xs, p c = true) (ht : ∀ c, t.head? = some c → p c = false) :
    (xs ++ t).takeWhile p = xs ∧ (xs ++ t).dropWhile p = t := by
  rw [takeWhile_append_of_pos h, dropWhile_append_of_pos h]
  cases t with
  | nil => simp
  | cons c r => simp [takeWhile, dropWhile, ht c rfl]

theorem getD_set {d : α} (l : List α) (i : Nat) (x : α) (k : Nat) (hi : i < l.length) :
    (l.set i x).getD k d = if k = i then x else l.getD k d := by
  simp only [getD_eq_getElem?_getD, getElem?_set]
  by_cases h : i = k
  · subst h; simp [hi]
  · simp [h, Ne.symm h]

theorem getD_set_ne {d : α} (l : List α) (i : Nat) (x : α) (k : Nat) (h : k ≠ i) :
    (l.set i x).getD k d = l.getD k d := by
  rw [getD_eq_getElem?_getD, getD_eq_getElem?_getD, getElem?_set_ne (Ne.symm h)]

theorem set_getD_self {d : α} (l : List α) (i : Nat) : l.set i (l.getD i d) = l := by
  rcases Nat.lt_or_ge i l.length with h | h
  · exact getElem_eq_getD (h := h) d ▸ set_getElem_self h
  · exact set_eq_of_length_le h

theorem sum_map_set (f : α → Nat) {l : List α} {i : Nat} (h : i < l.length) (a : α) :
    ((l.set i a).map f).sum + f l[i] = (l.map f).sum + f a := by
  induction l generalizing i with
  | nil => simp at h
  | cons b t ih =>
    cases i with
    | zero => simp; omega
    | succ n =>
      have := ih (Nat.lt_of_succ_lt_succ h)
      simp only [set_cons_succ, map_cons, sum_cons, getElem_cons_succ]
      omega

end List

namespace Char

/-- `isDigit_iff_toNat` with the bounds as numerals, for `omega` -/
theorem toNat_of_isDigit {c : Char} (h : c.isDigit = true) : 48 ≤ c.toNat ∧ c.toNat ≤ 57 :=
  isDigit_iff_toNat.mp h

end Char

namespace Nat

/-- a numeral in base `b` starts with `0` only if it is `0` -/
theorem head?_toDigits_eq_zero_iff (b : Nat) (hb : 2 ≤ b) (n : Nat) : (Nat.toDigits b n).head? = some '0' ↔ n = 0 := by
  induction n using Nat.base_induction b (by omega) with
  | single m hm => rw [Nat.toDigits_of_lt_base hm, List.head?_cons, Option.some.injEq, Nat.digitChar_eq_zero]
  | digit m k hk hm ih =>
    rw [← Nat.toDigits_append_toDigits (by omega) hm hk, List.head?_append,
      Option.or_of_isSome (by simp [Option.isSome_iff_ne_none, Nat.toDigits_ne_nil]), ih]
    have : 0 < b * m := Nat.mul_pos (by omega) hm
    omega

/-- and-ing with `j` one bits shifted up by `k` keeps the base-2 digits `k .. k+j-1` -/
theorem and_two_pow_sub_one_mul (b j k : Nat) : b &&& ((2 ^ j - 1) * 2 ^ k) = b / 2 ^ k % 2 ^ j * 2 ^ k := by
  have hm : (b &&& ((2 ^ j - 1) * 2 ^ k)) % 2 ^ k = 0 := by
    rw [Nat.and_mod_two_pow, Nat.mul_mod_left, Nat.and_zero]
  have hd : (b &&& ((2 ^ j - 1) * 2 ^ k)) / 2 ^ k = b / 2 ^ k % 2 ^ j := by
    rw [← Nat.shiftRight_eq_div_pow, Nat.shiftRight_and_distrib, Nat.shiftRight_eq_div_pow, Nat.shiftRight_eq_div_pow,
      Nat.mul_div_cancel _ (Nat.two_pow_pos k), Nat.and_two_pow_sub_one_eq_mod]
  have := Nat.div_add_mod (b &&& ((2 ^ j - 1) * 2 ^ k)) (2 ^ k)
  rw [hm, hd, Nat.add_zero, Nat.mul_comm] at this
  exact this.symm

end Nat
