/-! One predicate for what a step that may fail is shown to do: `Except.Sat post err x` says that a result of `x`
    satisfies `post` and an error of `x` satisfies `err`.  The sed script compiler (`Sed.Reads`) and the TRE parser
    (`Rex.Tre.Consumes`) pass such a statement from every reader to its caller. -/

def Except.Sat {ε α : Type} (post : α → Prop) (err : ε → Prop) : Except ε α → Prop
  | .ok a => post a
  | .error e => err e

namespace Except.Sat
variable {ε α β γ : Type} {post post' : α → Prop} {err : ε → Prop} {x y : Except ε α}

@[simp] theorem ok_iff {a : α} : Sat post err (.ok a) ↔ post a := Iff.rfl

@[simp] theorem error_iff {e : ε} : Sat post err (.error e : Except ε α) ↔ err e := Iff.rfl

theorem ok {a : α} (h : Sat post err x) (hx : x = .ok a) : post a := by
  subst hx; exact h

theorem error {e : ε} (h : Sat post err x) (hx : x = .error e) : err e := by
  subst hx; exact h

theorem imp (h : Sat post err x) (hp : ∀ a, post a → post' a) : Sat post' err x := by
  cases x with
  | ok a => exact hp a h
  | error e => exact h

theorem mono_len {rest : α → List γ} {n m : Nat} (h : Sat (fun a => (rest a).length ≤ n) err x) (hnm : n ≤ m) :
    Sat (fun a => (rest a).length ≤ m) err x :=
  h.imp fun _ ha => Nat.le_trans ha hnm

theorem map {post' : β → Prop} {f : α → β} (h : Sat post err x) (hf : ∀ a, post a → post' (f a)) :
    Sat post' err (x.map f) := by
  cases x with
  | ok a => exact hf a h
  | error e => exact h

theorem ite {c : Prop} [Decidable c] (hx : Sat post err x) (hy : Sat post err y) : Sat post err (if c then x else y) := by
  split
  · exact hx
  · exact hy

end Except.Sat
