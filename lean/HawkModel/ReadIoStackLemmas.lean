import HawkModel.Props.C15
import HawkModel.ReadIoStack
/-!
# The chunks tio hands to the record reader

`tioChunks` keeps apart what C15's caller loop `Tio.readAll` appends; composed with C15's theorem this says what the READ
handler returns over one file of encoded text, for every partition of the bytes.
-/
namespace Hawk.ReadIo
open Hawk.Gen Hawk.Utf8

theorem tioChunks_flatten (cfg : Tio.Cfg) (size : Nat) (st : Tio.InSt) :
    ((tioChunks cfg size st).1.flatten, (tioChunks cfg size st).2) = Tio.readAll cfg size st ∧
    ∀ c ∈ (tioChunks cfg size st).1, c ≠ [] := by
  fun_induction tioChunks cfg size st with
  | case1 st _ h => simp [Tio.readAll, h]
  | case2 st st' o out h hlt r ih =>
    rw [Tio.readAll, h]
    simp only [hlt, dite_true]
    exact ⟨by rw [← ih.1]; simp [r], List.forall_mem_cons.mpr ⟨List.cons_ne_nil _ _, ih.2⟩⟩
  | case3 st st' o out h hlt => simp [Tio.readAll, h, hlt]
  | case4 st _ e h => simp [Tio.readAll, h]
  | case5 st _ f h => simp [Tio.readAll, h]

theorem tioByteChunks_flatten (cfg : Tio.Cfg) (size : Nat) (st : Tio.InSt) :
    ((tioByteChunks cfg size st).1.flatten, (tioByteChunks cfg size st).2) = Tio.readAllBytes cfg size st ∧
    ∀ c ∈ (tioByteChunks cfg size st).1, c ≠ [] := by
  fun_induction tioByteChunks cfg size st with
  | case1 st _ h => simp [Tio.readAllBytes, h]
  | case2 st st' b bs h hlt r ih =>
    rw [Tio.readAllBytes, h]
    simp only [hlt, dite_true]
    exact ⟨by rw [← ih.1]; simp [r], List.forall_mem_cons.mpr ⟨List.cons_ne_nil _ _, ih.2⟩⟩
  | case3 st st' b bs h hlt => simp [Tio.readAllBytes, h, hlt]

theorem stdChunks_decoded {cm : Cmgr} {dom : Nat → Prop} {maxlen : Nat} (hok : CodecOk cm dom maxlen) (cfg : Tio.Cfg)
    (hT : cfg.cm = cm) (hl : cfg.legacy = false) (hc : maxlen ≤ cfg.capa) (size : Nat) (hs : 1 ≤ size) (cs : List Nat)
    (hb : Dom dom cs) (chunks : List (List UInt8)) (hne : ∀ c ∈ chunks, c ≠ []) (hj : chunks.flatten = encodeAllC cm cs) :
    (tioChunks cfg size (Tio.start chunks)).2 = .eof ∧ (tioChunks cfg size (Tio.start chunks)).1.flatten = cs ∧
    ∀ c ∈ (tioChunks cfg size (Tio.start chunks)).1, c ≠ [] := by
  obtain ⟨h1, h2⟩ := tioChunks_flatten cfg size (Tio.start chunks)
  rw [Hawk.C15.tio_read_chunk_independent hok cfg hT hl hc size hs cs hb chunks hne hj, Prod.mk.injEq] at h1
  exact ⟨h1.2, h1.1, h2⟩

end Hawk.ReadIo
