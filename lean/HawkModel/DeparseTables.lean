import HawkModel.DeparseLemmas
/-!
  What the round trip needs from the generated tables (ladder order, operator maps, spellings): `opOK` (levels that leave an
  operand alone in front of given tokens) for each token print_expr writes behind an operand (`stop_*`), and `binOK` for each
  binary operator, through `bin_spec`: the spelling check over the ladder's own keys (`bin_lookup`) and the precedence order
  (`below_keys`).
-/
namespace Hawk.Deparse
open Hawk.Gen.Precedence

/-- levels `pre` (above parse_increment) leave alone every operand that is followed by kinds `a`, `b`; so do the two bottom levels -/
def opOK (pre : List Level) (a b : Option TK) : Bool :=
  startKs.all (fun s => passK pre (some s) a b) && noContK .incLv a b && noContK .primLv a b

theorem opOK_pass {pre : List Level} {a b : Option TK} (h : opOK pre a b = true) {s : TK} (hs : s ∈ startKs) :
    passK pre (some s) a b = true := by
  simp only [opOK, Bool.and_eq_true, List.all_eq_true] at h
  exact h.1.1 s hs

theorem opOK_inc {pre : List Level} {a b : Option TK} (h : opOK pre a b = true) : noContK .incLv a b = true := by
  simp only [opOK, Bool.and_eq_true] at h; exact h.1.2

theorem opOK_prim {pre : List Level} {a b : Option TK} (h : opOK pre a b = true) : noContK .primLv a b = true := by
  simp only [opOK, Bool.and_eq_true] at h; exact h.2

/-- the second token after an operand matters to parse_primary's `| getline` test only, that is after `|` or `||` -/
theorem noContK_indep (L : Level) (k : TK) (b b' : Option TK) (h1 : k ≠ .BOR) (h2 : k ≠ .LOR) :
    noContK L (some k) b = noContK L (some k) b' := by
  have e1 : (k == TK.BOR) = false := by simpa using h1
  have e2 : (k == TK.LOR) = false := by simpa using h2
  cases L <;> simp [noContK, e1, e2]

theorem passK_snd (pre : List Level) (s a b b' : Option TK) : passK pre s a b = passK pre s a b' := by
  simp only [passK]
  congr 1; funext L
  cases L <;> simp [noPrefixK, noContK]

theorem opOK_snd (pre : List Level) (a b : Option TK) : opOK pre a b = (opOK pre a none && noContK .primLv a b) := by
  have h : noContK .primLv a b = true → noContK .primLv a none = true := by
    simp only [noContK, Bool.and_eq_true]
    exact fun h => ⟨h.1, by simp⟩
  simp only [opOK, passK_snd pre _ a b none, show noContK .incLv a b = noContK .incLv a none from rfl]
  cases hp : noContK .primLv a b
  · simp
  · simp [h hp]

def ladderPre : List Level := ladder.dropLast.dropLast
theorem ladder_split : ladder = ladderPre ++ [.incLv, .primLv] := rfl

def tailPre : List Level := ladderPre.tail
theorem ladderPre_ass : ladderPre = .assLv :: tailPre := rfl

def cndPre : List Level := tailPre.tail
theorem tailPre_cnd : tailPre = .cndLv :: cndPre := rfl

def unPre : List Level := ladderPre.takeWhile (fun L => L != .unaryLv)
def unBelowPre : List Level := (ladderPre.dropWhile (fun L => L != .unaryLv)).tail
theorem ladderPre_unary : ladderPre = unPre ++ .unaryLv :: unBelowPre := rfl

/-- the two halves of `opOK` (`opOK_iff`): `pre` takes no token an operand can start with for a prefix operator; `pre` (and
    parse_increment, parse_primary) do not go on after an operand followed by `a`, `b` -/
def startOK (pre : List Level) : Bool := pre.all (fun L => startKs.all (fun s => noPrefixK L (some s)))
def contOK (pre : List Level) (a b : Option TK) : Bool := (Level.incLv :: .primLv :: pre).all (fun L => noContK L a b)

theorem opOK_iff {pre : List Level} {a b : Option TK} : opOK pre a b = true ↔ startOK pre = true ∧ contOK pre a b = true := by
  simp only [startOK, contOK, opOK, passK, List.all_cons, List.all_eq_true, Bool.and_eq_true]
  exact ⟨fun h => ⟨fun L hL s hs => (h.1.1 s hs L hL).1, h.1.2, h.2, fun L hL => (h.1.1 .LPAREN (by decide) L hL).2⟩,
    fun h => ⟨⟨fun s hs L hL => ⟨h.1 L hL s hs, h.2.2.2 L hL⟩, h.2.1⟩, h.2.2.1⟩⟩

theorem opOK_mono {pre pre' : List Level} (hp : pre ⊆ pre') {a b : Option TK} (h : opOK pre' a b = true) : opOK pre a b = true := by
  rw [opOK_iff] at h ⊢
  simp only [startOK, contOK, List.all_cons, List.all_eq_true, Bool.and_eq_true] at h ⊢
  exact ⟨fun L hL => h.1 L (hp hL), h.2.1, h.2.2.1, fun L hL => h.2.2.2 L (hp hL)⟩

theorem startOK_ladder : startOK ladderPre = true := by decide +kernel

/-- a token no level goes on with behind an operand stops all of them, whatever follows it: no token an operand can start
    with is a prefix operator above parse_increment (`startOK_ladder`), and only `|`, `||` make parse_primary look further -/
theorem stop_of_cont {pre : List Level} (hp : pre <:+ ladderPre) {k : TK}
    (h : (k != .BOR && k != .LOR && contOK pre (some k) none) = true) (b : Option TK) : opOK pre (some k) b = true := by
  simp only [Bool.and_eq_true, bne_iff_ne, ne_eq] at h
  have hs : startOK pre = true := by
    have h0 := startOK_ladder
    simp only [startOK, List.all_eq_true] at h0 ⊢
    exact fun L hL => h0 L (hp.subset hL)
  have h0 := opOK_iff.mpr ⟨hs, h.2⟩
  rw [opOK_snd, h0, noContK_indep _ _ b none h.1.1 h.1.2]
  exact opOK_prim h0

theorem stop_RPAREN (b : Option TK) : opOK ladderPre (some .RPAREN) b = true :=
  stop_of_cont (List.suffix_refl _) (by decide +kernel) b
theorem stop_RBRACK (b : Option TK) : opOK ladderPre (some .RBRACK) b = true :=
  stop_of_cont (List.suffix_refl _) (by decide +kernel) b
theorem stop_COMMA (b : Option TK) : opOK ladderPre (some .COMMA) b = true :=
  stop_of_cont (List.suffix_refl _) (by decide +kernel) b
theorem stop_COLON (b : Option TK) : opOK ladderPre (some .COLON) b = true :=
  stop_of_cont (List.suffix_refl _) (by decide +kernel) b
theorem stop_QUEST (b : Option TK) : opOK cndPre (some .QUEST) b = true :=
  stop_of_cont ⟨[.assLv, .cndLv], rfl⟩ (by decide +kernel) b
theorem stop_end : opOK ladderPre none none = true := opOK_iff.mpr ⟨startOK_ladder, by decide +kernel⟩
theorem stop_unBelow_RPAREN : opOK unBelowPre (some .RPAREN) none = true :=
  opOK_mono (by rw [ladderPre_unary]; simp) (stop_RPAREN none)

theorem assign_lookup (op : AssOp) : assignToks.lookup (assTok op).k = some op := by cases op <;> decide +kernel
theorem unary_lookup (op : UnrOp) : unaryToks.lookup (unrTok op).k = some op := by cases op <;> decide +kernel
theorem inc_lookup (op : IncOp) : incToks.lookup (incTok op).k = some op := by cases op <;> decide +kernel

theorem stop_inc (op : IncOp) (b : Option TK) : noContK .primLv (some (incTok op).k) b = true := by
  rw [noContK_indep _ _ b none (by cases op <;> decide +kernel) (by cases op <;> decide +kernel)]
  cases op <;> decide +kernel

theorem stop_ass (op : AssOp) (b : Option TK) : opOK tailPre (some (assTok op).k) b = true :=
  stop_of_cont ⟨[.assLv], rfl⟩ (List.all_eq_true.mp
    (by decide +kernel : assignToks.all (fun e => e.1 != .BOR && e.1 != .LOR && contOK tailPre (some e.1) none) = true) _
    (mem_of_lookup (assign_lookup op))) b

theorem unPre_pass (op : UnrOp) : passK unPre (some (unrTok op).k) (some .RPAREN) none = true := by cases op <;> decide +kernel
theorem lp_not_inc : incToks.lookup tLP.k = none := by rw [tLP_k]; decide
theorem stop_unary_RPAREN (b : Option TK) : opOK (.unaryLv :: unBelowPre) (some .RPAREN) b = true :=
  opOK_mono (by rw [ladderPre_unary]; simp) (stop_RPAREN b)

def handlesK (L : Level) (k : TK) (op : BinOp) : Bool :=
  match L with
  | .binary _ _ _ map => map.lookup k == some op
  | .inLv => k == .IN && op == .IN
  | .concatLv => k == concatTok && op == .CONCAT
  | _ => false

def isRassoc : Level → Bool
  | .binary _ _ ra _ => ra
  | _ => false

/-- the levels `binLoop` reads the right operand of an operator of level `L` with (`below` = the levels under `L`) -/
def rightLevels (L : Level) (below : List Level) : List Level := if isRassoc L then L :: below else below

def splitAtOp (k : TK) (op : BinOp) : List Level → Option (List Level × Level × List Level)
  | [] => none
  | L :: r =>
    if handlesK L k op then some ([], L, r) else
    match splitAtOp k op r with
    | some (p, l, b) => some (L :: p, l, b)
    | none => none

theorem splitAtOp_eq (k : TK) (op : BinOp) (lv p b : List Level) (L : Level) (h : splitAtOp k op lv = some (p, L, b)) :
    lv = p ++ L :: b ∧ handlesK L k op = true := by
  induction lv generalizing p with
  | nil => simp [splitAtOp] at h
  | cons M r ih =>
    simp only [splitAtOp] at h
    split at h
    · next hh => simp only [Option.some.injEq, Prod.mk.injEq] at h; obtain ⟨rfl, rfl, rfl⟩ := h; exact ⟨rfl, hh⟩
    · split at h
      · next p' l' b' he =>
        simp only [Option.some.injEq, Prod.mk.injEq] at h; obtain ⟨rfl, rfl, rfl⟩ := h
        have := ih p' he
        exact ⟨by rw [this.1]; rfl, this.2⟩
      · simp at h

/-- everything the round trip of `( l op r )` needs from the tables, for one operator: the four facts of `bin_spec` with `)`
    behind the node, as one Boolean (`binOK_all`) -/
def binOK (op : BinOp) : Bool :=
  match splitAtOp (binTok op).k op ladderPre with
  | none => false
  | some (pre, L, bp) =>
    startKs.all (fun s => passK pre (some s) (some .RPAREN) none) &&     -- the node passes up to the top, followed by `)`
    startKs.all (fun s => opOK bp (some (binTok op).k) (some s)) &&      -- left operand, followed by the operator and the right operand
    opOK (rightLevels L bp) (some .RPAREN) none &&                       -- right operand (read by the next level, or by the
                                                                         -- level itself if right-associative), followed by `)`
    noContK L (some .RPAREN) none                                        -- the loop stops at `)`

/-- the (token, operator) pairs the binary levels of the ladder read -/
def binKeys : List (TK × BinOp) := ladderPre.flatMap fun
  | .binary _ _ _ map => map
  | .inLv => [(.IN, .IN)]
  | .concatLv => [(concatTok, .CONCAT)]
  | _ => []

/-- stated over the keys so that one evaluation covers all spellings -/
theorem bin_keys_spelled : binKeys.all (fun e => (binTok e.2).k == e.1) = true := by decide +kernel

theorem bin_handled (op : BinOp) : op ∈ binKeys.map Prod.snd := by cases op <;> decide

/-- spelling -> token -> same operator, for the binary operators -/
theorem bin_lookup (op : BinOp) : ((binTok op).k, op) ∈ binKeys := by
  obtain ⟨⟨k, op'⟩, he, rfl⟩ := List.mem_map.mp (bin_handled op)
  have := List.all_eq_true.mp bin_keys_spelled _ he
  rw [beq_iff_eq] at this
  rw [this]; exact he

/-- the precedence order: the levels below the one that reads `k` as `op` leave `k` alone behind an operand (so the left
    operand ends there), whatever operand follows `k` -/
def belowOK (k : TK) (op : BinOp) : Bool :=
  match splitAtOp k op ladderPre with
  | none => false
  | some (_, _, bp) => contOK bp (some k) none && startKs.all (fun s => noContK .primLv (some k) (some s))

theorem below_keys : binKeys.all (fun e => belowOK e.1 e.2) = true := by decide +kernel

/-- everything the round trip of `l op r` in front of tokens `a`, `b` that stop the whole ladder needs from the tables: what
    depends on the operator is `below_keys` at its spelling, what depends on `a`, `b` is their stop fact cut at the operator's level -/
theorem bin_spec {a b : Option TK} (hc : opOK ladderPre a b = true) (op : BinOp) :
    ∃ pre L bp, splitAtOp (binTok op).k op ladderPre = some (pre, L, bp) ∧
      (∀ s ∈ startKs, passK pre (some s) a b = true) ∧
      (∀ s ∈ startKs, opOK bp (some (binTok op).k) (some s) = true) ∧
      opOK (rightLevels L bp) a b = true ∧ noContK L a b = true := by
  have hb := List.all_eq_true.mp below_keys _ (bin_lookup op)
  unfold belowOK at hb
  split at hb
  · simp at hb
  · next pre L bp hs =>
    have e := (splitAtOp_eq _ _ _ _ _ _ hs).1
    simp only [Bool.and_eq_true] at hb
    have hL : opOK (L :: bp) a b = true := opOK_mono (by rw [e]; simp) hc
    have hbp : opOK bp a b = true := opOK_mono (List.subset_cons_self _ _) hL
    refine ⟨pre, L, bp, hs, fun s hs => ?_, fun s hs => ?_, ?_, ?_⟩
    · have := opOK_pass hc hs
      rw [e, passK, List.all_append, Bool.and_eq_true] at this
      exact this.1
    · rw [opOK_snd, opOK_iff.mpr ⟨(opOK_iff.mp hbp).1, hb.1⟩, List.all_eq_true.mp hb.2 s hs]; rfl
    · unfold rightLevels
      split
      · exact hL
      · exact hbp
    · have := opOK_pass hL (by decide : TK.LPAREN ∈ startKs)
      simp only [passK, List.all_cons, Bool.and_eq_true] at this
      exact this.1.2

theorem binOK_all (op : BinOp) : binOK op = true := by
  obtain ⟨pre, L, bp, hs, h1, h2, h3, h4⟩ := bin_spec (stop_RPAREN none) op
  simp only [binOK, hs, Bool.and_eq_true, List.all_eq_true]
  exact ⟨⟨⟨h1, h2⟩, h3⟩, h4⟩

end Hawk.Deparse
