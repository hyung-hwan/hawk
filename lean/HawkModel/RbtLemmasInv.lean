import HawkModel.RbtLemmas
/-!
Each level of `ins` / `del` returns an outcome (`InsOut`, `DelOut`) stated relative to the black height and root colour
of the subtree it replaces, and one lemma per model function lifts the outcome of the level below to the outcome at the
parent.  Only the left-hand functions are analysed; the right-hand ones are their images under `mirror`.
-/
namespace Hawk.Rbt
open Color T

variable {V : Type}

theorem col_cases (t : T V) : col t = R ∨ col t = B := by
  cases h : col t <;> simp

@[simp] theorem col_ne_R {t : T V} : (¬ col t = R) ↔ col t = B := by
  cases h : col t <;> simp

@[simp] theorem col_ne_B {t : T V} : (¬ col t = B) ↔ col t = R := by
  cases h : col t <;> simp

theorem col_B_of_not_red_node {t : T V} (h : ∀ a k v b, ¬ t = node R a k v b) : col t = B := by
  cases t with
  | nil => rfl
  | node c l k v r =>
    cases c
    · exact absurd rfl (h l k v r)
    · rfl

theorem bh_setBlack_red {t : T V} (h : col t = R) : bh (setBlack t) = bh t + 1 := by
  cases t with
  | nil => simp at h
  | node c l k v r => simp at h; simp [h]

@[simp] theorem col_setBlack (t : T V) : col (setBlack t) = B := by cases t <;> rfl

theorem Bal_setBlack {t : T V} (h : Bal t) : Bal (setBlack t) := by
  cases t with
  | nil => trivial
  | node c l k v r => simpa using h

/-- no red-red violation below the root; a red root may have at most one red child
    (the state of the tree while the loop of `adjust` is running with `pair` = that child) -/
def AlmostNoRR : T V → Prop
  | nil => True
  | node c l _ _ r => NoRR l ∧ NoRR r ∧ (c = R → col l = B ∨ col r = B)

theorem NoRR.almost {t : T V} (h : NoRR t) : AlmostNoRR t := by
  cases t with
  | nil => trivial
  | node c l k v r => simp [AlmostNoRR] at *; exact ⟨h.1, h.2.1, fun hc => Or.inl (h.2.2 hc).1⟩

theorem AlmostNoRR.noRR_of_black {t : T V} (h : AlmostNoRR t) (hc : col t = B) : NoRR t := by
  cases t with
  | nil => trivial
  | node c l k v r => simp [AlmostNoRR] at *; simp [h, hc]

theorem NoRR_setBlack {t : T V} (h : AlmostNoRR t) : NoRR (setBlack t) := by
  cases t with
  | nil => trivial
  | node c l k v r => simp [AlmostNoRR] at *; exact ⟨h.1, h.2.1⟩

/-- rbt.c writes every repair twice, for `pair == par->left` and for `pair == par->right`; `fixInsR_mirror`,
    `fixDelR'_mirror`, `fixDelR_mirror`, `balR_mirror` say that the right-hand function is the left-hand one in the mirror. -/
def mirror : T V → T V
  | nil => nil
  | node c l k v r => node c (mirror r) k v (mirror l)

@[simp] theorem mirror_mirror (t : T V) : mirror (mirror t) = t := by
  induction t with
  | nil => rfl
  | node c l k v r ihl ihr => simp [mirror, ihl, ihr]

@[simp] theorem col_mirror (t : T V) : col (mirror t) = col t := by cases t <;> rfl

@[simp] theorem mirror_setBlack (t : T V) : mirror (setBlack t) = setBlack (mirror t) := by cases t <;> rfl

theorem NoRR.mirror {t : T V} (h : NoRR t) : NoRR (mirror t) := by
  induction t with
  | nil => trivial
  | node c l k v r ihl ihr => exact ⟨ihr h.2.1, ihl h.1, by simpa [and_comm] using h.2.2⟩

theorem AlmostNoRR.mirror {t : T V} (h : AlmostNoRR t) : AlmostNoRR (mirror t) := by
  cases t with
  | nil => trivial
  | node c l k v r => exact ⟨h.2.1.mirror, h.1.mirror, by simpa [or_comm] using h.2.2⟩

/-- `bh` follows the leftmost path, so it is the balance that makes it the same in the mirror -/
theorem Bal.mirror {t : T V} (h : Bal t) : Bal (mirror t) ∧ bh (mirror t) = bh t := by
  induction t with
  | nil => exact ⟨trivial, rfl⟩
  | node c l k v r ihl ihr =>
    obtain ⟨bl, el⟩ := ihl h.1
    obtain ⟨br, er⟩ := ihr h.2.1
    exact ⟨⟨br, bl, by rw [er, el, h.2.2]⟩, by simp only [Hawk.Rbt.mirror, bh, er, h.2.2]⟩

/-- a red-black subtree of black height `n` -/
def RBH (t : T V) (n : Nat) : Prop := NoRR t ∧ Bal t ∧ bh t = n

theorem RBH.mirror {t : T V} {n : Nat} (h : RBH t n) : RBH (mirror t) n :=
  ⟨h.1.mirror, h.2.1.mirror.1, h.2.1.mirror.2.trans h.2.2⟩

/-- what `ins` returns in place of a red-black subtree of black height `n` and root colour `c`: the black height is
    kept, and the only red pair with a red child can be the root, which a black `c` excludes -/
def InsOut (n : Nat) (c : Color) (t : T V) : Prop := AlmostNoRR t ∧ (c = B → NoRR t) ∧ Bal t ∧ bh t = n

theorem InsOut.mirror {n : Nat} {c : Color} {t : T V} (h : InsOut n c t) : InsOut n c (mirror t) :=
  ⟨h.1.mirror, fun e => (h.2.1 e).mirror, h.2.2.1.mirror.1, h.2.2.1.mirror.2.trans h.2.2.2⟩

theorem fixInsL_id {p : T V} (h : NoRR p) (c : Color) (k : Nat) (v : V) (u : T V) :
    fixInsL c p k v u = node c p k v u := by
  unfold fixInsL
  split
  · simp at h
    simp [h]
  · rfl

/-- `cp` is the root colour of the subtree that `p` replaces, so `hc` is the `NoRR` clause of the pair as it was before the
    descent.  At a black pair (`c = B`) a red `p` with one red child is repaired and the subtree gains that pair's black; a red
    pair had black children (`hc`), so `p` has no red-red and nothing is done. -/
theorem fixInsL_inv {n : Nat} {c cp : Color} {p u : T V} (k : Nat) (v : V) (hp : InsOut n cp p) (hu : RBH u n)
    (hc : c = R → cp = B ∧ col u = B) : InsOut (n + (if c = B then 1 else 0)) c (fixInsL c p k v u) := by
  obtain ⟨ap, np, bp, rfl⟩ := hp
  obtain ⟨nu, bu, eu⟩ := hu
  cases c with
  | R =>
    rw [fixInsL_id (np (hc rfl).1)]
    exact ⟨⟨np (hc rfl).1, nu, fun _ => .inr (hc rfl).2⟩, nofun, ⟨bp, bu, eu.symm⟩, by simp⟩
  | B =>
    suffices h : NoRR (fixInsL B p k v u) ∧ Bal (fixInsL B p k v u) ∧ bh (fixInsL B p k v u) = bh p + 1 from
      ⟨h.1.almost, fun _ => h.1, h.2⟩
    fun_cases fixInsL B p k v u
    case case1 => simp_all [AlmostNoRR, NoRR_setBlack nu.almost, Bal_setBlack, bh_setBlack_red]
    case case2 => simp_all [AlmostNoRR]
    case case3 hx =>
      have := col_B_of_not_red_node hx
      simp_all [AlmostNoRR]
    case case4 => simp_all [AlmostNoRR]
    case case5 hx =>
      have := ap.noRR_of_black (col_B_of_not_red_node hx)
      simp_all

theorem fixInsR_mirror (c : Color) (u : T V) (k : Nat) (v : V) (p : T V) :
    fixInsR c u k v p = mirror (fixInsL c (mirror p) k v (mirror u)) := by
  rcases p with _ | ⟨_ | _, pl, pk, pv, pr⟩
  case node.R =>
    rcases pl with _ | ⟨_ | _, a, xk, xv, b⟩ <;> by_cases h1 : col pr = R <;> by_cases h2 : col u = R <;>
      simp [fixInsR, fixInsL, mirror, h1, h2]
  all_goals simp [fixInsR, fixInsL, mirror]

theorem fixInsR_id {p : T V} (h : NoRR p) (c : Color) (k : Nat) (v : V) (u : T V) :
    fixInsR c u k v p = node c u k v p := by
  rw [fixInsR_mirror, fixInsL_id h.mirror]
  simp [mirror]

theorem ins_inv (k : Nat) (v : V) (t : T V) (hn : NoRR t) (hb : Bal t) : InsOut (bh t) (col t) (ins k v t) := by
  fun_induction ins k v t with
  | case1 => simp [InsOut, AlmostNoRR]
  | case2 c l v' r => exact ⟨hn.almost, fun _ => hn, hb, rfl⟩
  | case3 c l k' v' r _ _ ih =>
    rw [fixInsR_mirror]
    exact (fixInsL_inv k' v' (hb.2.2 ▸ ih hn.2.1 hb.2.1).mirror (RBH.mirror ⟨hn.1, hb.1, rfl⟩)
      (by simpa [and_comm] using hn.2.2)).mirror
  | case4 c l k' v' r _ _ ih => exact fixInsL_inv k' v' (ih hn.1 hb.1) ⟨hn.2.1, hb.2.1, hb.2.2.symm⟩ hn.2.2

theorem setVal_shape (k : Nat) (v : V) (t : T V) :
    col (setVal k v t) = col t ∧ bh (setVal k v t) = bh t ∧ (NoRR t → NoRR (setVal k v t)) ∧
    (Bal t → Bal (setVal k v t)) ∧ size (setVal k v t) = size t ∧ height (setVal k v t) = height t := by
  fun_induction setVal k v t with
  | case1 => exact ⟨rfl, rfl, id, id, rfl, rfl⟩
  | case2 c l v' r => exact ⟨rfl, rfl, id, id, rfl, rfl⟩
  | case3 c l k' v' r _ _ ih =>
    obtain ⟨hc, hb, hn, hbal, hs, hh⟩ := ih
    simp only [col_node, bh, NoRR, Bal, size, height, hc, hb, hs, hh, true_and, and_true]
    exact ⟨fun h => ⟨h.1, hn h.2.1, h.2.2⟩, fun h => ⟨h.1, hbal h.2.1, h.2.2⟩⟩
  | case4 c l k' v' r _ _ ih =>
    obtain ⟨hc, hb, hn, hbal, hs, hh⟩ := ih
    simp only [col_node, bh, NoRR, Bal, size, height, hc, hb, hs, hh, true_and, and_true]
    exact ⟨fun h => ⟨hn h.1, h.2.1, h.2.2⟩, fun h => ⟨hbal h.1, h.2.1, h.2.2⟩⟩

/-- what a level of `del`, or one of its fix-ups, returns for a subtree that had black height `h` and root colour `c`:
    the new subtree and the flag "one black pair short".  A black root comes back black: that keeps `NoRR` under a red
    parent where nothing is repaired (`balL_inv`, flag `false`) and the root of the whole tree black (`Inv.del`). -/
def DelOut (h : Nat) (c : Color) (res : T V × Bool) : Prop :=
  NoRR res.1 ∧ Bal res.1 ∧ bh res.1 + (if res.2 then 1 else 0) = h ∧ (c = B → col res.1 = B)

theorem splice_inv (c : Color) {x : T V} {n : Nat} (h : RBH x n) :
    DelOut (n + (if c = B then 1 else 0)) c (splice c x) := by
  obtain ⟨hn, hb, rfl⟩ := h
  unfold DelOut
  fun_cases splice c x
  case case1 => simp [hn, hb]
  case case2 h => simp [NoRR_setBlack hn.almost, Bal_setBlack hb, bh_setBlack_red h]
  case case3 h =>
    simp at h
    simp [hn, hb, h]

theorem fixDelL'_inv {n : Nat} {c : Color} {l r : T V} (k : Nat) (v : V)
    (hl : RBH l n) (hr : RBH r (n + 1)) (hcr : col r = B) :
    DelOut (n + 1 + (if c = B then 1 else 0)) c (fixDelL' c l k v r) ∧ (c = R → (fixDelL' c l k v r).2 = false) := by
  obtain ⟨hnl, hbl, rfl⟩ := hl
  obtain ⟨hnr, hbr, hbh⟩ := hr
  unfold DelOut
  fun_cases fixDelL' c l k v r
  case case1 => simp at hbh
  case case2 => cases c <;> simp_all <;> omega
  case case3 => simp_all <;> omega
  case case4 => simp_all
  case case5 => simp_all [NoRR_setBlack, NoRR.almost, Bal_setBlack, bh_setBlack_red] <;> omega

theorem fixDelL_inv {n : Nat} {c : Color} {l r : T V} (k : Nat) (v : V)
    (hl : RBH l n) (hr : RBH r (n + 1)) (hc : c = R → col r = B) :
    DelOut (n + 1 + (if c = B then 1 else 0)) c (fixDelL c l k v r) := by
  cases r with
  | nil => exact (fixDelL'_inv k v hl hr rfl).1
  | node rc rl rk rv rr =>
    cases rc with
    | B => exact (fixDelL'_inv k v hl hr rfl).1
    | R =>
      -- red sibling: the parent is black, and the iteration on the reddened parent always ends the loop
      have hcB : c = B := by
        cases c
        · simp at hc
        · rfl
      subst hcB
      obtain ⟨hnr, hbr, hbh⟩ := hr
      obtain ⟨⟨h1, h2, h3, -⟩, h5⟩ :=
        fixDelL'_inv (c := R) k v hl ⟨hnr.1, hbr.1, by simpa using hbh⟩ (hnr.2.2 rfl).1
      rw [h5 rfl] at h3
      simp_all [fixDelL, DelOut]

/-- `hc` as in `fixInsL_inv`: the `NoRR` clause of the pair before the descent, `cl` being the root colour its left subtree had -/
theorem balL_inv {n : Nat} {c cl : Color} {r : T V} {res : T V × Bool} (k : Nat) (v : V)
    (hl : DelOut n cl res) (hr : RBH r n) (hc : c = R → cl = B ∧ col r = B) :
    DelOut (n + (if c = B then 1 else 0)) c (balL res.2 c res.1 k v r) := by
  obtain ⟨l', d⟩ := res
  obtain ⟨h1, h2, h3, h4⟩ := hl
  dsimp only at h1 h2 h3 h4 ⊢
  unfold balL
  cases d with
  | true =>
    obtain ⟨m, rfl⟩ : ∃ m, n = m + 1 := ⟨bh l', by simpa using h3.symm⟩
    exact fixDelL_inv k v ⟨h1, h2, by simpa using h3⟩ hr (fun h => (hc h).2)
  | false =>
    obtain ⟨hnr, hbr, er⟩ := hr
    simp at h3
    exact ⟨⟨h1, hnr, fun h => ⟨h4 (hc h).1, (hc h).2⟩⟩, ⟨h2, hbr, by omega⟩, by simp [h3], fun h => h⟩

theorem DelOut.mirror {n : Nat} {c : Color} {res : T V × Bool} (h : DelOut n c res) : DelOut n c (res.map mirror id) :=
  ⟨h.1.mirror, h.2.1.mirror.1, by rw [Prod.map_fst, h.2.1.mirror.2]; exact h.2.2.1, by simpa using h.2.2.2⟩

theorem fixDelR'_mirror (c : Color) (l : T V) (k : Nat) (v : V) (r : T V) :
    fixDelR' c l k v r = Prod.map mirror id (fixDelL' c (mirror r) k v (mirror l)) := by
  rcases l with _ | ⟨lc, ll, lk, lv, lr⟩
  · simp [fixDelR', fixDelL', mirror]
  · by_cases h1 : col ll = B <;> by_cases h2 : col lr = B <;> rcases lr with _ | ⟨_, a, xk, xv, b⟩ <;>
      simp_all [fixDelR', fixDelL', mirror]

theorem fixDelR_mirror (c : Color) (l : T V) (k : Nat) (v : V) (r : T V) :
    fixDelR c l k v r = Prod.map mirror id (fixDelL c (mirror r) k v (mirror l)) := by
  rcases l with _ | ⟨_ | _, ll, lk, lv, lr⟩ <;> simp [fixDelR, fixDelL, fixDelR'_mirror, mirror]

theorem balR_mirror (d : Bool) (c : Color) (l : T V) (k : Nat) (v : V) (r : T V) :
    balR d c l k v r = Prod.map mirror id (balL d c (mirror r) k v (mirror l)) := by
  cases d <;> simp [balR, balL, fixDelR_mirror, mirror]

theorem balR_inv {n : Nat} {c cr : Color} {l : T V} {res : T V × Bool} (k : Nat) (v : V)
    (hr : DelOut n cr res) (hl : RBH l n) (hc : c = R → col l = B ∧ cr = B) :
    DelOut (n + (if c = B then 1 else 0)) c (balR res.2 c l k v res.1) := by
  rw [balR_mirror]
  exact (balL_inv k v hr.mirror hl.mirror (by simpa [and_comm] using hc)).mirror

theorem delMin_inv (c : Color) (l : T V) (k : Nat) (v : V) (r : T V)
    (hn : NoRR (node c l k v r)) (hb : Bal (node c l k v r)) :
    DelOut (bh (node c l k v r)) c ((delMin c l k v r).1, (delMin c l k v r).2.2) := by
  fun_induction delMin c l k v r with
  | case1 c k v r s => exact splice_inv c ⟨hn.2.1, hb.2.1, hb.2.2.symm⟩
  | case2 c k v r lc ll lk lv lr m b ih => exact balL_inv k v (ih hn.1 hb.1) ⟨hn.2.1, hb.2.1, hb.2.2.symm⟩ hn.2.2

theorem del_inv (k : Nat) (t : T V) (hn : NoRR t) (hb : Bal t) : DelOut (bh t) (col t) (del k t) := by
  fun_induction del k t with
  | case1 => simp [DelOut]
  | case2 c v' r => exact splice_inv c ⟨hn.2.1, hb.2.1, hb.2.2.symm⟩
  | case3 c v' lc ll lk lv lr => exact splice_inv c ⟨hn.1, hb.1, rfl⟩
  | case4 c v' lc ll lk lv lr rc rl rk rv rr m =>
    exact balR_inv _ _ (hb.2.2 ▸ delMin_inv rc rl rk rv rr hn.2.1 hb.2.1) ⟨hn.1, hb.1, rfl⟩ hn.2.2
  | case5 c l k' v' r _ _ s ih => exact balR_inv _ _ (hb.2.2 ▸ ih hn.2.1 hb.2.1) ⟨hn.1, hb.1, rfl⟩ hn.2.2
  | case6 c l k' v' r _ _ s ih => exact balL_inv _ _ (ih hn.1 hb.1) ⟨hn.2.1, hb.2.1, hb.2.2.symm⟩ hn.2.2

theorem Inv.setVal {t : T V} (h : Inv t) {k : Nat} {v0 : V} (hs : search t k = some v0) (v : V) : Inv (setVal k v t) := by
  have sh := setVal_shape k v t
  refine ⟨?_, sh.1.trans h.2.1, sh.2.2.1 h.2.2.1, sh.2.2.2.1 h.2.2.2⟩
  unfold Ordered; rw [toList_setVal k v t h.1 hs]; exact sorted_insList _ _ _ h.1

theorem Inv.ins {t : T V} (h : Inv t) (k : Nat) (v : V) : Inv (setBlack (ins k v t)) := by
  obtain ⟨a, _, b, _⟩ := ins_inv k v t h.2.2.1 h.2.2.2
  refine ⟨?_, col_setBlack _, NoRR_setBlack a, Bal_setBlack b⟩
  unfold Ordered; rw [toList_setBlack, toList_ins k v t h.1]; exact sorted_insList _ _ _ h.1

theorem Inv.del {t : T V} (h : Inv t) (k : Nat) : Inv (del k t).1 := by
  obtain ⟨h1, h2, _, h4⟩ := del_inv k t h.2.2.1 h.2.2.2
  refine ⟨?_, h4 h.2.1, h1, h2⟩
  unfold Ordered; rw [toList_del k t h.1]; exact sorted_delList _ _ h.1

theorem pow_bh_le_size (t : T V) (h : Bal t) : 2 ^ bh t ≤ size t + 1 := by
  induction t with
  | nil => simp
  | node c l k v r ihl ihr =>
    simp only [Bal] at h
    have h1 := ihl h.1
    have h2 := ihr h.2.1
    rw [← h.2.2] at h2
    simp only [bh, size]
    cases c with
    | R => simp; omega
    | B => simp [Nat.pow_succ]; omega

theorem height_le_bh (t : T V) (hn : NoRR t) (hb : Bal t) :
    height t ≤ 2 * bh t + (if col t = R then 1 else 0) := by
  induction t with
  | nil => simp
  | node c l k v r ihl ihr =>
    simp only [NoRR] at hn
    simp only [Bal] at hb
    have h1 := ihl hn.1 hb.1
    have h2 := ihr hn.2.1 hb.2.1
    rw [← hb.2.2] at h2
    simp only [height, bh, col_node]
    cases c with
    | R =>
      have := hn.2.2 rfl
      simp [this.1, this.2] at h1 h2
      simp; omega
    | B =>
      simp
      have : (if col l = R then 1 else 0) ≤ 1 := by split <;> omega
      have : (if col r = R then 1 else 0) ≤ 1 := by split <;> omega
      omega

theorem pow_half_height_le_size (t : T V) (hc : col t = B) (hn : NoRR t) (hb : Bal t) :
    2 ^ ((height t + 1) / 2) ≤ size t + 1 := by
  have h1 := height_le_bh t hn hb
  rw [hc] at h1
  simp at h1
  have h2 := pow_bh_le_size t hb
  have h3 : (height t + 1) / 2 ≤ bh t := by omega
  exact Nat.le_trans (Nat.pow_le_pow_right (by omega) h3) h2

/-! ## `Bal` says: all root-to-sentinel paths carry the same number of black pairs -/

/-- the number of black pairs on each path from the root down to a sentinel, left to right -/
def blackPaths : T V → List Nat
  | nil => [0]
  | node c l _ _ r => (blackPaths l ++ blackPaths r).map (· + (if c = B then 1 else 0))

theorem bh_mem_blackPaths (t : T V) : bh t ∈ blackPaths t := by
  induction t with
  | nil => simp [blackPaths]
  | node c l k v r ihl _ =>
    simp only [blackPaths, bh, List.mem_map, List.mem_append]
    exact ⟨bh l, Or.inl ihl, rfl⟩

theorem bal_paths (t : T V) (h : Bal t) : ∀ a ∈ blackPaths t, a = bh t := by
  induction t with
  | nil => simp [blackPaths]
  | node c l k v r ihl ihr =>
    simp only [Bal] at h
    intro a ha
    simp only [blackPaths, List.mem_map, List.mem_append] at ha
    obtain ⟨b, hb, rfl⟩ := ha
    simp only [bh]
    rcases hb with hb | hb
    · rw [ihl h.1 b hb]
    · rw [ihr h.2.1 b hb, h.2.2]

theorem paths_bal (t : T V) (h : ∀ a ∈ blackPaths t, ∀ b ∈ blackPaths t, a = b) : Bal t := by
  induction t with
  | nil => trivial
  | node c l k v r ihl ihr =>
    have key : ∀ a ∈ blackPaths l ++ blackPaths r, ∀ b ∈ blackPaths l ++ blackPaths r, a = b := by
      intro a ha b hb
      have := h (a + (if c = B then 1 else 0)) (by simp only [blackPaths, List.mem_map]; exact ⟨a, ha, rfl⟩)
                (b + (if c = B then 1 else 0)) (by simp only [blackPaths, List.mem_map]; exact ⟨b, hb, rfl⟩)
      omega
    simp only [Bal]
    refine ⟨ihl fun a ha b hb => key a (by simp [ha]) b (by simp [hb]),
            ihr fun a ha b hb => key a (by simp [ha]) b (by simp [hb]), ?_⟩
    exact key _ (by simp [bh_mem_blackPaths l]) _ (by simp [bh_mem_blackPaths r])

end Hawk.Rbt
