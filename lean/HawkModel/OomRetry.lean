/-
  C10 (extension) — out of memory is an error, never a crash or a leak:
  the error NUMBER, the collect-and-retry levels and the nested evaluation stack.

  Executable models (core Lean only), transcribed from the C:

  a. error-number plumbing
       hawk_gem_allocmem / hawk_gem_callocmem / hawk_gem_reallocmem        lib/gem.c:27-47
         `ptr = HAWK_MMGR_ALLOC(..); if (!ptr) hawk_gem_seterrnum (gem, HAWK_NULL, HAWK_ENOMEM); return ptr;`
       hawk_rtx_allocmem(rtx, n) = hawk_gem_allocmem(hawk_rtx_getgem(rtx), n)   lib/hawk.h:3531
       hawk_rtx_errortohawk: `hawk->_gem.errnum = rtx->_gem.errnum`             lib/err.c:280
  b. gc_calloc_val (lib/val.c:488) inside hawk_rtx_makemapval (val.c:1255) / hawk_rtx_makearrval
     (val.c:1155) inside a tree of nested evaluations (`Work`), every step followed by the C's
     `if (!v) return HAWK_NULL;`; hawk_rtx_evalcall's frame exit (lib/run.c:7236-7292);
     hawk_rtx_loop / hawk_rtx_callfun + flush_ios_at_end (lib/run.c:1657-1719, 1801-1875);
     hawk_rtx_open's `if (init_rtx(..) <= -1) { hawk_rtx_errortohawk (rtx, hawk); .. return HAWK_NULL; }`
     (lib/run.c:890-908).
  c. hawk_rtx_makeintval's chunk cache (val.c:554-607; hawk_rtx_makefltval val.c:609 is the same code
     on vmgr.rfree/rchunk).

  The event vocabulary (`GcEv`, `requests`, `grants`, `collects`, `frees`) and `Gc`/`Oracle` are the
  ones of HawkModel/Oom.lean; `gcCallocValE_proj`/`makeContainerE_proj` below show that
  forgetting the error number gives back `gcCallocVal` / `makeContainerVal` of Oom.lean.
-/
import HawkModel.OomLemmas

namespace Hawk.Oom

/-! ## a. the error number -/

/-- hawk_errnum_t (lib/hawk-cmn.h:895): HAWK_ENOERR, HAWK_ENOMEM, anything else -/
inductive Errnum where
  | noerr
  | enomem
  | other (n : Nat)
deriving Repr, DecidableEq

/-- hawk_gem_t, the part C10 is about: `gem->errnum` -/
structure Gem where
  errnum : Errnum
deriving Repr, DecidableEq

/-- hawk_gem_allocmem / hawk_gem_callocmem / hawk_gem_reallocmem (lib/gem.c:27-47):
    one request to the memory manager; `errnum = HAWK_ENOMEM` exactly when it is refused, untouched
    when it is granted.  Returns (granted, gem, rest of the oracle). -/
def gemAlloc (gm : Gem) (o : Oracle) : Bool × Gem × Oracle :=
  match o.next with
  | (true, o1) => (true, gm, o1)
  | (false, o1) => (false, { gm with errnum := .enomem }, o1)

/-- the part of hawk_rtx_t the value constructors touch -/
structure State where
  /-- rtx->_gem -/
  gem : Gem
  /-- rtx->gc.pressure / threshold -/
  gc : Gc
  /-- length of the free list rtx->vmgr.ifree -/
  ifree : Nat
  /-- number of chunks linked into rtx->vmgr.ichunk (released by hawk_rtx_close) -/
  ichunks : Nat
deriving Repr, DecidableEq

/-- hawk_rtx_allocmem / hawk_rtx_callocmem (lib/hawk.h:3531-3533): gemAlloc on the rtx's own gem -/
def rtxAlloc (s : State) (o : Oracle) : Bool × State × Oracle :=
  let r := gemAlloc s.gem o
  (r.1, { s with gem := r.2.1 }, r.2.2)

/-- hawk_rtx_errortohawk (lib/err.c:280): `hawk->_gem.errnum = rtx->_gem.errnum` -/
def errorToHawk (s : State) (_hawk : Gem) : Gem := { errnum := s.gem.errnum }

/-! ## b. collect-and-retry, level by level -/

/-- outcome of one step / one subtree -/
structure StepRes where
  /-- `false` = the C returned HAWK_NULL (or -1) -/
  ok : Bool
  st : State
  evs : List GcEv
  rest : Oracle
  /-- how many times gc_calloc_val went on to its second hawk_rtx_callocmem (val.c:505) -/
  gcRetries : Nat
  /-- how many times makemapval/makearrval took `goto retry` (val.c:1201, 1308) -/
  ctrRetries : Nat
  /-- blocks held by the values this subtree returned to its caller -/
  owned : Nat
deriving Repr, DecidableEq

/-- forget the error number and the counters: the result type of Oom.lean -/
def StepRes.toCalloc (r : StepRes) : CallocRes := { gc := r.st.gc, granted := r.ok, evs := r.evs, rest := r.rest }

/-- `rtx->gc.pressure[0]++` -/
def State.bump (s : State) : State := { s with gc := { s.gc with p0 := s.gc.p0 + 1 } }

/-- hawk_rtx_gc(rtx, gen) bookkeeping on the state -/
def State.collected (s : State) (gen : Nat) : State := { s with gc := s.gc.collected gen }

/-- gc_calloc_val (val.c:488-513), branch by branch, on the rtx state (so that every refused
    hawk_rtx_callocmem leaves HAWK_ENOMEM in rtx->_gem.errnum). -/
def gcCallocValE (s : State) (o : Oracle) : StepRes :=
  -- if (pressure[0] >= threshold[0]) gc_gen = gc_collect_garbage_auto(rtx);
  let auto := decide (s.gc.p0 ≥ s.gc.t0)
  let gen := if auto then s.gc.autoGen else 0
  let s1 := if auto then s.collected s.gc.autoGen else s
  let ev1 := if auto then [GcEv.collect s.gc.autoGen] else []
  -- gch = hawk_rtx_callocmem(..)
  let a := rtxAlloc s1 o
  if a.1 then
    { ok := true, st := a.2.1.bump, evs := ev1 ++ [.request true], rest := a.2.2,
      gcRetries := 0, ctrRetries := 0, owned := 1 }
  else
    -- if (gc_gen < NUM_GENS - 1) hawk_rtx_gc (rtx, NUM_GENS - 1);
    let s2 := if gen < 2 then a.2.1.collected 2 else a.2.1
    let ev2 := if gen < 2 then [GcEv.collect 2] else []
    -- gch = hawk_rtx_callocmem(..); if (!gch) return HAWK_NULL;
    let b := rtxAlloc s2 a.2.2
    if b.1 then
      { ok := true, st := b.2.1.bump, evs := ev1 ++ [.request false] ++ ev2 ++ [.request true], rest := b.2.2,
        gcRetries := 1, ctrRetries := 0, owned := 1 }
    else
      { ok := false, st := b.2.1, evs := ev1 ++ [.request false] ++ ev2 ++ [.request false], rest := b.2.2,
        gcRetries := 1, ctrRetries := 0, owned := 0 }

/-- hawk_rtx_makemapval / hawk_rtx_makearrval from the label `retry:` on, with the C flag `retried`
    already 1 (val.c:1176-1207 / 1284-1314): a failing container_init frees the value and returns NULL. -/
def makeContainerRetried (s : State) (o : Oracle) : StepRes :=
  let r := gcCallocValE s o
  if !r.ok then r                       -- if (!val) return HAWK_NULL;
  else
    -- hawk_map_init / hawk_arr_init: the container's own table, from the rtx gem
    let a := rtxAlloc r.st r.rest
    if a.1 then { r with st := a.2.1, evs := r.evs ++ [.request true], rest := a.2.2, owned := 2 }
    else
      -- gc_free_val (rtx, val); (retried) return HAWK_NULL;
      { ok := false, st := a.2.1, evs := r.evs ++ [.request false, .freeVal], rest := a.2.2,
        gcRetries := r.gcRetries, ctrRetries := 0, owned := 0 }

/-- hawk_rtx_makemapval / hawk_rtx_makearrval entered with `retried = 0`:
      gc_free_val (rtx, val); if (!retried) { hawk_rtx_gc (rtx, full); retried = 1; goto retry; }
    The `goto retry` is the call of `makeContainerRetried`. -/
def makeContainerE (s : State) (o : Oracle) : StepRes :=
  let r := gcCallocValE s o
  if !r.ok then r
  else
    let a := rtxAlloc r.st r.rest
    if a.1 then { r with st := a.2.1, evs := r.evs ++ [.request true], rest := a.2.2, owned := 2 }
    else
      let r2 := makeContainerRetried (a.2.1.collected 2) a.2.2
      { r2 with evs := r.evs ++ [.request false, .freeVal, .collect 2] ++ r2.evs,
                gcRetries := r.gcRetries + r2.gcRetries, ctrRetries := 1 + r2.ctrRetries }

/-- a constructor that makes one plain request and returns NULL when refused:
    hawk_rtx_makerefval with an empty rcache (val.c:1498-1502), make_str_val on a string-cache miss
    (val.c:671-672, behind every hawk_rtx_makestrvalwith*), hawk_rtx_makefunval ... :
    `val = hawk_rtx_callocmem(..); if (!val) return HAWK_NULL;`  (a cache hit makes no request) -/
def plainAlloc (s : State) (o : Oracle) : StepRes :=
  let a := rtxAlloc s o
  { ok := a.1, st := a.2.1, evs := [.request a.1], rest := a.2.2, gcRetries := 0, ctrRetries := 0,
    owned := if a.1 then 1 else 0 }

/-! ## c. hawk_rtx_makeintval: the chunk cache -/

/-- CHUNKSIZE = HAWK_VAL_CHUNK_SIZE (lib/val-prv.h:28) -/
def chunkSize : Nat := 100

/-- hawk_rtx_makeintval (val.c:554-607).  `small` = HAWK_IN_INT_RANGE(v): the value is encoded in the
    pointer, nothing is allocated.  Otherwise, when the free list is empty, ONE chunk of CHUNKSIZE
    slots is requested with hawk_rtx_allocmem — no collection, no second attempt: a refusal returns
    NULL (ENOMEM set by the gem) with ifree/ichunk unchanged.  The slot handed out belongs to the
    chunk, so the value owns no block of its own. -/
def makeIntVal (small : Bool) (s : State) (o : Oracle) : StepRes :=
  if small then { ok := true, st := s, evs := [], rest := o, gcRetries := 0, ctrRetries := 0, owned := 0 }
  else if s.ifree = 0 then
    let a := rtxAlloc s o
    if a.1 then
      -- c->next = ichunk; ichunk = c; ifree = &c->slot[0]; then val = ifree; ifree = val->nde
      { ok := true, st := { a.2.1 with ichunks := a.2.1.ichunks + 1, ifree := chunkSize - 1 },
        evs := [.request true], rest := a.2.2, gcRetries := 0, ctrRetries := 0, owned := 0 }
    else
      { ok := false, st := a.2.1, evs := [.request false], rest := a.2.2, gcRetries := 0, ctrRetries := 0, owned := 0 }
  else
    { ok := true, st := { s with ifree := s.ifree - 1 }, evs := [], rest := o, gcRetries := 0, ctrRetries := 0, owned := 0 }

/-! ## the nested evaluation stack -/

/-- what an evaluation does, as a tree: the leaves are value constructors, `seq a b` is
    `x = a; if (!x) return HAWK_NULL; y = b; if (!y) return HAWK_NULL;` and `call body` is a function
    call frame (hawk_rtx_evalcall). -/
inductive Work where
  | alloc
  | gcval
  | container
  | ival (small : Bool)
  | seq (a b : Work)
  | call (body : Work)
deriving Repr, DecidableEq

/-- run a tree.  A failed step aborts everything above it; nothing on the way up touches errnum.
    `call`: when the body fails (`n <= -1`, run.c:7246) the frame refdowns its arguments and the
    return-value slot (run.c:7236-7238, 7277) — modelled as giving back every block the body's
    completed steps owned — and returns HAWK_NULL; on success the values pass to the caller. -/
def exec : Work → State → Oracle → StepRes
  | .alloc, s, o => plainAlloc s o
  | .gcval, s, o => gcCallocValE s o
  | .container, s, o => makeContainerE s o
  | .ival small, s, o => makeIntVal small s o
  | .seq a b, s, o =>
    let r1 := exec a s o
    if !r1.ok then r1
    else
      let r2 := exec b r1.st r1.rest
      { r2 with evs := r1.evs ++ r2.evs, gcRetries := r1.gcRetries + r2.gcRetries,
                ctrRetries := r1.ctrRetries + r2.ctrRetries, owned := r1.owned + r2.owned }
  | .call body, s, o =>
    let r := exec body s o
    if r.ok then r
    else { r with evs := r.evs ++ List.replicate r.owned .freeVal, owned := 0 }

/-- static node counts -/
def Work.allocs : Work → Nat
  | .alloc => 1 | .gcval => 0 | .container => 0 | .ival _ => 0
  | .seq a b => a.allocs + b.allocs | .call b => b.allocs
def Work.gcvals : Work → Nat
  | .alloc => 0 | .gcval => 1 | .container => 0 | .ival _ => 0
  | .seq a b => a.gcvals + b.gcvals | .call b => b.gcvals
def Work.containers : Work → Nat
  | .alloc => 0 | .gcval => 0 | .container => 1 | .ival _ => 0
  | .seq a b => a.containers + b.containers | .call b => b.containers
def Work.ivals : Work → Nat
  | .alloc => 0 | .gcval => 0 | .container => 0 | .ival _ => 1
  | .seq a b => a.ivals + b.ivals | .call b => b.ivals
/-- blocks the values of a completely executed tree own -/
def Work.blocks : Work → Nat
  | .alloc => 1 | .gcval => 1 | .container => 2 | .ival _ => 0
  | .seq a b => a.blocks + b.blocks | .call b => b.blocks
/-- only gc_calloc_val steps -/
def Work.onlyGcval : Work → Bool
  | .gcval => true
  | .seq a b => a.onlyGcval && b.onlyGcval
  | .call b => b.onlyGcval
  | _ => false

/-! ## the API boundary -/

/-- hawk_rtx_flushallios as seen from here: `none` = returned 0; `some e` = returned -1 having set
    the rtx error number to `e` -/
def flushAllIos (s : State) (fl : Option Errnum) : Bool × State :=
  match fl with
  | none => (true, s)
  | some e => (false, { s with gem := { errnum := e } })

structure ApiRes where
  /-- the API function returned HAWK_NULL -/
  retNull : Bool
  rtx : State
  evs : List GcEv
  rest : Oracle
deriving Repr, DecidableEq

/-- hawk_rtx_loop (run.c:1679) / hawk_rtx_callfun (run.c:1801): run the program in a fresh frame, then
    flush_ios_at_end (run.c:1657):
      if (retv) { if (hawk_rtx_flushallios(rtx) <= -1) { hawk_rtx_refdownval (rtx, retv); retv = HAWK_NULL; } }
      else { hawk_rtx_geterrinf (rtx, &errinf); hawk_rtx_flushallios (rtx); hawk_rtx_seterrinf (rtx, &errinf); }
    NB the C returns HAWK_NULL (a hawk_val_t*), not -1, and does NOT call hawk_rtx_errortohawk. -/
def apiCall (w : Work) (s : State) (o : Oracle) (fl : Option Errnum) : ApiRes :=
  let r := exec (.call w) s o
  if r.ok then
    let f := flushAllIos r.st fl
    if f.1 then { retNull := false, rtx := f.2, evs := r.evs, rest := r.rest }
    else { retNull := true, rtx := f.2, evs := r.evs, rest := r.rest }
  else
    let saved := r.st.gem
    let f := flushAllIos r.st fl
    { retNull := true, rtx := { f.2 with gem := saved }, evs := r.evs, rest := r.rest }

structure OpenRes where
  /-- hawk_rtx_open returned HAWK_NULL -/
  retNull : Bool
  rtx : State
  hawk : Gem
deriving Repr, DecidableEq

/-- hawk_rtx_open (run.c:890-908): `if (init_rtx(rtx, hawk, rio) <= -1) { hawk_rtx_errortohawk (rtx, hawk);
    hawk_freemem (hawk, rtx); return HAWK_NULL; }` (and the same for init_globals): the one place where the
    library itself copies the rtx error to the hawk object.  `w` is the work init_rtx/init_globals do. -/
def rtxOpen (w : Work) (s : State) (hawk : Gem) (o : Oracle) : OpenRes :=
  let r := exec (.call w) s o
  if r.ok then { retNull := false, rtx := r.st, hawk := hawk }
  else { retNull := true, rtx := r.st, hawk := errorToHawk r.st hawk }

/-- a sample heap state for the non-vacuity examples: pressure below every threshold -/
def s0 : State :=
  { gem := { errnum := .noerr }, gc := { p0 := 0, p1 := 0, p2 := 0, p3 := 0, t0 := 10, t1 := 10, t2 := 10 },
    ifree := 0, ichunks := 0 }

/-! ## agreement with the models of Oom.lean -/

theorem rtxAlloc_eq (s : State) (o : Oracle) :
    rtxAlloc s o = (o.next.1, if o.next.1 then s else { s with gem := ⟨.enomem⟩ }, o.next.2) := by
  rcases o with _ | ⟨_ | _, o⟩ <;> rfl

theorem rtxAlloc_nil (s : State) : rtxAlloc s [] = (true, s, []) :=
  rtxAlloc_eq s []
theorem rtxAlloc_true (s : State) (o : Oracle) : rtxAlloc s (true :: o) = (true, s, o) :=
  rtxAlloc_eq s (true :: o)
theorem rtxAlloc_false (s : State) (o : Oracle) :
    rtxAlloc s (false :: o) = (false, { s with gem := { errnum := .enomem } }, o) :=
  rtxAlloc_eq s (false :: o)

/-- a refused first request leaves ENOMEM behind, whatever the second one answers -/
theorem gcCallocValE_eq (s : State) (o : Oracle) :
    gcCallocValE s o =
      { ok := (gcCallocVal s.gc o).granted,
        st := { s with gc := (gcCallocVal s.gc o).gc, gem := if o.next.1 then s.gem else ⟨.enomem⟩ },
        evs := (gcCallocVal s.gc o).evs, rest := (gcCallocVal s.gc o).rest,
        gcRetries := if o.next.1 then 0 else 1, ctrRetries := 0,
        owned := if (gcCallocVal s.gc o).granted then 1 else 0 } := by
  unfold gcCallocValE gcCallocVal
  by_cases h0 : s.gc.p0 ≥ s.gc.t0
  · by_cases hg : s.gc.autoGen < 2
    · simp only [h0, hg, decide_true, if_true]
      rcases o with _ | ⟨_ | _, _ | ⟨_ | _, o2⟩⟩ <;> rfl
    · simp only [h0, hg, decide_true, if_true, if_false]
      rcases o with _ | ⟨_ | _, _ | ⟨_ | _, o2⟩⟩ <;> rfl
  · simp only [h0, decide_false, if_false, Bool.false_eq_true, Nat.zero_lt_two, if_true]
    rcases o with _ | ⟨_ | _, _ | ⟨_ | _, o2⟩⟩ <;> rfl

theorem gcCallocValE_proj (s : State) (o : Oracle) :
    (gcCallocValE s o).toCalloc = gcCallocVal s.gc o := by
  rw [gcCallocValE_eq]
  rfl

attribute [local simp] requests_append grants_append frees_append requests_cons grants_cons frees_cons
  requests_nil grants_nil frees_nil rtxAlloc_nil rtxAlloc_true rtxAlloc_false

theorem makeContainerRetried_proj (s : State) (o : Oracle) :
    (makeContainerRetried s o).toCalloc = makeContainerVal s.gc true o := by
  rw [makeContainerVal, ← gcCallocValE_proj s o, makeContainerRetried]
  rcases gcCallocValE s o with ⟨_ | _, st, evs, _ | ⟨_ | _, o2⟩, g, c, w⟩ <;> rfl

theorem makeContainerE_proj (s : State) (o : Oracle) :
    (makeContainerE s o).toCalloc = makeContainerVal s.gc false o := by
  rw [makeContainerVal, ← gcCallocValE_proj s o, makeContainerE]
  rcases gcCallocValE s o with ⟨_ | _, st, evs, rest, g, c, w⟩
  · rfl
  · rcases rest with _ | ⟨_ | _, o2⟩
    · rfl
    · -- the table is refused: both sides go round once more, from the same counters and oracle
      exact congrArg (fun r2 : CallocRes => { r2 with evs := evs ++ [GcEv.request false, .freeVal, .collect 2] ++ r2.evs })
        (makeContainerRetried_proj (State.collected ⟨⟨.enomem⟩, st.gc, st.ifree, st.ichunks⟩ 2) o2)
    · rfl

/-! ### the invariant of one step, and of every tree -/

/-- the oracle grants every request (`o.all id`, kept folded so that `simp` does not rewrite it) -/
def grantsAll (o : Oracle) : Bool := o.all id
@[simp] theorem grantsAll_nil : grantsAll [] = true := rfl
@[simp] theorem grantsAll_true (o : Oracle) : grantsAll (true :: o) = grantsAll o := by simp [grantsAll]
@[simp] theorem grantsAll_false (o : Oracle) : grantsAll (false :: o) = false := by simp [grantsAll]

/-- the error number after a step is ENOMEM iff one of its requests was refused, else what it was;
    and a step only fails after a refusal -/
def ErrOK (s : State) (r : StepRes) : Prop :=
  grants r.evs ≤ requests r.evs ∧ (r.ok = false → grants r.evs < requests r.evs) ∧
  r.st.gem.errnum = if grants r.evs = requests r.evs then s.gem.errnum else .enomem

/-- what a step/subtree started in `s` with oracle `o` guarantees; `nr` bounds the requests,
    `ng`/`nc` the retries at the two levels, `nb` = blocks owned when it completes -/
structure StepOK (s : State) (o : Oracle) (r : StepRes) (nr ng nc nb : Nat) : Prop where
  requests_le : requests r.evs ≤ nr
  gcRetries_le : r.gcRetries ≤ ng
  ctrRetries_le : r.ctrRetries ≤ nc
  of_grantsAll : grantsAll o = true → r.ok = true ∧ r.st.gem = s.gem ∧ grantsAll r.rest = true
  balance : grants r.evs + s.ichunks = frees r.evs + r.owned + r.st.ichunks
  owned_eq : r.ok = true → r.owned = nb
  owned_le : r.owned ≤ nb
  ichunks_le : s.ichunks ≤ r.st.ichunks
  err : ErrOK s r

/-- the fields as one conjunction, the form in which `simp` proves them of a concrete step -/
theorem stepOK_iff {s : State} {o : Oracle} {r : StepRes} {nr ng nc nb : Nat} :
    StepOK s o r nr ng nc nb ↔
      requests r.evs ≤ nr ∧ r.gcRetries ≤ ng ∧ r.ctrRetries ≤ nc ∧
      (grantsAll o = true → r.ok = true ∧ r.st.gem = s.gem ∧ grantsAll r.rest = true) ∧
      grants r.evs + s.ichunks = frees r.evs + r.owned + r.st.ichunks ∧
      (r.ok = true → r.owned = nb) ∧ r.owned ≤ nb ∧ s.ichunks ≤ r.st.ichunks ∧ ErrOK s r :=
  ⟨fun ⟨a1, a2, a3, a4, a5, a6, a7, a8, a9⟩ => ⟨a1, a2, a3, a4, a5, a6, a7, a8, a9⟩,
   fun ⟨a1, a2, a3, a4, a5, a6, a7, a8, a9⟩ => ⟨a1, a2, a3, a4, a5, a6, a7, a8, a9⟩⟩

/-- the step leaves the int chunk cache alone and owns nothing when it fails: true of every value constructor but
    makeintval, which links a chunk (`ival_ok` states what holds of it instead) -/
def NoChunk (s : State) (r : StepRes) : Prop :=
  r.st.ichunks = s.ichunks ∧ r.st.ifree = s.ifree ∧ (r.ok = false → r.owned = 0)

theorem ErrOK.seq {s : State} {r1 r2 : StepRes} (h1 : ErrOK s r1) (h2 : ErrOK r1.st r2) :
    ErrOK s { r2 with evs := r1.evs ++ r2.evs, gcRetries := r1.gcRetries + r2.gcRetries,
                      ctrRetries := r1.ctrRetries + r2.ctrRetries, owned := r1.owned + r2.owned } := by
  obtain ⟨a1, _, a3⟩ := h1
  obtain ⟨b1, b2, b3⟩ := h2
  unfold ErrOK
  simp only [requests_append, grants_append]
  refine ⟨Nat.add_le_add a1 b1, fun hk => Nat.add_lt_add_of_le_of_lt a1 (b2 hk), ?_⟩
  rw [b3, a3]
  by_cases h2 : grants r2.evs = requests r2.evs
  · by_cases h1 : grants r1.evs = requests r1.evs
    · rw [if_pos h2, if_pos h1, if_pos (by omega)]
    · rw [if_pos h2, if_neg h1, if_neg (by omega)]
  · rw [if_neg h2, if_neg (by omega)]

theorem ErrOK.unwind {s : State} {r : StepRes} (h : ErrOK s r) (hok : r.ok = false) :
    ErrOK s { r with evs := r.evs ++ List.replicate r.owned .freeVal, owned := 0 } := by
  unfold ErrOK
  simp only [requests_append, grants_append, requests_replicate_free, grants_replicate_free, Nat.add_zero]
  exact ⟨h.1, fun _ => h.2.1 hok, h.2.2⟩

theorem StepOK.fail_enomem {s : State} {o : Oracle} {r : StepRes} {nr ng nc nb : Nat} (h : StepOK s o r nr ng nc nb)
    (hf : r.ok = false) : r.st.gem.errnum = .enomem := by
  rw [h.err.2.2, if_neg (Nat.ne_of_lt (h.err.2.1 hf))]

theorem StepOK.mono {s : State} {o : Oracle} {r : StepRes} {nr ng nc nb nr' ng' nc' : Nat} (h : StepOK s o r nr ng nc nb)
    (hr : nr ≤ nr') (hg : ng ≤ ng') (hc : nc ≤ nc') : StepOK s o r nr' ng' nc' nb :=
  { h with requests_le := Nat.le_trans h.requests_le hr, gcRetries_le := Nat.le_trans h.gcRetries_le hg,
           ctrRetries_le := Nat.le_trans h.ctrRetries_le hc }

/-- the block accounts of two consecutive steps add up (`i` = chunks linked, `w` = blocks owned) -/
theorem balance_add {g1 f1 w1 g2 f2 w2 i0 i1 i2 : Nat} (h1 : g1 + i0 = f1 + w1 + i1) (h2 : g2 + i1 = f2 + w2 + i2) :
    g1 + g2 + i0 = f1 + f2 + (w1 + w2) + i2 := by
  omega

theorem StepOK.seq {s : State} {o : Oracle} {r1 r2 : StepRes} {nr1 ng1 nc1 nb1 nr2 ng2 nc2 nb2 : Nat}
    (h1 : StepOK s o r1 nr1 ng1 nc1 nb1) (hok : r1.ok = true) (h2 : StepOK r1.st r1.rest r2 nr2 ng2 nc2 nb2) :
    StepOK s o { r2 with evs := r1.evs ++ r2.evs, gcRetries := r1.gcRetries + r2.gcRetries,
                         ctrRetries := r1.ctrRetries + r2.ctrRetries, owned := r1.owned + r2.owned }
      (nr1 + nr2) (ng1 + ng2) (nc1 + nc2) (nb1 + nb2) where
  requests_le := by rw [requests_append]; exact Nat.add_le_add h1.requests_le h2.requests_le
  gcRetries_le := Nat.add_le_add h1.gcRetries_le h2.gcRetries_le
  ctrRetries_le := Nat.add_le_add h1.ctrRetries_le h2.ctrRetries_le
  of_grantsAll hg :=
    have ⟨_, g2, g3⟩ := h1.of_grantsAll hg
    have ⟨g4, g5, g6⟩ := h2.of_grantsAll g3
    ⟨g4, g5.trans g2, g6⟩
  balance := by
    show grants (r1.evs ++ r2.evs) + s.ichunks = frees (r1.evs ++ r2.evs) + (r1.owned + r2.owned) + r2.st.ichunks
    rw [grants_append, frees_append]; exact balance_add h1.balance h2.balance
  owned_eq hk := by
    show r1.owned + r2.owned = nb1 + nb2
    rw [h1.owned_eq hok, h2.owned_eq hk]
  owned_le := Nat.add_le_add h1.owned_le h2.owned_le
  ichunks_le := Nat.le_trans h1.ichunks_le h2.ichunks_le
  err := h1.err.seq h2.err

theorem StepOK.seq_fail {s : State} {o : Oracle} {r : StepRes} {nr ng nc nb : Nat}
    (h : StepOK s o r nr ng nc nb) (hok : r.ok = false) (nr' ng' nc' nb' : Nat) :
    StepOK s o r (nr + nr') (ng + ng') (nc + nc') (nb + nb') :=
  { h with requests_le := Nat.le_add_right_of_le h.requests_le, gcRetries_le := Nat.le_add_right_of_le h.gcRetries_le,
           ctrRetries_le := Nat.le_add_right_of_le h.ctrRetries_le,
           owned_eq := fun hk => absurd (hk.symm.trans hok) nofun, owned_le := Nat.le_add_right_of_le h.owned_le }

theorem StepOK.unwind {s : State} {o : Oracle} {r : StepRes} {nr ng nc nb : Nat}
    (h : StepOK s o r nr ng nc nb) (hok : r.ok = false) :
    StepOK s o { r with evs := r.evs ++ List.replicate r.owned .freeVal, owned := 0 } nr ng nc nb where
  requests_le := by rw [requests_append, requests_replicate_free]; exact h.requests_le
  gcRetries_le := h.gcRetries_le
  ctrRetries_le := h.ctrRetries_le
  of_grantsAll hg := absurd ((h.of_grantsAll hg).1.symm.trans hok) nofun
  balance := by
    have hb := h.balance
    show grants (r.evs ++ _) + s.ichunks = frees (r.evs ++ _) + 0 + r.st.ichunks
    rw [grants_append, frees_append, grants_replicate_free, frees_replicate_free]; omega
  owned_eq hk := absurd (hk.symm.trans hok) nofun
  owned_le := Nat.zero_le _
  ichunks_le := h.ichunks_le
  err := h.err.unwind hok

/-- `goto retry`: a step that failed and gave everything back, a full collection, then a second step -/
theorem StepOK.retry {s : State} {o : Oracle} {r1 r2 : StepRes} {nr1 ng1 nc1 nb1 nr2 ng2 nc2 nb2 : Nat}
    (h1 : StepOK s o r1 nr1 ng1 nc1 nb1) (hok : r1.ok = false) (hown : r1.owned = 0)
    (h2 : StepOK (r1.st.collected 2) r1.rest r2 nr2 ng2 nc2 nb2) :
    StepOK s o { r2 with evs := r1.evs ++ [.collect 2] ++ r2.evs, gcRetries := r1.gcRetries + r2.gcRetries,
                         ctrRetries := 1 + r2.ctrRetries } (nr1 + nr2) (ng1 + ng2) (1 + nc2) nb2 := by
  obtain ⟨a1, a2, a3⟩ := h1.err
  obtain ⟨b1, _, b3⟩ := h2.err
  have hlt := Nat.add_lt_add_of_lt_of_le (a2 hok) b1
  -- the refusal that made the first step fail is still on record after the second
  have hg : r2.st.gem.errnum = .enomem := by
    rw [b3]
    show (if _ then r1.st.gem.errnum else _) = _
    rw [a3, if_neg (Nat.ne_of_lt (a2 hok)), ite_self]
  have hbal := balance_add h1.balance h2.balance
  rw [hown, Nat.zero_add] at hbal
  simp only [stepOK_iff, ErrOK, requests_append, grants_append, frees_append, requests_cons, grants_cons, frees_cons, requests_nil,
    grants_nil, frees_nil, Nat.add_zero]
  exact ⟨Nat.add_le_add h1.requests_le h2.requests_le, Nat.add_le_add h1.gcRetries_le h2.gcRetries_le,
    Nat.add_le_add_left h2.ctrRetries_le 1, fun hg => absurd ((h1.of_grantsAll hg).1.symm.trans hok) nofun, hbal,
    h2.owned_eq, h2.owned_le, Nat.le_trans h1.ichunks_le h2.ichunks_le, Nat.add_le_add a1 b1,
    fun _ => hlt, by rw [hg, if_neg (Nat.ne_of_lt hlt)]⟩

theorem StepOK.balance_noChunk {s : State} {o : Oracle} {r : StepRes} {nr ng nc nb : Nat} (h : StepOK s o r nr ng nc nb)
    (hl : NoChunk s r) : grants r.evs = frees r.evs + r.owned := by
  have hb := h.balance
  rw [hl.1] at hb
  omega

theorem StepOK.fail_noChunk {s : State} {o : Oracle} {r : StepRes} {nr ng nc nb : Nat} (h : StepOK s o r nr ng nc nb)
    (hl : NoChunk s r) (hf : r.ok = false) :
    grants r.evs = frees r.evs ∧ r.st.ichunks = s.ichunks ∧ r.st.ifree = s.ifree :=
  ⟨(h.balance_noChunk hl).trans (by rw [hl.2.2 hf]; rfl), hl.1, hl.2.1⟩

theorem gcval_ok (s : State) (o : Oracle) :
    StepOK s o (gcCallocValE s o) 2 1 0 1 ∧ NoChunk s (gcCallocValE s o) ∧
    (o.count false ≤ 1 → (gcCallocValE s o).ok = true ∧ (gcCallocValE s o).rest.count false ≤ o.count false) := by
  obtain ⟨c1, c2, g1, g2, _, _, _, _, he⟩ := gcCallocVal_eq s.gc
  simp only [stepOK_iff, ErrOK, NoChunk, gcCallocValE_eq, he]
  rcases o with _ | ⟨_ | _, _ | ⟨_ | _, o2⟩⟩ <;>
    simp [Oracle.next, requests_map_collect, grants_map_collect, frees_map_collect]

theorem alloc_ok (s : State) (o : Oracle) :
    StepOK s o (plainAlloc s o) 1 0 0 1 ∧ NoChunk s (plainAlloc s o) := by
  rcases o with _ | ⟨_ | _, o⟩ <;> simp [stepOK_iff, ErrOK, NoChunk, plainAlloc]

theorem ival_ok (small : Bool) (s : State) (o : Oracle) :
    StepOK s o (makeIntVal small s o) 1 0 0 0 ∧
    ((makeIntVal small s o).ok = false → grants (makeIntVal small s o).evs = frees (makeIntVal small s o).evs ∧
      (makeIntVal small s o).st.ichunks = s.ichunks ∧ (makeIntVal small s o).st.ifree = s.ifree) := by
  cases small
  · by_cases hf : s.ifree = 0
    · rcases o with _ | ⟨_ | _, o⟩ <;> simp [stepOK_iff, ErrOK, makeIntVal, hf] <;> omega
    · simp [stepOK_iff, ErrOK, makeIntVal, hf]
  · simp [stepOK_iff, ErrOK, makeIntVal]

theorem exec_seq_spec {a b : Work} {nr1 ng1 nc1 nb1 nr2 ng2 nc2 nb2 : Nat}
    (ha : ∀ s o, StepOK s o (exec a s o) nr1 ng1 nc1 nb1) (hb : ∀ s o, StepOK s o (exec b s o) nr2 ng2 nc2 nb2)
    (s : State) (o : Oracle) :
    StepOK s o (exec (.seq a b) s o) (nr1 + nr2) (ng1 + ng2) (nc1 + nc2) (nb1 + nb2) := by
  simp only [exec]
  cases hok : (exec a s o).ok with
  | false => exact (ha s o).seq_fail hok _ _ _ _
  | true => exact (ha s o).seq hok (hb _ _)

theorem exec_call_spec {b : Work} {nr ng nc nb : Nat} (hb : ∀ s o, StepOK s o (exec b s o) nr ng nc nb)
    (s : State) (o : Oracle) : StepOK s o (exec (.call b) s o) nr ng nc nb := by
  simp only [exec]
  rcases Bool.eq_false_or_eq_true (exec b s o).ok with hok | hok
  · rw [if_pos hok]; exact hb s o
  · rw [if_neg (ne_true_of_eq_false hok)]; exact (hb s o).unwind hok

/-- after `goto retry` the constructor is a tree, so that the lemmas about trees apply to it: the `call` frame is what
    gives the value block back (`gc_free_val`) when the container's table is refused -/
theorem makeContainerRetried_eq (s : State) (o : Oracle) :
    makeContainerRetried s o = exec (.call (.seq .gcval .alloc)) s o := by
  simp only [makeContainerRetried, exec, plainAlloc, rtxAlloc_eq, gcCallocValE_eq]
  cases (gcCallocVal s.gc o).granted <;> cases (gcCallocVal s.gc o).rest.next.1 <;> simp

theorem containerRetried_ok (s : State) (o : Oracle) :
    StepOK s o (makeContainerRetried s o) 3 1 0 2 ∧ NoChunk s (makeContainerRetried s o) := by
  refine ⟨?_, ?_⟩
  · rw [makeContainerRetried_eq]
    exact exec_call_spec (exec_seq_spec (a := .gcval) (b := .alloc) (fun s o => (gcval_ok s o).1)
      (fun s o => (alloc_ok s o).1)) s o
  · simp only [NoChunk, makeContainerRetried, rtxAlloc_eq, gcCallocValE_eq]
    cases (gcCallocVal s.gc o).granted <;> cases (gcCallocVal s.gc o).rest.next.1 <;> simp

/-- entered with `retried = 0`, makemapval/makearrval differs from the code after `goto retry` only when the
    container's table is refused: then it has failed like that code, collects everything and goes round once more -/
theorem makeContainerE_eq (s : State) (o : Oracle) :
    makeContainerE s o =
      if (makeContainerRetried s o).ok = false ∧ (gcCallocValE s o).ok = true then
        let r1 := makeContainerRetried s o
        let r2 := makeContainerRetried (r1.st.collected 2) r1.rest
        { r2 with evs := r1.evs ++ [.collect 2] ++ r2.evs, gcRetries := r1.gcRetries + r2.gcRetries,
                  ctrRetries := 1 + r2.ctrRetries }
      else makeContainerRetried s o := by
  rw [makeContainerE, makeContainerRetried]
  rcases gcCallocValE s o with ⟨ok, st, evs, rest, g, c, w⟩
  cases ok
  · rfl
  · rcases rtxAlloc st rest with ⟨_ | _, st', rest'⟩
    · simp only [Bool.not_true, Bool.false_eq_true, if_false, and_self, if_true, List.append_assoc, List.cons_append,
        List.nil_append]
    · rfl

theorem container_ok (s : State) (o : Oracle) :
    StepOK s o (makeContainerE s o) 6 2 1 2 ∧ NoChunk s (makeContainerE s o) := by
  obtain ⟨k, l1, l2, l3⟩ := containerRetried_ok s o
  rw [makeContainerE_eq]
  split
  · rename_i h
    obtain ⟨k', m1, m2, m3⟩ := containerRetried_ok ((makeContainerRetried s o).st.collected 2) (makeContainerRetried s o).rest
    exact ⟨StepOK.retry k h.1 (l3 h.1) k', m1.trans l1, m2.trans l2, m3⟩
  · exact ⟨k.mono (by decide) (by decide) (by decide), l1, l2, l3⟩

theorem exec_spec (w : Work) : ∀ (s : State) (o : Oracle),
    StepOK s o (exec w s o) (6 * w.containers + 2 * w.gcvals + w.allocs + w.ivals)
      (w.gcvals + 2 * w.containers) w.containers w.blocks := by
  induction w with
  | alloc => exact fun s o => (alloc_ok s o).1
  | gcval => exact fun s o => (gcval_ok s o).1
  | container => exact fun s o => (container_ok s o).1
  | ival small => exact fun s o => (ival_ok small s o).1
  | seq a b iha ihb =>
    intro s o
    simp only [Work.containers, Work.gcvals, Work.allocs, Work.ivals, Work.blocks]
    exact (exec_seq_spec iha ihb s o).mono (by omega) (by omega) (Nat.le_refl _)
  | call b ih => exact exec_call_spec ih

end Hawk.Oom
