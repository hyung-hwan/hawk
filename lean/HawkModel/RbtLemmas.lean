import HawkModel.Rbt
/-!
`insList` / `delList` / `alookup` are the specification: a dictionary kept as an association
list sorted by key.  Every rotation / re-colouring helper of the model preserves the in-order
list, so each operation of the tree is the corresponding list operation on `toList`.
-/
namespace Hawk.Rbt
open Color T

variable {V : Type}

/-- `Ordered t` of the model unfolds to `SortedKV (toList t)`: the proofs hand an `h : Ordered t` to the list lemmas as it is -/
abbrev SortedKV (xs : List (Nat × V)) : Prop := xs.Pairwise (fun a b => a.1 < b.1)

def insList (k : Nat) (v : V) : List (Nat × V) → List (Nat × V)
  | [] => [(k, v)]
  | (a, b) :: xs =>
    if k < a then (k, v) :: (a, b) :: xs
    else if k = a then (k, v) :: xs
    else (a, b) :: insList k v xs

def delList (k : Nat) : List (Nat × V) → List (Nat × V)
  | [] => []
  | (a, b) :: xs => if k = a then xs else (a, b) :: delList k xs

def alookup (k : Nat) : List (Nat × V) → Option V
  | [] => none
  | (a, b) :: xs => if k = a then some b else alookup k xs

theorem insList_append_lt (k : Nat) (v : V) (xs ys : List (Nat × V)) (a : Nat) (b : V) (h : k < a) :
    insList k v (xs ++ (a, b) :: ys) = insList k v xs ++ (a, b) :: ys := by
  fun_induction insList k v xs with
  | case1 => simp [insList, h]
  | case2 a' b' xs hk => simp [insList, hk]
  | case3 b' xs hk => simp [insList]
  | case4 a' b' xs hlt hne ih => simp [insList, hlt, hne, ih]

theorem insList_append_ge (k : Nat) (v : V) (xs zs : List (Nat × V)) (h : ∀ x ∈ xs, x.1 < k) :
    insList k v (xs ++ zs) = xs ++ insList k v zs := by
  induction xs with
  | nil => rfl
  | cons x xs ih =>
    obtain ⟨hx, hxs⟩ := List.forall_mem_cons.1 h
    rw [List.cons_append, insList, if_neg (Nat.lt_asymm hx), if_neg (Nat.ne_of_gt hx), ih hxs, List.cons_append]

/-- insertion into a sorted list, seen from one of its members: the three ways of the tree descent -/
theorem insList_pivot (k : Nat) (v : V) {xs : List (Nat × V)} {a : Nat} (b : V) (ys : List (Nat × V))
    (hx : ∀ x ∈ xs, x.1 < a) :
    insList k v (xs ++ (a, b) :: ys) =
      if k = a then xs ++ (k, v) :: ys
      else if k > a then xs ++ (a, b) :: insList k v ys
      else insList k v xs ++ (a, b) :: ys := by
  split
  · rename_i hk; subst hk
    rw [insList_append_ge _ _ _ _ hx]; simp [insList]
  · split
    · rw [insList_append_ge _ _ _ _ (fun x h => by have := hx x h; omega)]
      simp only [insList]
      rw [if_neg (by omega), if_neg (by omega)]
    · rw [insList_append_lt _ _ _ _ _ _ (by omega)]

theorem delList_append_right (k : Nat) (xs zs : List (Nat × V)) (h : ∀ x ∈ xs, x.1 ≠ k) :
    delList k (xs ++ zs) = xs ++ delList k zs := by
  induction xs with
  | nil => rfl
  | cons x xs ih =>
    obtain ⟨hx, hxs⟩ := List.forall_mem_cons.1 h
    rw [List.cons_append, delList, if_neg (Ne.symm hx), ih hxs, List.cons_append]

theorem delList_not_mem (k : Nat) (zs : List (Nat × V)) (h : ∀ z ∈ zs, z.1 ≠ k) : delList k zs = zs := by
  have := delList_append_right k zs [] h
  simpa [delList] using this

theorem delList_append_left (k : Nat) (xs zs : List (Nat × V)) (h : ∀ z ∈ zs, z.1 ≠ k) :
    delList k (xs ++ zs) = delList k xs ++ zs := by
  fun_induction delList k xs with
  | case1 => exact delList_not_mem k zs h
  | case2 b xs => simp [delList]
  | case3 a b xs hk ih => simp [delList, hk, ih]

theorem alookup_eq_none_iff {k : Nat} {xs : List (Nat × V)} : alookup k xs = none ↔ ∀ z ∈ xs, z.1 ≠ k := by
  fun_induction alookup k xs with
  | case1 => exact iff_of_true rfl nofun
  | case2 b xs => exact iff_of_false nofun (fun h => h _ List.mem_cons_self rfl)
  | case3 a b xs hk ih => rw [ih, List.forall_mem_cons]; exact (and_iff_right (Ne.symm hk)).symm

theorem alookup_append (k : Nat) (xs zs : List (Nat × V)) :
    alookup k (xs ++ zs) = (alookup k xs).or (alookup k zs) := by
  fun_induction alookup k xs with
  | case1 => rfl
  | case2 b xs => simp [alookup]
  | case3 a b xs hk ih => simp [alookup, hk, ih]

theorem mem_insList (k : Nat) (v : V) (xs : List (Nat × V)) (x : Nat × V) (h : x ∈ insList k v xs) :
    x = (k, v) ∨ x ∈ xs := by
  fun_induction insList k v xs with
  | case1 => exact Or.inl (List.mem_singleton.1 h)
  | case2 a b xs hk => exact List.mem_cons.1 h
  | case3 b xs _ => exact (List.mem_cons.1 h).imp_right (List.mem_cons_of_mem _)
  | case4 a b xs _ _ ih =>
    rcases List.mem_cons.1 h with h | h
    · exact Or.inr (h ▸ List.mem_cons_self)
    · exact (ih h).imp_right (List.mem_cons_of_mem _)

theorem delList_sublist (k : Nat) (xs : List (Nat × V)) : (delList k xs).Sublist xs := by
  fun_induction delList k xs with
  | case1 => exact .slnil
  | case2 b xs => exact List.sublist_cons_self _ _
  | case3 a b xs hk ih => exact ih.cons_cons _

theorem sorted_insList (k : Nat) (v : V) (xs : List (Nat × V)) (h : SortedKV xs) : SortedKV (insList k v xs) := by
  fun_induction insList k v xs with
  | case1 => exact List.pairwise_singleton _ _
  | case2 a b xs hk =>
    refine List.pairwise_cons.2 ⟨List.forall_mem_cons.2 ⟨hk, fun z hz => ?_⟩, h⟩
    exact Nat.lt_trans hk ((List.pairwise_cons.1 h).1 z hz)
  | case3 b xs _ => exact List.pairwise_cons.2 (List.pairwise_cons.1 h)
  | case4 a b xs hlt hne ih =>
    refine List.pairwise_cons.2 ⟨fun z hz => ?_, ih (List.pairwise_cons.1 h).2⟩
    rcases mem_insList k v xs z hz with hz | hz
    · exact hz ▸ (by omega : a < k)
    · exact (List.pairwise_cons.1 h).1 z hz

theorem sorted_delList (k : Nat) (xs : List (Nat × V)) (h : SortedKV xs) : SortedKV (delList k xs) :=
  h.sublist (delList_sublist k xs)

theorem alookup_insList (k' k : Nat) (v : V) (xs : List (Nat × V)) :
    alookup k' (insList k v xs) = if k' = k then some v else alookup k' xs := by
  fun_induction insList k v xs with
  | case1 => rfl
  | case2 a b xs hk => rfl
  | case3 b xs _ =>
    simp only [alookup]
    split <;> rfl
  | case4 a b xs _ hne ih =>
    simp only [alookup, ih]
    split
    · rename_i h3; subst h3
      rw [if_neg (by omega)]
    · rfl

/-- `h`: `delList` removes one pair, and keys are unique in a sorted list -/
theorem alookup_delList (k' k : Nat) (xs : List (Nat × V)) (h : SortedKV xs) :
    alookup k' (delList k xs) = if k' = k then none else alookup k' xs := by
  fun_induction delList k xs with
  | case1 => simp [alookup]
  | case2 b xs =>
    simp only [alookup]
    split
    · rename_i h2; subst h2
      exact alookup_eq_none_iff.2 (fun z hz => Nat.ne_of_gt ((List.pairwise_cons.1 h).1 z hz))
    · rfl
  | case3 a b xs hk ih =>
    simp only [alookup, ih (List.pairwise_cons.1 h).2]
    split
    · rename_i h2; subst h2
      rw [if_neg (Ne.symm hk)]
    · rfl

theorem mem_iff_alookup {xs : List (Nat × V)} (hs : SortedKV xs) (k : Nat) (v : V) :
    (k, v) ∈ xs ↔ alookup k xs = some v := by
  induction xs with
  | nil => simp [alookup]
  | cons y ys ih =>
    obtain ⟨y1, y2⟩ := y
    have hy : ∀ z ∈ ys, y1 < z.1 := (List.pairwise_cons.1 hs).1
    simp only [alookup, List.mem_cons]
    by_cases e : k = y1
    · subst e
      have : (k, v) ∉ ys := fun hm => Nat.lt_irrefl _ (hy _ hm)
      simp [this, eq_comm]
    · rw [if_neg e, ← ih (List.pairwise_cons.1 hs).2]
      simp [e]

theorem nodup_keys {xs : List (Nat × V)} (hs : SortedKV xs) : (xs.map (·.1)).Nodup :=
  (List.pairwise_map.2 hs).imp Nat.ne_of_lt

theorem toList_fixInsL (c : Color) (p : T V) (k : Nat) (v : V) (u : T V) :
    toList (fixInsL c p k v u) = toList p ++ (k, v) :: toList u := by
  fun_cases fixInsL c p k v u <;> simp

theorem toList_fixInsR (c : Color) (u : T V) (k : Nat) (v : V) (p : T V) :
    toList (fixInsR c u k v p) = toList u ++ (k, v) :: toList p := by
  fun_cases fixInsR c u k v p <;> simp

theorem ordered_node {c : Color} {l : T V} {k : Nat} {v : V} {r : T V} (h : Ordered (node c l k v r)) :
    Ordered l ∧ Ordered r ∧ (∀ x ∈ toList l, x.1 < k) ∧ (∀ y ∈ toList r, k < y.1) := by
  obtain ⟨hl, hr, hlr⟩ := List.pairwise_append.1 h
  obtain ⟨hk, hr⟩ := List.pairwise_cons.1 hr
  exact ⟨hl, hr, fun x hx => hlr x hx _ List.mem_cons_self, hk⟩

/-- the usual recursive statement of binary-search-tree order -/
def BST : T V → Prop
  | nil => True
  | node _ l k _ r => BST l ∧ BST r ∧ (∀ x ∈ toList l, x.1 < k) ∧ (∀ y ∈ toList r, k < y.1)

theorem toList_ins (k : Nat) (v : V) (t : T V) (h : Ordered t) :
    toList (ins k v t) = insList k v (toList t) := by
  fun_induction ins k v t with
  | case1 => rfl
  | case2 c l v' r =>
    rw [toList, toList, insList_pivot k v v' _ (ordered_node h).2.2.1, if_pos rfl]
  | case3 c l k' v' r hne hgt ih =>
    obtain ⟨-, hr, hlk, -⟩ := ordered_node h
    rw [toList_fixInsR, ih hr, toList, insList_pivot k v v' _ hlk, if_neg hne, if_pos hgt]
  | case4 c l k' v' r hne hgt ih =>
    obtain ⟨hl, -, hlk, -⟩ := ordered_node h
    rw [toList_fixInsL, ih hl, toList, insList_pivot k v v' _ hlk, if_neg hne, if_neg hgt]

theorem search_eq_alookup (k : Nat) (t : T V) (h : Ordered t) : search t k = alookup k (toList t) := by
  fun_induction search t k with
  | case1 => rfl
  | case2 c l v' r k =>
    obtain ⟨-, -, hlk, -⟩ := ordered_node h
    rw [toList, alookup_append, alookup_eq_none_iff.2 (fun x hx => Nat.ne_of_lt (hlk x hx))]
    simp [alookup]
  | case3 c l k' v' r k hne hgt ih =>
    obtain ⟨-, hr, hlk, -⟩ := ordered_node h
    rw [toList, alookup_append, alookup_eq_none_iff.2 (fun x hx => by have := hlk x hx; omega), ih hr]
    simp only [alookup, Option.none_or, if_neg hne]
  | case4 c l k' v' r k hne hgt ih =>
    obtain ⟨hl, -, -, hrk⟩ := ordered_node h
    rw [toList, alookup_append, ih hl, alookup_eq_none_iff.2 (List.forall_mem_cons.2 ⟨Ne.symm hne, fun z hz => ?_⟩),
      Option.or_none]
    have := hrk z hz; omega

theorem toList_setVal (k : Nat) (v : V) (t : T V) (h : Ordered t) {v0 : V} (hs : search t k = some v0) :
    toList (setVal k v t) = insList k v (toList t) := by
  fun_induction setVal k v t with
  | case1 => cases hs
  | case2 c l v' r =>
    rw [toList, toList, insList_pivot k v v' _ (ordered_node h).2.2.1, if_pos rfl]
  | case3 c l k' v' r hne hgt ih =>
    obtain ⟨-, hr, hlk, -⟩ := ordered_node h
    rw [search, if_neg hne, if_pos hgt] at hs
    rw [toList, toList, insList_pivot k v v' _ hlk, if_neg hne, if_pos hgt, ih hr hs]
  | case4 c l k' v' r hne hgt ih =>
    obtain ⟨hl, -, hlk, -⟩ := ordered_node h
    rw [search, if_neg hne, if_neg hgt] at hs
    rw [toList, toList, insList_pivot k v v' _ hlk, if_neg hne, if_neg hgt, ih hl hs]

theorem cbsert_eq (t : T V) (k : Nat) (f : Option V → Option V) :
    cbsert t k f = match f (search t k) with
      | none => (t, .failed)
      | some v' => upsert t k v' := by
  unfold cbsert upsert insertOp
  cases search t k with
  | none =>
    dsimp only
    cases f none <;> rfl
  | some v0 =>
    dsimp only
    cases f (some v0) <;> rfl

theorem del_gt {k k' : Nat} (c : Color) (l : T V) (v' : V) (r : T V) (hk : k > k') :
    del k (node c l k' v' r) = balR (del k r).2 c l k' v' (del k r).1 := by
  rw [del.eq_def]; simp only [if_neg (Nat.ne_of_gt hk), if_pos hk]

theorem del_lt {k k' : Nat} (c : Color) (l : T V) (v' : V) (r : T V) (hk : k < k') :
    del k (node c l k' v' r) = balL (del k l).2 c (del k l).1 k' v' r := by
  rw [del.eq_def]; simp only [if_neg (Nat.ne_of_lt hk), if_neg (Nat.lt_asymm hk)]

theorem toList_del (k : Nat) (t : T V) (h : Ordered t) :
    toList (del k t).1 = delList k (toList t) := by
  induction t with
  | nil => simp [del, delList]
  | node c l k' v' r ihl ihr =>
    obtain ⟨hl, hr, hlk, hrk⟩ := ordered_node h
    by_cases hk : k = k'
    · subst hk
      rw [toList_del_root]
      simp only [toList]
      rw [delList_append_right _ _ _ (fun x hx => by have := hlk x hx; omega)]
      simp [delList]
    · by_cases hk2 : k > k'
      · rw [del_gt c l v' r hk2, toList_balR, ihr hr]
        simp only [toList]
        rw [delList_append_right _ _ _ (fun x hx => by have := hlk x hx; omega)]
        simp only [delList]; rw [if_neg hk]
      · rw [del_lt c l v' r (by omega), toList_balL, ihl hl]
        simp only [toList]
        rw [delList_append_left]
        exact List.forall_mem_cons.2 ⟨(by omega : k' ≠ k), fun z hz => by have := hrk z hz; omega⟩

theorem clear_eq (t : T V) : clear t = nil := by
  fun_induction clear t with
  | case1 => rfl
  | case2 c l k v r ih => exact ih

theorem toList_delete (k : Nat) (t : T V) (h : Ordered t) :
    toList (delete t k).1 = delList k (toList t) ∧ (delete t k).2 = (alookup k (toList t)).isSome := by
  have e := search_eq_alookup k t h
  unfold delete
  cases hs : search t k with
  | none => simp [← e, hs, delList_not_mem k _ (alookup_eq_none_iff.1 (e ▸ hs))]
  | some v0 => simp [← e, hs, toList_del k t h]

end Hawk.Rbt
