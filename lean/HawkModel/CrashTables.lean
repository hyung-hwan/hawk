import HawkModel.Gen.ArgSites
import HawkModel.Gen.SwitchSites
import HawkModel.Gen.SubscriptSites
import HawkModel.Gen.RetrySites
/-!
# C01 — criteria over the structural tables, and why they suffice

* `ArgSites`  (extract/arg_sites.py): `hawk_rtx_getarg(rtx, I)` is the unchecked read `rtx->stack[base + 4 + I]`; the
  cells `base+4 .. base+4+nargs-1` belong to the call.  `argRowOk` compares the index with the number of arguments
  known to be present; `argRowOk_sound` derives `cell < end of the frame` from it.
* `SubscriptSites` (extract/subscript_sites.py): a subscript `a[i]` into an array of declared length N is in range when
  `i < N`; `subRowOk` is the per-class bound, `subRowOk_sound` derives `i < N` for every index value the class admits.
* `SwitchSites` (extract/switch_sites.py): a `switch` is modelled by its label set and its default flag; `switchRowOk`
  accepts a row with no enum value missing, with a `default:`, or with an error exit after the switch; `dispatch_total`
  says that in the first two cases every value of the enum takes an arm.
* `RetrySites` (extract/retry_sites.py): a retry loop gives up when its variable reaches the floor; `retryStep_decreases`
  is the measure argument for the recognised steps, `failingAttempts_le` the resulting bound on the attempts.
* `scanNum`: the digit loop of fmt.c `fmt_outv` with its overflow test; `scanNum_bounds` bounds the value by the number
  of digits scanned.
Core Lean only.
-/
namespace Hawk.Crash
open Hawk.Gen

/-! ## argument indices -/

/-- number of arguments known to be present at the site, counted from the site's symbolic offset `sym`:
    a literal index (`sym = ""`) may use the minimum of the function-table spec and the dominating comparison of the
    actual count; an index `K + x` only a dominating comparison with `… + x` -/
def argGuaranteed (r : ArgSites.Row) : Nat := if r.sym = "" then max r.specMin r.pathMin else r.pathMin

def argRowOk (r : ArgSites.Row) : Bool := decide (r.idx < argGuaranteed r)

/-- the stack cell read by `hawk_rtx_getarg(rtx, i)` and the first cell after the arguments of the current call
    (run.c: RTX_STACK_ARG = stack[stack_base + 4 + n]) -/
def argCell (base i : Nat) : Nat := base + 4 + i
def argEnd (base nargs : Nat) : Nat := base + 4 + nargs

/-- why the criterion suffices: `x` is the run-time value of the symbolic offset (0 for a literal index), `nargs` the
    actual argument count.  Given that the caller refused fewer than `specMin` arguments (parse.c / run.c check the
    spec before the builtin runs) and that the dominating comparison holds (`pathMin + x ≤ nargs`, when there is one),
    the cell read lies inside the frame of the call — for every frame base, count and offset. -/
theorem argRowOk_sound (r : ArgSites.Row) (h : argRowOk r = true) (base nargs x : Nat)
    (hspec : r.sym = "" → x = 0 ∧ r.specMin ≤ nargs) (hpath : 0 < r.pathMin → r.pathMin + x ≤ nargs) :
    argCell base (r.idx + x) < argEnd base nargs := by
  unfold argRowOk argGuaranteed at h
  unfold argCell argEnd
  have h' := of_decide_eq_true h
  by_cases hs : r.sym = ""
  · have := hspec hs
    rw [if_pos hs] at h'
    omega
  · rw [if_neg hs] at h'
    omega

/-! ## subscripts into arrays of declared length -/

/-- the class bound: a constant index is below the length; a 0/1 index needs two cells; an index dominated by
    `i < h` (or typed by an enum with h proper values) needs h ≤ length; an unclassified index is not accepted -/
def subRowOk (r : SubscriptSites.Row) : Bool :=
  match r.cls with
  | .lit => decide (r.h < r.len)
  | .bool => decide (2 ≤ r.len)
  | .below => decide (r.h ≤ r.len)
  | .enumT => decide (r.h ≤ r.len)
  | .open => false

/-- the index values a class admits at run time -/
def subAdmits (r : SubscriptSites.Row) (v : Nat) : Prop :=
  match r.cls with
  | .lit => v = r.h
  | .bool => v = 0 ∨ v = 1
  | .below => v < r.h
  | .enumT => v < r.h
  | .open => True

theorem subRowOk_sound (r : SubscriptSites.Row) (h : subRowOk r = true) (v : Nat) (hv : subAdmits r v) : v < r.len := by
  unfold subRowOk at h
  unfold subAdmits at hv
  cases hc : r.cls <;> simp only [hc, decide_eq_true_eq, Bool.false_eq_true] at h hv <;> omega

/-! ## fmt.c fmt_outv: scanning a width / precision (model of the REPAIRED digit loop, patches/c12-fmt-width-precision-overflow.diff) -/

def INT32_MAX : Nat := 2147483647

/-- `for (n = 0;; ...) { if (n > (INT_MAX - d) / 10) goto oops; n = n * 10 + d; ... }` over the digits scanned -/
def scanNum : List Nat → Nat → Option Nat
  | [], n => some n
  | d :: ds, n => if n > (INT32_MAX - d) / 10 then none else scanNum ds (n * 10 + d)

/-- the unrepaired loop: `int n; n = n * 10 + d` wraps around (two's complement) -/
def scanNumWrap : List Nat → Int → Int
  | [], n => n
  | d :: ds, n => scanNumWrap ds (((n * 10 + d + 2147483648) % 4294967296) - 2147483648)

theorem scanNum_bounds (ds : List Nat) (n m : Nat) (hn : n ≤ INT32_MAX) (hd : ∀ d ∈ ds, d < 10) (h : scanNum ds n = some m) :
    m ≤ INT32_MAX ∧ m < (n + 1) * 10 ^ ds.length := by
  fun_induction scanNum ds n with
  | case1 n => cases h; exact ⟨hn, by simp⟩
  | case2 d ds n hgt => cases h
  | case3 d ds n hle ih =>
    have hd10 : d < 10 := hd d (List.mem_cons_self ..)
    obtain ⟨h1, h2⟩ := ih (by unfold INT32_MAX at *; omega) (fun x hx => hd x (List.mem_cons_of_mem _ hx)) h
    refine ⟨h1, Nat.lt_of_lt_of_le h2 ?_⟩
    calc (n * 10 + d + 1) * 10 ^ ds.length ≤ ((n + 1) * 10) * 10 ^ ds.length := Nat.mul_le_mul_right _ (by omega)
      _ = (n + 1) * 10 ^ (d :: ds).length := by rw [List.length_cons, Nat.pow_succ', Nat.mul_assoc]

/-! ## retry-after-failure loops (arr.c hawk_arr_insert, ecs-imp.h resize_for_ncat) -/

/-- the step of the loop variable (a capacity) above its floor `m` -/
def retryStep : RetrySites.Shape → Nat → Nat → Nat
  | .halveAbove, m, c => m + (c - m) / 2
  | .decrement, _, c => c - 1
  | .other, _, c => c

def retryRowOk (r : RetrySites.Row) : Bool := r.shape != .other && r.giveup == "(" ++ r.var ++ "<=" ++ r.floor ++ ")"

theorem retryStep_decreases (s : RetrySites.Shape) (hs : s ≠ .other) (m c : Nat) (h : m < c) :
    retryStep s m c < c ∧ m ≤ retryStep s m c := by
  cases s with
  | other => exact absurd rfl hs
  | halveAbove | decrement => simp only [retryStep]; omega

/-- the loop when every attempt fails: `do { attempt; if (c <= m) give up; c = step c; } while (1)` — the number of
    attempts made before it gives up.  Total by the measure `c - m` (no fuel). -/
def failingAttempts (s : RetrySites.Shape) (hs : s ≠ .other) (m c : Nat) : Nat :=
  if c ≤ m then 1 else 1 + failingAttempts s hs m (retryStep s m c)
termination_by c - m
decreasing_by
  have := retryStep_decreases s hs m c (by omega)
  omega

theorem failingAttempts_le (s : RetrySites.Shape) (hs : s ≠ .other) (m c : Nat) : failingAttempts s hs m c ≤ c - m + 1 := by
  fun_induction failingAttempts s hs m c with
  | case1 c h => omega
  | case2 c h ih =>
    have := retryStep_decreases s hs m c (by omega)
    omega

/-- the step that rounds the half up has a fixed point right above the floor: the give-up test is never reached from it -/
theorem roundUp_step_stuck (m : Nat) : m + ((m + 1) - m + 1) / 2 = m + 1 ∧ ¬ (m + 1 ≤ m) := by
  omega

/-! ## switches over enumerators -/

/-- a switch accepted by the criterion: every value of the enum has a label (and no label is a foreign integer), or
    there is a `default:`, or the statements after the switch are an error exit -/
def switchRowOk (r : SwitchSites.Row) : Bool :=
  (r.plain == 0 && r.missing == 0) || r.hasDefault || r.after == .error

/-- model of the dispatch: the arm taken for value `v` -/
inductive Arm where
  | label (v : Nat) | dflt | falloff
  deriving DecidableEq, Repr

def dispatch (labels : List Nat) (hasDefault : Bool) (v : Nat) : Arm :=
  if labels.contains v then .label v else if hasDefault then .dflt else .falloff

/-- what the translator counts as `missing` -/
def missingOf (dom labels : List Nat) : Nat := (dom.filter fun v => !labels.contains v).length

theorem dispatch_total (dom labels : List Nat) (hasDefault : Bool)
    (h : missingOf dom labels = 0 ∨ hasDefault = true) : ∀ v ∈ dom, dispatch labels hasDefault v ≠ .falloff := by
  intro v hv
  unfold dispatch
  rcases h with h | h
  · have := List.filter_eq_nil_iff.mp (List.eq_nil_of_length_eq_zero h) v hv
    simp at this
    simp [this]
  · split <;> simp

/-- the criterion is not vacuous: a value that is missing does fall off a switch without default -/
theorem dispatch_falls_off (labels : List Nat) (v : Nat) (h : labels.contains v = false) : dispatch labels false v = .falloff := by
  unfold dispatch
  rw [h]
  rfl

end Hawk.Crash
