import HawkModel.SedParseProgress
/-!
  The progress guards of `compLoop` never fire and no reader produces `PErr.internal`: the error half of `compLoop_reads`
  (HawkModel/SedParseProgress.lean).
-/
namespace Hawk.Sed

theorem compLoop_no_internal (tr : Traits) (s : Str) (lvl : Nat) (labs : List Str) :
    compLoop tr s lvl labs = .error .internal → False :=
  fun h => (compLoop_reads tr s lvl labs).error h rfl

end Hawk.Sed
