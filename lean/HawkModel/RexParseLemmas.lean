import HawkModel.RexParse
import HawkModel.RexLemmas
/-! A tree of `RexParse.lean` means what its `Re` means (`toRe_denotation`).  The work is at the literal leaves
(`litRe_cls`): `Char` tests and case maps are read on code points, a named class under REG_ICASE is the class `icClose`,
and a negated-class leaf needs the complement of its code range.  From `nodeAccepts` on: the `upper | lower` union `tre_parse`
builds for a literal under REG_ICASE against the specification's `chrEq`; by code point (`fold_toNat`) that is arithmetic. -/
namespace Hawk.Rex.Tre
open Hawk.Rex

theorem ofNat_toNat_small (n : Nat) (h : n < 0xD800) : (Char.ofNat n).toNat = n := by
  have hv : n.isValidChar := Or.inl h
  simp [Char.ofNat, hv, Char.ofNatAux, Char.toNat]

theorem inRange_nat (a b d : Char) : inRange a b d = (decide (a.toNat ≤ d.toNat) && decide (d.toNat ≤ b.toNat)) := by
  unfold inRange
  simp only [UInt32.le_iff_toNat_le]
  rfl

theorem char_toNat_le_max (d : Char) : d.toNat ≤ 1114111 := by
  have hv := d.valid
  simp only [UInt32.isValidChar, Nat.isValidChar] at hv
  have : d.val.toNat = d.toNat := rfl
  omega

theorem ofNat_max_toNat : (Char.ofNat 0x10FFFF).toNat = 1114111 := by decide

theorem inRange_full (d : Char) : inRange (Char.ofNat 0) (Char.ofNat 0x10FFFF) d = true := by
  simp [inRange_nat, ofNat_toNat_small 0, ofNat_max_toNat, char_toNat_le_max]

theorem beq_toNat (c d : Char) : (c == d) = decide (c.toNat = d.toNat) := by
  rw [Bool.eq_iff_iff, beq_iff_eq, decide_eq_true_eq, Char.toNat_inj]

theorem isUpper_toNat (d : Char) : d.isUpper = isUpperN d.toNat := by
  simp only [Char.isUpper, isUpperN, ge_iff_le, UInt32.le_iff_toNat_le, Bool.decide_and]
  rfl

theorem isLower_toNat (d : Char) : d.isLower = isLowerN d.toNat := by
  simp only [Char.isLower, isLowerN, ge_iff_le, UInt32.le_iff_toNat_le]
  rfl

theorem fold_of_not_upper {d : Char} (h : d.isUpper = false) : fold d = d :=
  dif_neg (of_decide_eq_false h)

theorem upper_of_not_lower {d : Char} (h : d.isLower = false) : upper d = d :=
  dif_neg fun hc => by
    rw [Char.isLower, decide_eq_true hc.1, decide_eq_true hc.2] at h
    cases h

theorem fold_toNat (d : Char) : (fold d).toNat = toLowerN d.toNat := by
  rw [toLowerN, ← isUpper_toNat]
  cases h : d.isUpper with
  | false => rw [fold_of_not_upper h]; rfl
  | true =>
    have hc := of_decide_eq_true h
    have : d.val.toNat ≤ 90 := UInt32.le_iff_toNat_le.1 hc.2
    rw [fold, Char.toLower, dif_pos hc]
    show (d.val + 32).toNat = d.val.toNat + 32
    rw [UInt32.toNat_add]
    have : (32 : UInt32).toNat = 32 := rfl
    omega

theorem classHas_letter (k : CClass) : ∀ n, n < 26 →
    classHas true k (Char.ofNat (n + 65)) = (icClose k).has (Char.ofNat (n + 65)) ∧
    classHas true k (Char.ofNat (n + 97)) = (icClose k).has (Char.ofNat (n + 97)) := by
  cases k <;> decide +kernel

/-- the letters by evaluation (`classHas_letter`); outside the letters both case maps are the identity and `upper`, `lower`,
`alpha` do not hold -/
theorem classHas_icClose (k : CClass) (d : Char) : classHas true k d = (icClose k).has d := by
  by_cases hU : d.isUpper = true
  · rw [isUpper_toNat, isUpperN, Bool.and_eq_true, decide_eq_true_eq, decide_eq_true_eq] at hU
    have := (classHas_letter k (d.toNat - 65) (by omega)).1
    rwa [show d.toNat - 65 + 65 = d.toNat by omega, Char.ofNat_toNat] at this
  by_cases hL : d.isLower = true
  · rw [isLower_toNat, isLowerN, Bool.and_eq_true, decide_eq_true_eq, decide_eq_true_eq] at hL
    have := (classHas_letter k (d.toNat - 97) (by omega)).2
    rwa [show d.toNat - 97 + 97 = d.toNat by omega, Char.ofNat_toNat] at this
  rw [Bool.not_eq_true] at hU hL
  rw [classHas, fold_of_not_upper hU, upper_of_not_lower hL]
  cases k <;> simp [icClose, CClass.has, Char.isAlpha, hU, hL]

theorem nm_has (ic : Bool) (k : CClass) (d : Char) :
    itemHas false (.named (if ic then icClose k else k)) d = classHas ic k d := by
  cases ic
  · simp [itemHas, classHas]
  · rw [classHas_icClose]; simp [itemHas]

theorem complRanges_has (l : Lit) (hl : l.lowCodes = true) (d : Char) :
    (!(complRanges l).any (fun it => itemHas false it d)) = inRange (Char.ofNat l.lo) (hiChar l.hi) d := by
  obtain ⟨lo, hi, pos, cls, neg⟩ := l
  have hmax := ofNat_max_toNat
  have h0 := ofNat_toNat_small 0 (by decide)
  have hd := char_toNat_le_max d
  simp only [Lit.lowCodes, Bool.and_eq_true, decide_eq_true_eq] at hl
  have e1 := ofNat_toNat_small lo hl.1
  have e2 := ofNat_toNat_small (lo - 1) (by omega)
  have below : (if lo = 0 then [] else [ClsItem.range (Char.ofNat 0) (Char.ofNat (lo - 1))]).any (fun it => itemHas false it d)
      = decide (d.toNat < lo) := by
    split
    · simp [*]
    · simp [itemHas, inRange_nat, h0, e2]; omega
  simp only [complRanges, List.any_append, below, inRange_nat, e1]
  rw [Bool.eq_iff_iff]
  cases hi with
  | none => simp [hiChar, hmax, hd]
  | some h =>
    have e3 := ofNat_toNat_small h (by have := hl.2; simp at this; omega)
    have e4 := ofNat_toNat_small (h + 1) (by have := hl.2; simp at this; omega)
    simp [hiChar, itemHas, inRange_nat, hmax, e3, e4]
    omega

theorem any_nm (ic : Bool) (d : Char) : ∀ (neg : List CClass),
    (neg.map fun k => ClsItem.named (if ic then icClose k else k)).any (fun it => itemHas false it d) = neg.any (fun k => classHas ic k d)
  | [] => rfl
  | k :: rest => by simp only [List.map_cons, List.any_cons, nm_has, any_nm ic d rest]

theorem clsHas_single_range (lo hi d : Char) : clsHas false false [ClsItem.range lo hi] d = inRange lo hi d := by
  simp [clsHas, itemHas]

theorem clsHas_single_named (k : CClass) (d : Char) : clsHas false false [ClsItem.named k] d = k.has d := by
  simp [clsHas, itemHas]

/-- `h` is the literal clause of `Ast.plain` -/
theorem litRe_cls {ic : Bool} {l : Lit}
    (h : (if l.neg.isEmpty then l.cls.isNone || (l.lo == 0 && l.hi.isNone) else l.cls.isNone && l.lowCodes) = true) :
    ∃ ng items, litRe ic l = .cls ng items ∧ ∀ d, clsHas false ng items d = l.has ic d := by
  by_cases hn : l.neg.isEmpty = true
  · rw [if_pos hn] at h
    obtain ⟨lo, hi, pos, cls, neg⟩ := l
    simp only [List.isEmpty_iff] at hn
    subst hn
    cases cls with
    | none =>
      refine ⟨false, [ClsItem.range (Char.ofNat lo) (hiChar hi)], by simp [litRe], fun d => ?_⟩
      simp [clsHas_single_range, Lit.has]
    | some k =>
      simp only [Option.isNone_some, Bool.false_or, Bool.and_eq_true, beq_iff_eq, Option.isNone_iff_eq_none] at h
      obtain ⟨hlo, hhi⟩ := h
      subst hlo; subst hhi
      refine ⟨false, [ClsItem.named (if ic then icClose k else k)], by simp [litRe], fun d => ?_⟩
      simp only [clsHas, List.any_cons, List.any_nil, Bool.or_false, nm_has, Lit.has, hiChar, inRange_full, List.all_nil,
        Bool.true_and, Bool.and_true]
      cases classHas ic k d <;> rfl
  · rw [if_neg hn] at h
    simp only [Bool.and_eq_true, Option.isNone_iff_eq_none] at h
    obtain ⟨hc, hl⟩ := h
    refine ⟨true, l.neg.map (fun k => ClsItem.named (if ic then icClose k else k)) ++ complRanges l, by simp [litRe, hn], fun d => ?_⟩
    have hcr := complRanges_has l hl d
    simp only [clsHas, List.any_append, any_nm, Lit.has, hc]
    rw [← hcr]
    cases hA : l.neg.any (fun k => classHas ic k d) <;> cases hB : (complRanges l).any (fun it => itemHas false it d) <;>
      simp [List.all_eq_not_any_not, hA]

theorem toRe_denotation {ic nb ne : Bool} {s : List Char} (a : Ast) (h : a.plain ic = true) :
    ∃ r, toRe ic a = some r ∧ ∀ i j, AMatches ic nb ne s a i j ↔ Matches ⟨false, nb, ne⟩ s r i j := by
  induction a with
  | leaf l _ _ =>
    cases l with
    | empty => exact ⟨.emp, rfl, fun i j => by simp [AMatches, Matches]⟩
    | asrt c =>
      simp only [Ast.plain] at h
      cases hc : asrtRe c with
      | none => simp [hc] at h
      | some r => exact ⟨r, by simp [toRe, hc], fun i j => by simp [AMatches, hc]⟩
    | backref _ _ => simp [Ast.plain] at h
    | lit l =>
      simp only [Ast.plain] at h
      obtain ⟨ng, items, hit, hx⟩ := litRe_cls (ic := ic) h
      refine ⟨litRe ic l, by simp [toRe], fun i j => ?_⟩
      rw [hit]
      simp only [AMatches, Matches, hx]
  | cat a b _ _ iha ihb | union a b _ _ iha ihb =>
    simp only [Ast.plain, Bool.and_eq_true] at h
    obtain ⟨ra, ha, hA⟩ := iha h.1
    obtain ⟨rb, hb, hB⟩ := ihb h.2
    simp only [toRe, ha, hb, Option.some.injEq, exists_eq_left', AMatches, Matches, hA, hB, implies_true]
  | iter a mn mx _ _ _ ih =>
    obtain ⟨ra, ha, hA⟩ := ih h
    simp only [toRe, ha, Option.some.injEq, exists_eq_left', AMatches, Matches, IterN.congr hA, implies_true]

theorem AMatches.bounds {ic nb ne : Bool} {s : List Char} : ∀ (a : Ast) {i j : Nat},
    AMatches ic nb ne s a i j → i ≤ j ∧ j ≤ s.length := by
  intro a
  induction a with
  | leaf l _ _ =>
    intro i j h
    cases l with
    | empty => simp only [AMatches] at h; omega
    | asrt c =>
      simp only [AMatches] at h
      split at h
      · exact Matches.bounds h
      · cases h
    | backref _ _ => cases h
    | lit l =>
      obtain ⟨hj, d, hd, _⟩ := h
      have := (List.getElem?_eq_some_iff.1 hd).1
      omega
  | cat a b _ _ iha ihb =>
    rintro i j ⟨k, h1, h2⟩
    have := iha h1; have := ihb h2; omega
  | union a b _ _ iha ihb =>
    rintro i j (h | h)
    · exact iha h
    · exact ihb h
  | iter a mn mx _ _ _ ih =>
    rintro i j ⟨hi, k, _, _, hk⟩
    exact IterN.bounds (fun _ _ => ih) hk hi

theorem mark_fields (id : Nat) (r : Ast) : (mark id r).sub = some id ∧ (mark id r).nsub = r.nsub + 1 := by
  unfold mark
  cases r <;> rename_i s n <;> cases s <;> exact ⟨rfl, rfl⟩

theorem AMatches_setSub {ic nb ne : Bool} {s : List Char} (a : Ast) (sb : Option Nat) (n : Nat) (i j : Nat) :
    AMatches ic nb ne s (a.setSub sb n) i j ↔ AMatches ic nb ne s a i j := by
  cases a with
  | leaf l _ _ => cases l <;> rfl
  | _ => rfl

theorem mark_matches {ic nb ne : Bool} {s : List Char} (id : Nat) (r : Ast) (i j : Nat) :
    AMatches ic nb ne s (mark id r) i j ↔ AMatches ic nb ne s r i j := by
  unfold mark
  cases hs : r.sub with
  | none => simp only [AMatches_setSub]
  | some k =>
    simp only [AMatches_setSub, AMatches, mkEmpty]
    constructor
    · rintro ⟨k, ⟨rfl, _⟩, h⟩; exact h
    · intro h
      have hb := AMatches.bounds r h
      exact ⟨i, ⟨rfl, Nat.le_trans hb.1 hb.2⟩, h⟩

/-- the characters a literal leaf / a union of literal leaves accepts -/
def nodeAccepts (ic : Bool) : Ast → Char → Bool
  | .leaf (.lit l) _ _, d => l.has ic d
  | .union a b _ _, d => nodeAccepts ic a d || nodeAccepts ic b d
  | _, _ => false

theorem pointLit_accepts (ic : Bool) (k p : Nat) (d : Char) (hk : (Char.ofNat k).toNat = k) :
    nodeAccepts ic (mkLit k (some k) p) d = decide (d.toNat = k) := by
  simp only [nodeAccepts, mkLit, Lit.has, hiChar, inRange_nat, hk, List.all_nil, Bool.and_true]
  rw [Bool.eq_iff_iff]
  simp only [Bool.and_eq_true, decide_eq_true_eq]
  omega

theorem letter_forms (n m : Nat) : isUpperN n = true ∨ isLowerN n = true →
    toUpperN n < 128 ∧ toLowerN n < 128 ∧ (toLowerN n = toLowerN m ↔ m = toUpperN n ∨ m = toLowerN n) := by
  simp only [toLowerN, toUpperN, isUpperN, isLowerN, Bool.and_eq_true, decide_eq_true_eq]
  rintro (h | h)
  · rw [if_pos h, if_neg (show ¬(97 ≤ n ∧ n ≤ 122) by omega)]; split <;> omega
  · rw [if_neg (show ¬(65 ≤ n ∧ n ≤ 90) by omega), if_pos h]; split <;> omega

theorem toLowerN_eq_other (n m : Nat) : ¬ (isUpperN n = true ∨ isLowerN n = true) →
    (toLowerN n = toLowerN m ↔ m = n) := by
  simp only [toLowerN, isUpperN, isLowerN, Bool.and_eq_true, decide_eq_true_eq]
  intro h
  rw [if_neg (show ¬(65 ≤ n ∧ n ≤ 90) by omega)]
  split <;> omega

theorem literalNode_accepts (cf : CF) (c d : Char) (pos : Nat) :
    nodeAccepts cf.icase (literalNode cf c.toNat pos) d = chrEq cf.icase c d := by
  unfold literalNode chrEq
  split
  · rename_i h
    simp only [Bool.and_eq_true, Bool.or_eq_true] at h
    obtain ⟨hU, hL, hfold⟩ := letter_forms c.toNat d.toNat h.2
    rw [if_pos h.1, beq_toNat, fold_toNat, fold_toNat, mkUnion, nodeAccepts,
      pointLit_accepts _ _ _ _ (ofNat_toNat_small _ (by omega)), pointLit_accepts _ _ _ _ (ofNat_toNat_small _ (by omega)),
      Bool.eq_iff_iff]
    simp only [Bool.or_eq_true, decide_eq_true_eq]
    exact hfold.symm
  · rename_i h
    simp only [Bool.and_eq_true, Bool.or_eq_true, not_and] at h
    rw [pointLit_accepts _ _ _ _ (by rw [Char.ofNat_toNat]), Bool.eq_iff_iff]
    split
    · rename_i hi
      simp only [beq_toNat, fold_toNat, decide_eq_true_eq]
      exact (toLowerN_eq_other _ _ (h hi)).symm
    · simp only [beq_toNat, decide_eq_true_eq]
      exact eq_comm

theorem literalNode_matches (cf : CF) (nb ne : Bool) (s : List Char) (c : Char) (pos i j : Nat) :
    AMatches cf.icase nb ne s (literalNode cf c.toNat pos) i j ↔ Matches ⟨cf.icase, nb, ne⟩ s (.chr c) i j := by
  have shape : AMatches cf.icase nb ne s (literalNode cf c.toNat pos) i j ↔
      (j = i + 1 ∧ ∃ d, s[i]? = some d ∧ nodeAccepts cf.icase (literalNode cf c.toNat pos) d = true) := by
    unfold literalNode
    split
    · simp only [mkUnion, mkLit, AMatches, nodeAccepts, Bool.or_eq_true, and_or_left, exists_or]
    · simp only [mkLit, AMatches, nodeAccepts]
  rw [shape]
  simp only [Matches, literalNode_accepts]

end Hawk.Rex.Tre
