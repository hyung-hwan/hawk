import HawkModel.Expr
/-! Lemmas for property C08: the constant folder against the operator table, the equations of `eval`; one run doing what
another does (`Lift`), references accessed alike in two storages (`Access`), and `eval` as a congruence for both (`ESim.*`):
renamed references (`eval_sim_on`) and unassigned slots written as literals (`substLit_sim`) are its two uses; the laws of
the run-time environment that make it simulate the bare slots (`access_placed`), and the by-reference call. -/
set_option linter.unusedSectionVars false
namespace Hawk.Expr
open FloatOps
variable {F : Type} [FloatOps F]

@[simp] theorem ok_bind {α β : Type} (a : α) (f : α → Except Err β) : (Except.ok a >>= f) = f a := rfl
@[simp] theorem error_bind {α β : Type} (e : Err) (f : α → Except Err β) : ((Except.error e : Except Err α) >>= f) = .error e := rfl
@[simp] theorem map_ok {α β : Type} (f : α → β) (a : α) : f <$> (Except.ok a : Except Err α) = .ok (f a) := rfl
@[simp] theorem map_error {α β : Type} (f : α → β) (e : Err) : f <$> (Except.error e : Except Err α) = .error e := rfl
@[simp] theorem pure_eq_ok {α : Type} (a : α) : (pure a : Except Err α) = .ok a := rfl
@[simp] theorem emap_ok {α β : Type} (f : α → β) (a : α) : (Except.ok a : Except Err α).map f = .ok (f a) := rfl
@[simp] theorem emap_error {α β : Type} (f : α → β) (e : Err) : (Except.error e : Except Err α).map f = .error e := rfl

/-! ## the machine division is only reached inside its domain -/

theorem cdiv_eq {a b : Int} (h : b ≠ 0) (h1 : ¬(a = INT_MIN ∧ b = -1)) : cdiv a b = some (a.tdiv b) :=
  if_neg (not_or.mpr ⟨h, h1⟩)

theorem cmod_eq {a b : Int} (h : b ≠ 0) (h1 : ¬(a = INT_MIN ∧ b = -1)) : cmod a b = some (a.tmod b) :=
  if_neg (not_or.mpr ⟨h, h1⟩)

theorem divIntInt_ne_error (l1 l2 : Int) {e : Err} (he : e ≠ .divby0) :
    (divIntInt l1 l2 : Except Err (Val F)) ≠ .error e := by
  unfold divIntInt
  by_cases hb : l2 = 0
  · simp [hb, he.symm]
  · by_cases h1 : l1 = INT_MIN ∧ l2 = -1
    · simp [h1]
    · by_cases hm : l1.tmod l2 = 0 <;> simp [hb, h1, hm, cmod_eq hb h1, cdiv_eq hb h1, ofOpt]

theorem idivIntInt_ne_error (l1 l2 : Int) {e : Err} (he : e ≠ .divby0) :
    (idivIntInt l1 l2 : Except Err (Val F)) ≠ .error e := by
  unfold idivIntInt
  by_cases hb : l2 = 0
  · simp [hb, he.symm]
  · by_cases h1 : l2 = -1
    · simp [h1]
    · simp [hb, h1, cdiv_eq hb (fun h => h1 h.2), ofOpt]

theorem modIntInt_ne_error (l1 l2 : Int) {e : Err} (he : e ≠ .divby0) :
    (modIntInt l1 l2 : Except Err (Val F)) ≠ .error e := by
  unfold modIntInt
  by_cases hb : l2 = 0
  · simp [hb, he.symm]
  · by_cases h1 : l2 = -1
    · simp [h1]
    · simp [hb, h1, cmod_eq hb (fun h => h1 h.2), ofOpt]

theorem evalBinop_ne_error (X : Ext F) (op : BinOp) (l r : Val F) {e : Err} (he : e ≠ .divby0) (hi : e ≠ .intern)
    (hcmp : ∀ c, X.cmp c l r ≠ .error e) : evalBinop X op l r ≠ .error e := by
  cases op <;> simp only [evalBinop]
  case eq | ne | gt | ge | lt | le =>
    intro h
    cases hx : X.cmp _ l r with
    | ok b => rw [hx] at h; cases h
    | error e => rw [hx] at h; injection h with h; exact hcmp _ (hx.trans (congrArg _ h))
  -- every branch of the arithmetic functions returns a value, `divby0`, or the result of one of the guarded divisions
  case plus | minus | mul | exp | concat =>
    simp only [evalPlus, evalMinus, evalMul, evalExp, evalConcat]
    (repeat' split) <;> simp [he.symm]
  case div | idiv | mod =>
    simp only [evalDiv, evalIdiv, evalMod]
    split <;> simp [divIntInt_ne_error, idivIntInt_ne_error, modIntInt_ne_error, he]
  all_goals simp [hi.symm]

def FoldSpec (op : BinOp) (a b : LitNode F) : FoldResult F → Prop
  | .int v => ∀ X : Ext F, evalBinop X op a.val b.val = .ok (.int v)
  | .flt r => ∀ X : Ext F, evalBinop X op a.val b.val = .ok (.flt r)
  | .error e => e = .divby0 ∧ ∀ X : Ext F, evalBinop X op a.val b.val = .error e
  | .nofold => True
  | .crash => False

/-- Outside integer `/`, `\`, `%` the folder and the table compute the same term; in those three both run through the
same guards, under which `cdiv` and `cmod` have a value. -/
theorem foldBinop_spec (op : BinOp) (a b : LitNode F) : FoldSpec op a b (foldBinop op a b) := by
  rcases a with ⟨ta, ia, fa⟩
  rcases b with ⟨tb, ib, fb⟩
  cases ta <;> cases tb <;> cases op
  case int.int.div =>
    by_cases hb : ib = 0
    · simp [foldBinop, FoldSpec, hb, evalBinop, evalDiv, toNum, LitNode.val, divIntInt]
    · by_cases h1 : ia = INT_MIN ∧ ib = -1
      · simp [foldBinop, FoldSpec, h1, evalBinop, evalDiv, toNum, LitNode.val, divIntInt]
      · by_cases hm : ia.tmod ib = 0 <;>
          simp [foldBinop, FoldSpec, hb, h1, hm, cmod_eq hb h1, cdiv_eq hb h1, evalBinop, evalDiv, toNum, LitNode.val,
            divIntInt, ofOpt]
  case int.int.idiv =>
    by_cases hb : ib = 0
    · simp [foldBinop, FoldSpec, hb, evalBinop, evalIdiv, toNum, LitNode.val, idivIntInt]
    · by_cases h1 : ib = -1
      · simp [foldBinop, FoldSpec, h1, evalBinop, evalIdiv, toNum, LitNode.val, idivIntInt]
      · simp [foldBinop, FoldSpec, hb, h1, cdiv_eq hb (fun h => h1 h.2), evalBinop, evalIdiv, toNum, LitNode.val,
          idivIntInt, ofOpt]
  case int.int.mod =>
    by_cases hb : ib = 0
    · simp [foldBinop, FoldSpec, hb, evalBinop, evalMod, toNum, LitNode.val, modIntInt]
    · by_cases h1 : ib = -1
      · simp [foldBinop, FoldSpec, h1, evalBinop, evalMod, toNum, LitNode.val, modIntInt]
      · simp [foldBinop, FoldSpec, hb, h1, cmod_eq hb (fun h => h1 h.2), evalBinop, evalMod, toNum, LitNode.val,
          modIntInt, ofOpt]
  all_goals first | exact trivial | exact fun _ => rfl

theorem foldBinop_ne_crash (op : BinOp) (a b : LitNode F) : foldBinop op a b ≠ .crash := fun h => by
  have hs := foldBinop_spec op a b
  rwa [h] at hs

def FoldResult.value? : FoldResult F → Option (Val F)
  | .int l => some (.int l)
  | .flt r => some (.flt r)
  | _ => none

theorem foldUnary_spec (X : Ext F) (op : UnrOp) (a : LitNode F) :
    ∃ v, (foldUnary op a).value? = some v ∧ evalUnary X op a.val = .ok v := by
  rcases a with ⟨ta, ia, fa⟩
  cases ta <;> cases op <;> simp [foldUnary, FoldResult.value?, evalUnary, LitNode.val, toNum, toInt]

/-! ## the equations of `eval` at a binary operator and at an assignment, uniform in the operator -/

variable {S R : Type}

/-- the result of `eval_binop_land` / `eval_binop_lor` when the left operand alone decides it -/
def shortCircuit (op : BinOp) (lv : Val F) : Option (Val F) :=
  match op with
  | .land => if !(toBool lv) then some (.int 0) else none
  | .lor => if toBool lv then some (.int 1) else none
  | _ => none

/-- what `eval_binary` computes once both operands have a value -/
def applyBin (X : Ext F) (op : BinOp) (lv rv : Val F) : Except Err (Val F) :=
  match op with
  | .land | .lor => .ok (boolVal (toBool rv))
  | .ma => do let m ← X.matchv lv rv; pure (boolVal m)
  | .nm => do let m ← X.matchv lv rv; pure (boolVal (!m))
  | _ => evalBinop X op lv rv

theorem eval_bin (X : Ext F) (st : Storage S R F) (op : BinOp) (l r : Expr R F) (s : S) :
    eval X st (.bin op l r) s =
      (if op = .inop then .error .notmodelled
       else do
        let (lv, s1) ← eval X st l s
        match shortCircuit op lv with
        | some v => pure (v, s1)
        | none => do
          let (rv, s2) ← eval X st r s1
          let res ← applyBin X op lv rv
          pure (res, s2)) := by
  cases op
  -- `rfl`, except that `&&`, `||` test the left value under the `match` and the match operators bind inside `applyBin`
  case land | lor =>
    simp only [eval, shortCircuit, applyBin]
    refine bind_congr fun ⟨lv, s1⟩ => ?_
    cases toBool lv <;> rfl
  case ma | nm =>
    simp only [eval, shortCircuit, applyBin]
    refine bind_congr fun ⟨lv, s1⟩ => bind_congr fun ⟨rv, s2⟩ => ?_
    cases X.matchv lv rv <;> rfl
  all_goals rfl

theorem eval_asg (X : Ext F) (st : Storage S R F) (op : AssOp) (x : R) (y : Expr R F) (s : S) :
    eval X st (.asg op x y) s =
      (do
        let (val, s1) ← eval X st y s
        if op = .none then do
          let s2 ← st.write x val s1
          pure (val, s2)
        else do
          let (val2, s2) ← st.read x s1
          let tmp ← evalBinop X (assopToBinop op) val2 val
          let s3 ← st.write x tmp s2
          pure (tmp, s3)) := by
  cases op <;> rfl

/-- an operator with an entry in `binop_func[]` takes the default branch of `eval_binary` -/
theorem table_branch {op : BinOp} (h : op.cfun.isSome = true) :
    op ≠ .inop ∧ (∀ lv : Val F, shortCircuit op lv = none) ∧
      ∀ (X : Ext F) lv rv, applyBin X op lv rv = evalBinop X op lv rv := by
  cases op <;> first | exact ⟨by decide, fun _ => rfl, fun _ _ _ => rfl⟩ | cases h

/-- `evalBinop` is `.error .intern` at each operator without a table entry (`cfun = none`, handled on the nodes by `eval`):
any other result shows that the operator has one -/
theorem cfun_of_ne_intern {X : Ext F} {op : BinOp} {lv rv : Val F} (h : evalBinop X op lv rv ≠ .error .intern) :
    op.cfun.isSome = true := by
  cases op <;> first | rfl | exact absurd rfl h

theorem cfun_assopToBinop (op : AssOp) : (assopToBinop op).cfun.isSome = true := by
  cases op <;> rfl

theorem eval_bin_const (X : Ext F) (st : Storage S R F) (op : BinOp) (l r : Expr R F) (lv rv : Val F) (s : S)
    (hl : eval X st l s = .ok (lv, s)) (hr : eval X st r s = .ok (rv, s))
    (h : evalBinop X op lv rv ≠ .error .intern) :
    eval X st (.bin op l r) s = (do let res ← evalBinop X op lv rv; pure (res, s)) := by
  obtain ⟨h1, h2, h3⟩ := table_branch (F := F) (cfun_of_ne_intern h)
  simp only [eval_bin, if_neg h1, hl, ok_bind, h2, hr, h3]

theorem eval_bin_congr (X : Ext F) (st : Storage S R F) (op : BinOp) (l l' r r' : Expr R F) (s : S)
    (hl : eval X st l' s = eval X st l s)
    (hr : ∀ lv s1, eval X st l s = .ok (lv, s1) → eval X st r' s1 = eval X st r s1) :
    eval X st (.bin op l' r') s = eval X st (.bin op l r) s := by
  rw [eval_bin, eval_bin, hl]
  cases h : eval X st l s with
  | error e => rfl
  | ok p =>
    obtain ⟨lv, s1⟩ := p
    simp only [ok_bind, hr lv s1 h]

theorem foldBinNode_sound (X : Ext F) (st : Storage S R F) (op : BinOp) (l r e' : Expr R F)
    (h : foldBinNode op l r = .ok e') (s : S) : eval X st e' s = eval X st (.bin op l r) s := by
  unfold foldBinNode at h
  split at h
  · rename_i a b
    split at h
    · have hs := foldBinop_spec op a b
      -- a folded literal is the table's result on the two literals, hence what the default branch returns
      have lit : ∀ v : Val F, evalBinop X op a.val b.val = .ok v →
          eval X st (.bin op (.lit a) (.lit b)) s = .ok (v, s) := fun v hv => by
        rw [eval_bin_const X st op _ _ a.val b.val s rfl rfl (by rw [hv]; nofun), hv]; rfl
      generalize foldBinop op a b = res at h hs
      cases res with
      | nofold => injection h with h; rw [← h]
      | int v | flt v => injection h with h; subst h; exact (lit _ (hs X)).symm
      | _ => cases h
    · injection h with h; rw [← h]
  · injection h with h; rw [← h]

theorem foldUnNode_sound (X : Ext F) (st : Storage S R F) (op : UnrOp) (e e' : Expr R F)
    (h : foldUnNode op e = .ok e') (s : S) : eval X st e' s = eval X st (.un op e) s := by
  unfold foldUnNode at h
  split at h
  · rename_i a
    obtain ⟨v, hv, hs⟩ := foldUnary_spec X op a
    generalize foldUnary op a = res at h hv
    cases res with
    | int l | flt l =>
      injection h with h; injection hv with hv; subst h hv
      simp only [eval, ok_bind, pure_eq_ok, hs]
      rfl
    | _ => cases hv
  · injection h with h; rw [← h]

/-- while parsing `e` the folder is applied to operator `op` with the literal operands `a`, `b`
(the folded forms of two sub-expressions `l`, `r` of `e`) and reports the error `err` -/
inductive FoldFails : Expr R F → BinOp → Expr R F → Expr R F → LitNode F → LitNode F → Err → Prop where
  | here {op l r a b err} : foldExpr l = .ok (.lit a) → foldExpr r = .ok (.lit b) →
      foldBinop op a b = .error err → FoldFails (.bin op l r) op l r a b err
  | un {uop e op l r a b err} : FoldFails e op l r a b err → FoldFails (.un uop e) op l r a b err
  | binL {op' x y op l r a b err} : FoldFails x op l r a b err → FoldFails (.bin op' x y) op l r a b err
  | binR {op' x y op l r a b err} : FoldFails y op l r a b err → FoldFails (.bin op' x y) op l r a b err
  | cndC {c t f op l r a b err} : FoldFails c op l r a b err → FoldFails (.cnd c t f) op l r a b err
  | cndT {c t f op l r a b err} : FoldFails t op l r a b err → FoldFails (.cnd c t f) op l r a b err
  | cndF {c t f op l r a b err} : FoldFails f op l r a b err → FoldFails (.cnd c t f) op l r a b err
  | asg {aop x y op l r a b err} : FoldFails y op l r a b err → FoldFails (.asg aop x y) op l r a b err

theorem foldUnNode_no_error (op : UnrOp) (e : Expr R F) (err : Err) : foldUnNode op e ≠ .error err := by
  unfold foldUnNode
  split
  · rename_i a
    rcases a with ⟨ta, ia, fa⟩
    cases ta <;> cases op <;> simp [foldUnary]
  · simp

theorem foldBinNode_error (op : BinOp) (l r : Expr R F) (err : Err) (h : foldBinNode op l r = .error err) :
    ∃ a b, l = .lit a ∧ r = .lit b ∧ foldBinop op a b = .error err := by
  unfold foldBinNode at h
  split at h
  · rename_i a b
    refine ⟨a, b, rfl, rfl, ?_⟩
    split at h
    · have hc := foldBinop_ne_crash op a b
      generalize foldBinop op a b = res at h hc
      cases res with
      | error e => injection h with h; rw [h]
      | crash => exact absurd rfl hc
      | _ => cases h
    · cases h
  · cases h

theorem FoldFails.lift {e e' : Expr R F} {err : Err}
    (f : ∀ {op l r a b}, FoldFails e op l r a b err → FoldFails e' op l r a b err) :
    (∃ op l r a b, FoldFails e op l r a b err) → ∃ op l r a b, FoldFails e' op l r a b err :=
  fun ⟨op, l, r, a, b, h⟩ => ⟨op, l, r, a, b, f h⟩

theorem foldExpr_spec (e : Expr R F) :
    (∀ e', foldExpr e = .ok e' → ∀ {S : Type} (X : Ext F) (st : Storage S R F) (s : S),
      eval X st e' s = eval X st e s) ∧
    ∀ err, foldExpr e = .error err → ∃ op l r a b, FoldFails e op l r a b err := by
  -- one `cases` per `←` of `foldExpr`, in its order: an error ends the parse there, a value goes on to the next line
  induction e with
  | un uop e ih =>
    simp only [foldExpr]
    cases h : foldExpr e with
    | error err => exact ⟨nofun, fun _ h' => Except.error.inj h' ▸ FoldFails.lift .un (ih.2 _ h)⟩
    | ok e1 =>
      refine ⟨fun e' h2 S X st s => ?_, fun err h2 => absurd h2 (foldUnNode_no_error uop e1 err)⟩
      rw [foldUnNode_sound X st uop e1 e' h2 s]
      simp only [eval, ih.1 e1 h]
  | bin op' x y ihx ihy =>
    simp only [foldExpr]
    cases hx : foldExpr x with
    | error err => exact ⟨nofun, fun _ h' => Except.error.inj h' ▸ FoldFails.lift .binL (ihx.2 _ hx)⟩
    | ok x1 =>
      cases hy : foldExpr y with
      | error err => exact ⟨nofun, fun _ h' => Except.error.inj h' ▸ FoldFails.lift .binR (ihy.2 _ hy)⟩
      | ok y1 =>
        refine ⟨fun e' h2 S X st s => ?_, fun err h2 => ?_⟩
        · rw [foldBinNode_sound X st op' x1 y1 e' h2 s]
          exact eval_bin_congr X st op' x x1 y y1 s (ihx.1 x1 hx X st s) (fun _ s1 _ => ihy.1 y1 hy X st s1)
        · obtain ⟨a, b, ha, hb, hf⟩ := foldBinNode_error op' x1 y1 err h2
          subst ha; subst hb
          exact ⟨op', x, y, a, b, .here hx hy hf⟩
  | cnd c t f ihc iht ihf =>
    simp only [foldExpr]
    cases hc : foldExpr c with
    | error err => exact ⟨nofun, fun _ h' => Except.error.inj h' ▸ FoldFails.lift .cndC (ihc.2 _ hc)⟩
    | ok c1 =>
      cases ht : foldExpr t with
      | error err => exact ⟨nofun, fun _ h' => Except.error.inj h' ▸ FoldFails.lift .cndT (iht.2 _ ht)⟩
      | ok t1 =>
        cases hf : foldExpr f with
        | error err => exact ⟨nofun, fun _ h' => Except.error.inj h' ▸ FoldFails.lift .cndF (ihf.2 _ hf)⟩
        | ok f1 =>
          refine ⟨fun e' h2 S X st s => ?_, nofun⟩
          cases h2
          simp only [eval, ihc.1 c1 hc, iht.1 t1 ht, ihf.1 f1 hf]
  | asg aop x y ih =>
    simp only [foldExpr]
    cases hy : foldExpr y with
    | error err => exact ⟨nofun, fun _ h' => Except.error.inj h' ▸ FoldFails.lift .asg (ih.2 _ hy)⟩
    | ok y1 =>
      refine ⟨fun e' h2 S X st s => ?_, nofun⟩
      cases h2
      simp only [eval_asg, ih.1 y1 hy]
  | _ =>
    refine ⟨fun e' h S X st s => ?_, fun err h => ?_⟩ <;> simp only [foldExpr] at h
    · injection h with h; rw [← h]
    · cases h

theorem foldExpr_sound (X : Ext F) (st : Storage S R F) (e e' : Expr R F) (h : foldExpr e = .ok e') (s : S) :
    eval X st e' s = eval X st e s :=
  (foldExpr_spec e).1 e' h X st s

theorem foldExpr_error (e : Expr R F) (err : Err) (h : foldExpr e = .error err) :
    ∃ op l r a b, FoldFails e op l r a b err :=
  (foldExpr_spec e).2 err h

section lift
variable {A₁ A₂ B₁ B₂ : Type}

/-- the run `r₂` does what the reference run `r₁` does: the same error, or results related by `Q` -/
def Lift (Q : A₂ → A₁ → Prop) (r₂ : Except Err A₂) (r₁ : Except Err A₁) : Prop :=
  match r₁ with
  | .ok a₁ => ∃ a₂, r₂ = .ok a₂ ∧ Q a₂ a₁
  | .error e => r₂ = .error e

/-- case analysis on the reference run. The motive is found from the goal, so a statement that is itself a `match` on
`r₁` is closed without its matcher ever having to meet another one. -/
@[elab_as_elim]
theorem Lift.elim {Q : A₂ → A₁ → Prop} {r₂ : Except Err A₂} {C : Except Err A₁ → Prop} {r₁ : Except Err A₁}
    (h : Lift Q r₂ r₁) (ok : ∀ a₂ a₁, Q a₂ a₁ → r₂ = .ok a₂ → C (.ok a₁))
    (error : ∀ e, r₂ = .error e → C (.error e)) : C r₁ := by
  cases r₁ with
  | error e => exact error e h
  | ok a₁ => obtain ⟨a₂, h2, hq⟩ := h; exact ok a₂ a₁ hq h2

@[elab_as_elim]
theorem Lift.elim₂ {Q : A₂ → A₁ → Prop} {Q' : B₂ → A₁ → Prop} {r₂ : Except Err A₂} {r₂' : Except Err B₂}
    {C : Except Err A₁ → Prop} {r₁ : Except Err A₁} (h : Lift Q r₂ r₁) (h' : Lift Q' r₂' r₁)
    (ok : ∀ a₂ b₂ a₁, Q a₂ a₁ → Q' b₂ a₁ → r₂ = .ok a₂ → r₂' = .ok b₂ → C (.ok a₁))
    (error : ∀ e, r₂ = .error e → r₂' = .error e → C (.error e)) : C r₁ := by
  cases r₁ with
  | error e => exact error e h h'
  | ok a₁ => obtain ⟨a₂, h2, hq⟩ := h; obtain ⟨b₂, h2', hq'⟩ := h'; exact ok a₂ b₂ a₁ hq hq' h2 h2'

theorem Lift.ok {Q : A₂ → A₁ → Prop} {a₂ : A₂} {a₁ : A₁} (h : Q a₂ a₁) : Lift Q (.ok a₂) (.ok a₁) := ⟨a₂, rfl, h⟩

theorem Lift.bind {Q : A₂ → A₁ → Prop} {Q' : B₂ → B₁ → Prop} {r₂ : Except Err A₂} {r₁ : Except Err A₁}
    {f₂ : A₂ → Except Err B₂} {f₁ : A₁ → Except Err B₁}
    (h : Lift Q r₂ r₁) (hf : ∀ a₂ a₁, Q a₂ a₁ → Lift Q' (f₂ a₂) (f₁ a₁)) : Lift Q' (r₂ >>= f₂) (r₁ >>= f₁) := by
  refine h.elim (fun a₂ a₁ hq h2 => ?_) (fun e h2 => ?_)
  · rw [h2]; exact hf a₂ a₁ hq
  · rw [h2]; rfl

end lift

section sim
variable {S₁ S₂ R₁ R₂ A₁ A₂ : Type}

def Expr.AllRefs {R : Type} (P : R → Prop) : Expr R F → Prop
  | .var r => P r
  | .un _ e => e.AllRefs P
  | .bin _ l r => l.AllRefs P ∧ r.AllRefs P
  | .cnd c t f => c.AllRefs P ∧ t.AllRefs P ∧ f.AllRefs P
  | .asg _ x y => P x ∧ y.AllRefs P
  | .incpre _ x => P x
  | .incpst _ x => P x
  | _ => True

theorem Expr.allRefs_of_forall {R : Type} {P : R → Prop} (h : ∀ r, P r) (e : Expr R F) : e.AllRefs P := by
  induction e <;> simp [Expr.AllRefs, *]

/-- same value and related final states, or the same error -/
abbrev Sim (Rel : S₂ → S₁ → Prop) : Except Err (Val F × S₂) → Except Err (Val F × S₁) → Prop :=
  Lift fun (v₂, s₂) (v₁, s₁) => v₂ = v₁ ∧ Rel s₂ s₁

theorem Sim.bind {Rel : S₂ → S₁ → Prop} {Q : A₂ → A₁ → Prop} {r₂ : Except Err (Val F × S₂)}
    {r₁ : Except Err (Val F × S₁)} {f₂ : Val F × S₂ → Except Err A₂} {f₁ : Val F × S₁ → Except Err A₁}
    (h : Sim Rel r₂ r₁) (hf : ∀ v s₂ s₁, Rel s₂ s₁ → Lift Q (f₂ (v, s₂)) (f₁ (v, s₁))) :
    Lift Q (r₂ >>= f₂) (r₁ >>= f₁) :=
  Lift.bind h fun (v, s₂) (_, s₁) ⟨rfl, hr⟩ => hf v s₂ s₁ hr

theorem Sim.ok {Rel : S₂ → S₁ → Prop} {v : Val F} {s₂ : S₂} {s₁ : S₁} (h : Rel s₂ s₁) :
    Sim Rel (.ok (v, s₂)) (.ok (v, s₁)) := Lift.ok ⟨rfl, h⟩

theorem Sim.pureBind {Rel : S₂ → S₁ → Prop} {s₂ : S₂} {s₁ : S₁} (x : Except Err (Val F)) (h : Rel s₂ s₁) :
    Sim Rel (x >>= fun res => pure (res, s₂)) (x >>= fun res => pure (res, s₁)) := by
  cases x with
  | error e => rfl
  | ok v => exact Sim.ok h

/-- reading and writing `x₂` in `st₂` does what reading and writing `x₁` does in `st₁`, from states related by `Rel` -/
structure Access (st₂ : Storage S₂ R₂ F) (st₁ : Storage S₁ R₁ F) (Rel : S₂ → S₁ → Prop) (x₂ : R₂) (x₁ : R₁) : Prop where
  read : ∀ s₂ s₁, Rel s₂ s₁ → Sim Rel (st₂.read x₂ s₂) (st₁.read x₁ s₁)
  write : ∀ v s₂ s₁, Rel s₂ s₁ → Lift Rel (st₂.write x₂ v s₂) (st₁.write x₁ v s₁)

/-- `e₂` over `st₂` does what `e₁` does over `st₁`, from every pair of related states -/
def ESim (X : Ext F) (st₂ : Storage S₂ R₂ F) (st₁ : Storage S₁ R₁ F) (Rel : S₂ → S₁ → Prop)
    (e₂ : Expr R₂ F) (e₁ : Expr R₁ F) : Prop :=
  ∀ s₂ s₁, Rel s₂ s₁ → Sim Rel (eval X st₂ e₂ s₂) (eval X st₁ e₁ s₁)

variable (X : Ext F) {st₂ : Storage S₂ R₂ F} {st₁ : Storage S₁ R₁ F} {Rel : S₂ → S₁ → Prop} {x₂ : R₂} {x₁ : R₁}
  {e₂ l₂ r₂ c₂ t₂ f₂ : Expr R₂ F} {e₁ l₁ r₁ c₁ t₁ f₁ : Expr R₁ F}

theorem ESim.un (op : UnrOp) (h : ESim X st₂ st₁ Rel e₂ e₁) : ESim X st₂ st₁ Rel (.un op e₂) (.un op e₁) :=
  fun s₂ s₁ hs => by
  simp only [eval]
  exact Sim.bind (h s₂ s₁ hs) fun v t₂ t₁ ht => Sim.pureBind _ ht

theorem ESim.bin (op : BinOp) (hl : ESim X st₂ st₁ Rel l₂ l₁) (hr : ESim X st₂ st₁ Rel r₂ r₁) :
    ESim X st₂ st₁ Rel (.bin op l₂ r₂) (.bin op l₁ r₁) := fun s₂ s₁ hs => by
  simp only [eval_bin]
  split
  · rfl
  · refine Sim.bind (hl s₂ s₁ hs) fun lv t₂ t₁ ht => ?_
    cases shortCircuit op lv with
    | some v => exact Sim.ok ht
    | none => exact Sim.bind (hr t₂ t₁ ht) fun rv u₂ u₁ hu => Sim.pureBind _ hu

theorem ESim.cnd (hc : ESim X st₂ st₁ Rel c₂ c₁) (ht : ESim X st₂ st₁ Rel t₂ t₁) (hf : ESim X st₂ st₁ Rel f₂ f₁) :
    ESim X st₂ st₁ Rel (.cnd c₂ t₂ f₂) (.cnd c₁ t₁ f₁) := fun s₂ s₁ hs => by
  simp only [eval]
  refine Sim.bind (hc s₂ s₁ hs) fun v u₂ u₁ hu => ?_
  cases toBool v
  · exact hf u₂ u₁ hu
  · exact ht u₂ u₁ hu

theorem ESim.asg (op : AssOp) (H : Access st₂ st₁ Rel x₂ x₁) (hy : ESim X st₂ st₁ Rel e₂ e₁) :
    ESim X st₂ st₁ Rel (.asg op x₂ e₂) (.asg op x₁ e₁) := fun s₂ s₁ hs => by
  simp only [eval_asg]
  refine Sim.bind (hy s₂ s₁ hs) fun v t₂ t₁ ht => ?_
  split
  · exact Lift.bind (H.write v t₂ t₁ ht) fun u₂ u₁ hu => Sim.ok hu
  · refine Sim.bind (H.read t₂ t₁ ht) fun v2 u₂ u₁ hu => ?_
    cases evalBinop X (assopToBinop op) v2 v with
    | error e => rfl
    | ok tmp => exact Lift.bind (Q := Rel) (H.write tmp u₂ u₁ hu) fun w₂ w₁ hw => Sim.ok hw

/-- the shape of `eval_incpre` and `eval_incpst` -/
theorem Access.rmw (H : Access st₂ st₁ Rel x₂ x₁) (g k : Val F → Val F) (s₂ : S₂) (s₁ : S₁) (hs : Rel s₂ s₁) :
    Sim Rel (do let (v, t) ← st₂.read x₂ s₂; let u ← st₂.write x₂ (g v) t; pure (k v, u))
      (do let (v, t) ← st₁.read x₁ s₁; let u ← st₁.write x₁ (g v) t; pure (k v, u)) :=
  Sim.bind (H.read s₂ s₁ hs) fun _ t₂ t₁ ht => Lift.bind (H.write _ t₂ t₁ ht) fun _ _ hu => Sim.ok hu

theorem Access.and (H : Access st₂ st₁ Rel x₂ x₁) (I : S₂ → Prop)
    (hr : ∀ s v s', st₂.read x₂ s = .ok (v, s') → I s → I s') (hw : ∀ s v s', st₂.write x₂ v s = .ok s' → I s → I s') :
    Access st₂ st₁ (fun s₂ s₁ => Rel s₂ s₁ ∧ I s₂) x₂ x₁ where
  read := fun s₂ s₁ ⟨h, hi⟩ => (H.read s₂ s₁ h).elim (fun (_, s') (_, _) ⟨rfl, q⟩ e => ⟨_, e, rfl, q, hr s₂ _ s' e hi⟩)
    fun _ e => e
  write := fun v s₂ s₁ ⟨h, hi⟩ => (H.write v s₂ s₁ h).elim (fun s' _ q e => ⟨_, e, q, hw s₂ v s' e hi⟩) fun _ e => e

theorem eval_sim_on {P : R₁ → Prop} {π : R₁ → R₂} (H : ∀ r, P r → Access st₂ st₁ Rel (π r) r) (e : Expr R₁ F)
    (he : e.AllRefs P) : ESim X st₂ st₁ Rel (e.map π) e := by
  induction e with
  | var r => exact (H r he).read
  | un op e ih => exact .un X op (ih he)
  | bin op l r ihl ihr => exact .bin X op (ihl he.1) (ihr he.2)
  | cnd c t f ihc iht ihf => exact .cnd X (ihc he.1) (iht he.2.1) (ihf he.2.2)
  | asg op x y ih => exact .asg X op (H x he.1) (ih he.2)
  | incpre op x | incpst op x => exact (H x he).rmw _ _
  | _ => exact fun _ _ h => Sim.ok h

theorem eval_sim {π : R₁ → R₂} (H : ∀ r, Access st₂ st₁ Rel (π r) r) (e : Expr R₁ F) :
    ESim X st₂ st₁ Rel (e.map π) e :=
  eval_sim_on X (P := fun _ => True) (fun r _ => H r) e (Expr.allRefs_of_forall (fun _ => trivial) e)

end sim

/-- the value a reference denotes, without the side effect `eval_indexed` has on a nil variable -/
def Env.peek (e : Env F) : Ref → Val F
  | .plain b => match e.top b with | .sc v => v | _ => .nil
  | .idx b k => match e.top b with
      | .map m => (m k.str).getD .nil
      | .arr a => (match k with | .i n => (a n).getD .nil | .s _ => .nil)
      | .sc _ => .nil

/-- the variable under a reference has a shape the reference can be used with:
a plain variable holds a scalar; a subscripted one holds nil (not yet a map), a map, or an array (integer subscript) -/
def Kinded (e : Env F) : Ref → Prop
  | .plain b => ∃ v, e.top b = .sc v
  | .idx b k => e.top b = .sc .nil ∨ (∃ m, e.top b = .map m) ∨ (∃ a n, e.top b = .arr a ∧ k = .i n)

/-- two references never denote the same storage cell, nor is one the container of the other -/
def Indep : Ref → Ref → Prop
  | .plain b, r' => b ≠ r'.base
  | .idx b _, .plain b' => b ≠ b'
  | .idx b k, .idx b' k' => b ≠ b' ∨ (k.str ≠ k'.str ∧ k ≠ k')

def Good (e : Env F) (r : Ref) (v : Val F) : Prop := e.peek r = v ∧ Kinded e r

omit [FloatOps F] in
theorem top_setTop_same (e : Env F) (b : Base) (c : Cell F) : (e.setTop b c).top b = c := by
  cases b <;> simp [Env.top, Env.setTop]

omit [FloatOps F] in
theorem top_setTop_ne (e : Env F) (b b' : Base) (c : Cell F) (h : b' ≠ b) : (e.setTop b c).top b' = e.top b' := by
  cases b <;> cases b' <;> simp_all [Env.top, Env.setTop]

omit [FloatOps F] in
theorem Good.of_top {e e' : Env F} {r : Ref} {v : Val F} (h : e'.top r.base = e.top r.base) (hg : Good e r v) :
    Good e' r v := by
  cases r with
  | plain b | idx b k => simpa [Good, Env.peek, Kinded, show e'.top b = e.top b from h] using hg

omit [FloatOps F] in
theorem good_setTop_ne (e : Env F) (b : Base) (c : Cell F) (r : Ref) (v : Val F) (h : r.base ≠ b)
    (hg : Good e r v) : Good (e.setTop b c) r v :=
  hg.of_top (top_setTop_ne e b r.base c h)

omit [FloatOps F] in
theorem good_plain (e : Env F) (b : Base) (v : Val F) : Good e (.plain b) v ↔ e.top b = .sc v := by
  constructor
  · rintro ⟨hp, w, hw⟩
    simp only [Env.peek, hw] at hp
    rw [hw, hp]
  · intro h
    exact ⟨by simp [Env.peek, h], v, h⟩

theorem envRead_good (e : Env F) (r : Ref) (v : Val F) (hg : Good e r v) :
    ∃ e', envRead r e = .ok (v, e') ∧ Good e' r v ∧
      ∀ r' v', Indep r r' → Good e r' v' → Good e' r' v' := by
  have ⟨hp, hk⟩ := hg
  cases r with
  | plain b =>
    obtain ⟨w, hw⟩ := hk
    refine ⟨e, ?_, hg, fun _ _ _ h => h⟩
    simp [Env.peek, hw] at hp
    simp [envRead, hw, hp]
  | idx b k =>
    rcases hk with hn | ⟨m, hm⟩ | ⟨a, n, ha, hkn⟩
    · -- nil variable: becomes an empty map
      simp [Env.peek, hn] at hp
      subst hp
      refine ⟨e.setTop b (.map emptyMap), by simp [envRead, hn], ?_, ?_⟩
      · simp [Good, Env.peek, Kinded, top_setTop_same, emptyMap]
      · intro r' v' hi hg'
        cases r' with
        | plain b' => exact good_setTop_ne e b _ (.plain b') _ (Ne.symm hi) hg'
        | idx b' k' =>
          by_cases hb : b' = b
          · subst hb
            obtain ⟨hp', _⟩ := hg'
            simp [Env.peek, hn] at hp'
            simp [Good, Env.peek, Kinded, top_setTop_same, emptyMap, hp']
          · exact good_setTop_ne e b _ (.idx b' k') _ hb hg'
    · refine ⟨e, ?_, hg, fun _ _ _ h => h⟩
      simp [Env.peek, hm] at hp
      simp [envRead, hm, hp]
    · subst hkn
      refine ⟨e, ?_, hg, fun _ _ _ h => h⟩
      simp [Env.peek, ha] at hp
      simp [envRead, ha, hp]

/-- `c` is the cell of `b` after a write at subscript `k`: it differs from the old one at `k` only, which an independent
subscript of `b` does not read -/
theorem idx_write_frame (e : Env F) (b : Base) (k : Key) (v : Val F) (c : Cell F)
    (hc : (e.top b = .sc .nil ∧ c = .map (mapSet emptyMap k.str v)) ∨
          (∃ m, e.top b = .map m ∧ c = .map (mapSet m k.str v)) ∨
          (∃ a n, e.top b = .arr a ∧ k = .i n ∧ c = .arr (arrSet a n v)))
    (r' : Ref) (v' : Val F) (hi : Indep (.idx b k) r') (hg' : Good e r' v') : Good (e.setTop b c) r' v' := by
  cases r' with
  | plain b' => exact good_setTop_ne e b _ (.plain b') _ (Ne.symm hi) hg'
  | idx b' k' =>
    by_cases hb : b = b'
    · subst hb
      rcases hi with hi | ⟨hstr, _⟩
      · exact absurd rfl hi
      obtain ⟨hp', hk'⟩ := hg'
      rcases hc with ⟨hn, hc⟩ | ⟨m, hm, hc⟩ | ⟨a, n, ha, hkn, hc⟩
      · subst hc
        simp [Env.peek, hn] at hp'
        simp [Good, Env.peek, Kinded, top_setTop_same, mapSet, emptyMap, Ne.symm hstr, hp']
      · subst hc
        simp [Env.peek, hm] at hp'
        simp [Good, Env.peek, Kinded, top_setTop_same, mapSet, Ne.symm hstr, hp']
      · subst hc; subst hkn
        rcases hk' with h1 | ⟨m, h1⟩ | ⟨a', n', h1, h2⟩
        · cases ha.symm.trans h1
        · cases ha.symm.trans h1
        · subst h2
          cases ha.symm.trans h1
          have hnn : n' ≠ n := fun h => hstr (by rw [h])
          simp [Env.peek, ha] at hp'
          simp [Good, Env.peek, Kinded, top_setTop_same, arrSet, hnn, hp']
    · exact good_setTop_ne e b _ (.idx b' k') _ (Ne.symm hb) hg'

theorem envWrite_good (flex : Bool) (e : Env F) (r : Ref) (v₀ v : Val F) (hg : Good e r v₀) :
    ∃ e', envWrite flex r v e = .ok e' ∧ Good e' r v ∧
      ∀ r' v', Indep r r' → Good e r' v' → Good e' r' v' := by
  obtain ⟨_, hk⟩ := hg
  cases r with
  | plain b =>
    obtain ⟨w, hw⟩ := hk
    refine ⟨e.setTop b (.sc v), by simp [envWrite, hw], ?_, ?_⟩
    · simp [Good, Env.peek, Kinded, top_setTop_same]
    · intro r' v' hi hg'
      exact good_setTop_ne e b _ r' v' (Ne.symm hi) hg'
  | idx b k =>
    rcases hk with hn | ⟨m, hm⟩ | ⟨a, n, ha, hkn⟩
    · refine ⟨e.setTop b (.map (mapSet emptyMap k.str v)), by simp [envWrite, hn], ?_,
        idx_write_frame e b k v _ (Or.inl ⟨hn, rfl⟩)⟩
      simp [Good, Env.peek, Kinded, top_setTop_same, mapSet]
    · refine ⟨e.setTop b (.map (mapSet m k.str v)), by simp [envWrite, hm], ?_,
        idx_write_frame e b k v _ (Or.inr (Or.inl ⟨m, hm, rfl⟩))⟩
      simp [Good, Env.peek, Kinded, top_setTop_same, mapSet]
    · subst hkn
      refine ⟨e.setTop b (.arr (arrSet a n v)), by simp [envWrite, ha], ?_,
        idx_write_frame e b _ v _ (Or.inr (Or.inr ⟨a, n, ha, rfl, rfl⟩))⟩
      simp [Good, Env.peek, Kinded, top_setTop_same, arrSet]

/-- the environment `e` stores the slot values `σ` under the placement `π` -/
def Holds (π : Nat → Ref) (e : Env F) (σ : Store F) : Prop := ∀ i, Good e (π i) (σ i)

/-- no two slots are placed on interfering references -/
def NoAlias (π : Nat → Ref) : Prop := ∀ i j, i ≠ j → Indep (π i) (π j)

@[simp] theorem slotStorage_read (i : Nat) (σ : Store F) : (slotStorage (F := F)).read i σ = .ok (σ i, σ) := rfl
@[simp] theorem slotStorage_write (i : Nat) (v : Val F) (σ : Store F) : (slotStorage (F := F)).write i v σ = .ok (σ.set i v) := rfl

theorem access_placed (X : Ext F) (π : Nat → Ref) (hπ : NoAlias π) (i : Nat) :
    Access (envStorage X) (slotStorage (F := F)) (Holds π) (π i) i := by
  constructor
  · intro e σ h
    obtain ⟨e', h1, h2, h3⟩ := envRead_good e (π i) (σ i) (h i)
    refine ⟨(σ i, e'), h1, rfl, fun j => ?_⟩
    by_cases hj : j = i
    · subst hj; exact h2
    · exact h3 _ _ (hπ i j (Ne.symm hj)) (h j)
  · intro v e σ h
    obtain ⟨e', h1, h2, h3⟩ := envWrite_good X.flexmap e (π i) (σ i) v (h i)
    refine ⟨e', h1, fun j => ?_⟩
    by_cases hj : j = i
    · subst hj; simpa [Store.set] using h2
    · simpa [Store.set, hj] using h3 _ _ (hπ i j (Ne.symm hj)) (h j)

omit [FloatOps F] in
theorem envRead_plain {b : Base} {e e' : Env F} {v : Val F} (h : envRead (.plain b) e = .ok (v, e')) : e' = e := by
  simp only [envRead] at h
  split at h
  · injection h with h; injection h with _ h; exact h.symm
  · cases h

omit [FloatOps F] in
theorem envWrite_plain {flex : Bool} {b : Base} {e e' : Env F} {v : Val F}
    (h : envWrite flex (.plain b) v e = .ok e') : e' = e.setTop b (.sc v) := by
  simp only [envWrite] at h
  split at h
  · injection h with h; exact h.symm
  · split at h
    · injection h with h; exact h.symm
    · cases h

/-- accesses to a parameter or a local leave the named variables and the globals as they are: the part of the
environment a callee shares with its caller -/
theorem Access.shared {S₁ R₁ : Type} {st₁ : Storage S₁ R₁ F} {Rel : Env F → S₁ → Prop} {X : Ext F} {b : Base} {x₁ : R₁}
    (H : Access (envStorage X) st₁ Rel (.plain b) x₁) (hb : (∃ i, b = .arg i) ∨ ∃ n, b = .lcl n)
    (N : String → Option (Cell F)) (G : Nat → Cell F) :
    Access (envStorage X) st₁ (fun env s => Rel env s ∧ env.named = N ∧ env.gbl = G) (.plain b) x₁ := by
  refine H.and _ (fun s v s' e hi => envRead_plain e ▸ hi) (fun s v s' e hi => ?_)
  rw [envWrite_plain e]
  rcases hb with ⟨i, rfl⟩ | ⟨n, rfl⟩ <;> exact hi

/-! ## slots an expression does not assign: they keep their values, and may be written as literals -/

def litOf (v : Val F) : Expr Nat F :=
  match v with
  | .nil => .xnil
  | .int i => .lit (LitNode.mkInt i)
  | .flt f => .lit (LitNode.mkFlt f)
  | .str s => .str s
  | .mbs b => .mbs b
  | .char c => .chr c
  | .bchr b => .bchr b

/-- write the slots selected by `L` as literals of their values in `σ₀` -/
def substLit (L : Nat → Bool) (σ₀ : Store F) : Expr Nat F → Expr Nat F
  | .var i => if L i then litOf (σ₀ i) else .var i
  | .un op e => .un op (substLit L σ₀ e)
  | .bin op l r => .bin op (substLit L σ₀ l) (substLit L σ₀ r)
  | .cnd c t f => .cnd (substLit L σ₀ c) (substLit L σ₀ t) (substLit L σ₀ f)
  | .asg op x y => .asg op x (substLit L σ₀ y)
  | e => e

theorem eval_litOf (X : Ext F) (v : Val F) (σ : Store F) :
    eval X slotStorage (litOf v) σ = .ok (v, σ) := by
  cases v <;> rfl

/-- equal stores that agree with `σ₀` on the slots selected by `L` -/
def EqAgreeOn (L : Nat → Bool) (σ₀ : Store F) (s₂ s₁ : Store F) : Prop := s₂ = s₁ ∧ ∀ i, L i = true → s₁ i = σ₀ i

theorem access_unselected (L : Nat → Bool) (σ₀ : Store F) (x : Nat) (hx : L x ≠ true) :
    Access (slotStorage (F := F)) slotStorage (EqAgreeOn L σ₀) x x where
  read := fun _ _ h => by obtain ⟨rfl, h⟩ := h; exact Sim.ok ⟨rfl, h⟩
  write := fun v _ s h => by
    obtain ⟨rfl, h⟩ := h
    refine Lift.ok ⟨rfl, fun i hi => ?_⟩
    have : i ≠ x := fun hix => hx (hix ▸ hi)
    simp [Store.set, this, h i hi]

theorem substLit_sim (X : Ext F) (L : Nat → Bool) (σ₀ : Store F) (e : Expr Nat F)
    (ht : ∀ x ∈ e.targets, L x ≠ true) :
    ESim X slotStorage slotStorage (EqAgreeOn L σ₀) (substLit L σ₀ e) e := by
  induction e with
  | var i =>
    intro s₂ s₁ h
    obtain ⟨rfl, h⟩ := h
    by_cases hL : L i = true
    · simp only [substLit, hL, if_true, eval_litOf, eval, slotStorage_read, ← h i hL]
      exact Sim.ok ⟨rfl, h⟩
    · simp only [substLit, hL]
      exact Sim.ok ⟨rfl, h⟩
  | un op e ih => exact .un X op (ih ht)
  | bin op l r ihl ihr =>
    simp only [Expr.targets, List.mem_append] at ht
    exact .bin X op (ihl fun x hx => ht x (.inl hx)) (ihr fun x hx => ht x (.inr hx))
  | cnd c t f ihc iht ihf =>
    simp only [Expr.targets, List.mem_append] at ht
    exact .cnd X (ihc fun x hx => ht x (.inl (.inl hx))) (iht fun x hx => ht x (.inl (.inr hx)))
      (ihf fun x hx => ht x (.inr hx))
  | asg op x y ih =>
    exact .asg X op (access_unselected L σ₀ x (ht x (List.mem_cons_self ..))) (ih fun z hz => ht z (List.mem_cons_of_mem _ hz))
  | incpre op x | incpst op x => exact (access_unselected L σ₀ x (ht x (List.mem_cons_self ..))).rmw _ _
  | _ => exact fun _ _ h => Sim.ok h

theorem substLit_sound (X : Ext F) (L : Nat → Bool) (σ₀ : Store F) (e : Expr Nat F)
    (ht : ∀ i, L i = true → i ∉ e.targets) (σ : Store F) (hσ : ∀ i, L i = true → σ i = σ₀ i) :
    eval X slotStorage (substLit L σ₀ e) σ = eval X slotStorage e σ := by
  refine (substLit_sim X L σ₀ e (fun x hx h => ht x h hx) σ σ ⟨rfl, hσ⟩).elim ?_ fun _ h => h
  rintro ⟨_, _⟩ ⟨_, _⟩ ⟨rfl, rfl, _⟩ h
  exact h

/-- an untargeted slot is one that could have been written as a literal of its value -/
theorem eval_untargeted (X : Ext F) (x : Nat) (e : Expr Nat F) (σ : Store F) (v : Val F) (σ' : Store F)
    (hx : x ∉ e.targets) (h : eval X slotStorage e σ = .ok (v, σ')) : σ' x = σ x := by
  have hs := substLit_sim X (fun i => decide (i = x)) σ e (fun y hy hd => hx (of_decide_eq_true hd ▸ hy)) σ σ
    ⟨rfl, fun _ _ => rfl⟩
  rw [h] at hs
  obtain ⟨_, _, _, _, hL⟩ := hs
  exact hL x (decide_eq_true rfl)

theorem compound_assign_slots (X : Ext F) (op : AssOp) (hop : op ≠ .none) (x : Nat) (y : Expr Nat F)
    (hx : x ∉ y.targets) (σ : Store F) :
    eval X slotStorage (.asg op x y) σ =
      eval X slotStorage (.asg .none x (.bin (assopToBinop op) (.var x) y)) σ := by
  obtain ⟨h1, h2, h3⟩ := table_branch (F := F) (cfun_assopToBinop op)
  rw [eval_asg, eval_asg, eval_bin]
  simp only [if_neg hop, if_true, if_neg h1, eval, slotStorage_read, ok_bind, h2, h3]
  -- left: `y`, then the operator on the value of `x` after `y`; right: the operator on the value of `x` before `y`
  cases hy : eval X slotStorage y σ with
  | error e => rfl
  | ok p =>
    obtain ⟨val, s1⟩ := p
    simp only [ok_bind, eval_untargeted X x y σ val s1 hx hy]
    cases evalBinop X (assopToBinop op) (σ x) val <;> rfl

theorem evalPlus_inc (X : Ext F) (op : IncOp) (left : Val F) :
    evalBinop X .plus left (.int (incDelta op)) = .ok (incNew X op left) := by
  cases left <;> simp [evalBinop, evalPlus, incNew, toNum] <;> split <;> simp_all

theorem evalUnary_plus_incOld (X : Ext F) (left : Val F) :
    evalUnary X .plus left = .ok (incOld X left) := by
  cases left <;> simp [evalUnary, incOld, toNum] <;> split <;> simp_all

/-- the parameters of the callee: slot `i` is argument `i` -/
def argπ : Nat → Ref := fun i => .plain (.arg i)

theorem noAlias_argπ : NoAlias argπ :=
  fun _ _ h hh => h (Base.arg.inj hh)

theorem pushArgs_holds (X : Ext F) (π : Nat → Ref) (hπ : NoAlias π) (σ : Store F) (is : List Nat) (e : Env F)
    (h : Holds π e σ) : ∃ e', pushArgs (is.map π) e = .ok (is.map σ, e') ∧ Holds π e' σ := by
  induction is generalizing e with
  | nil => exact ⟨e, rfl, h⟩
  | cons i rest ih =>
    obtain ⟨⟨_, e1⟩, h1, rfl, hh⟩ := (access_placed X π hπ i).read e σ h
    obtain ⟨e2, h4, h5⟩ := ih e1 hh
    exact ⟨e2, by simp [pushArgs, show envRead (π i) e = _ from h1, h4], h5⟩

theorem copyBack_eq_envWrite (flex : Bool) (e : Env F) (r : Ref) (v : Val F) (hk : Kinded e r) :
    copyBack flex r v e = envWrite flex r v e := by
  cases r with
  | plain b => rfl
  | idx b k =>
    rcases hk with hn | ⟨m, hm⟩ | ⟨a, n, ha, hkn⟩
    · simp [copyBack, envWrite, hn]
    · simp [copyBack, envWrite, hm]
    · subst hkn; simp [copyBack, envWrite, ha]

theorem copyBackAll_holds (flex : Bool) (π : Nat → Ref) (hπ : NoAlias π) (σ σ' : Store F) (A : Nat → Cell F)
    (hA : ∀ i, A i = .sc (σ' i)) (m k : Nat) (e : Env F)
    (h1 : ∀ i, i < k → Good e (π i) (σ' i)) (h2 : ∀ i, k ≤ i → Good e (π i) (σ i)) :
    ∃ e', copyBackAll flex A ((List.range' k m).map π) k e = .ok e' ∧
      (∀ i, i < k + m → Good e' (π i) (σ' i)) ∧ (∀ i, k + m ≤ i → Good e' (π i) (σ i)) := by
  induction m generalizing k e with
  | zero => exact ⟨e, by simp [copyBackAll], by simpa using h1, by simpa using h2⟩
  | succ m ih =>
    obtain ⟨e1, w1, w2, w3⟩ := envWrite_good flex e (π k) (σ k) (σ' k) (h2 k (Nat.le_refl k))
    have g1 : ∀ i, i < k + 1 → Good e1 (π i) (σ' i) := fun i hi => by
      by_cases hik : i = k
      · subst hik; exact w2
      · exact w3 _ _ (hπ k i (Ne.symm hik)) (h1 i (by omega))
    have g2 : ∀ i, k + 1 ≤ i → Good e1 (π i) (σ i) := fun i hi =>
      w3 _ _ (hπ k i (by omega)) (h2 i (by omega))
    obtain ⟨e2, c1, c2, c3⟩ := ih (k + 1) e1 g1 g2
    refine ⟨e2, ?_, fun i hi => c2 i (by omega), fun i hi => c3 i (by omega)⟩
    simp [List.range'_succ, copyBackAll, hA k,
      copyBack_eq_envWrite flex e (π k) (σ' k) (h2 k (Nat.le_refl k)).2, w1, c1]

/-- the frame `hawk_rtx_evalcall` builds for the callee stores the slots on the parameters -/
theorem callee_holds (σ : Store F) (n : Nat) (hnil : ∀ i, n ≤ i → σ i = .nil) (N : String → Option (Cell F))
    (G L : Nat → Cell F) :
    Holds argπ { named := N, gbl := G, lcl := L, arg := fun i => .sc (((List.range n).map σ).getD i .nil) } σ := by
  intro i
  rw [argπ, good_plain]
  show Cell.sc _ = _
  by_cases hi : i < n
  · simp [List.getD_eq_getElem?_getD, hi]
  · simp [List.getD_eq_getElem?_getD, hi, hnil i (by omega)]

theorem copy_back (flex : Bool) (π : Nat → Ref) (hπ : NoAlias π) (n : Nat) (σ σ' : Store F) (e1 c' : Env F)
    (h1 : Holds π e1 σ) (hc : Holds argπ c' σ') (hN : c'.named = e1.named) (hG : c'.gbl = e1.gbl) :
    ∃ e2, copyBackAll flex c'.arg ((List.range n).map π) 0
        { named := c'.named, gbl := c'.gbl, lcl := e1.lcl, arg := e1.arg } = .ok e2 ∧
      (∀ i, i < n → Good e2 (π i) (σ' i)) ∧ (∀ i, n ≤ i → Good e2 (π i) (σ i)) := by
  have hA : ∀ i, c'.arg i = .sc (σ' i) := fun i => (good_plain c' (.arg i) (σ' i)).mp (hc i)
  obtain ⟨e2, cb, g1, g2⟩ := copyBackAll_holds flex π hπ σ σ' c'.arg hA n 0 e1
    (fun i hi => absurd hi (Nat.not_lt_zero i)) (fun i _ => h1 i)
  rw [← List.range_eq_range'] at cb
  rw [hN, hG]
  exact ⟨e2, cb, fun i hi => g1 i (by omega), fun i hi => g2 i (by omega)⟩

/-- `σ` is at once the values of the caller's variables (`Holds π`) and the callee's parameters (slot `i` = parameter `i`).
A parameter beyond the `n` arguments reads nil, whence `hnil`; so the second clause speaks of variables that hold nil. -/
theorem byref_sim (X : Ext F) (π : Nat → Ref) (hπ : NoAlias π) (n : Nat) (e : Expr Nat F)
    (env : Env F) (σ : Store F) (h : Holds π env σ) (hnil : ∀ i, n ≤ i → σ i = .nil) :
    Sim (fun env' σ' => (∀ i, i < n → Good env' (π i) (σ' i)) ∧ (∀ i, n ≤ i → Good env' (π i) (σ i)))
      (evalCallByRef X ((List.range n).map π) (e.map argπ) env) (eval X slotStorage e σ) := by
  obtain ⟨e1, hp, hh1⟩ := pushArgs_holds X π hπ σ (List.range n) env h
  simp only [evalCallByRef, hp, ok_bind]
  rw [← bind_pure (eval X slotStorage e σ)]
  refine Sim.bind (eval_sim X (fun i => (access_placed X argπ noAlias_argπ i).shared (.inl ⟨i, rfl⟩) e1.named e1.gbl) e _ σ
    ⟨callee_holds σ n hnil e1.named e1.gbl (fun _ => .sc .nil), rfl, rfl⟩) fun v c' σ' ⟨hh', hN, hG⟩ => ?_
  obtain ⟨e2, cb, g⟩ := copy_back X.flexmap π hπ n σ σ' e1 c' hh1 hh' hN hG
  simp only [cb, ok_bind]
  exact Lift.ok ⟨rfl, g⟩

end Hawk.Expr
