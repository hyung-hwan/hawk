import HawkModel.CmgrLemmas
import HawkModel.Tio
/-!
`flushLoop_spec` is the one fact about `hawk_tio_flush`'s loop: whatever the handler answers, the slices it accepted followed by
what is left in the buffer are the bytes that were in the buffer, in order.  Every write call and loop is a sequence of steps
"stage bytes" (`Wrote.stage`) and "stage bytes, then flush" (`Wrote.stageFlush`), composed by `Wrote.seq` and ended on a failure by
`Wrote.stop`, so all of them have one statement, `Wrote`; `runOps_spec` folds it over the calls of a caller that goes on after failures.
-/
open Hawk.Gen Hawk.Utf8
namespace Hawk.Tio

def SinkOk (cfg : Cfg) (o : OutSt) : Prop := ∀ ch ∈ o.sink, ch.length ≤ cfg.capa

def isAcc : Reply → Prop
  | .acc _ => True
  | _ => False

theorem flushLoop_spec (script : List Reply) (rem : List UInt8) (sink : List (List UInt8)) (nc : Nat) :
    (∃ extra, (flushLoop script rem sink nc).sink = sink ++ extra ∧
        extra.flatten ++ (flushLoop script rem sink nc).rem = rem ∧ (∀ ch ∈ extra, ch.length ≤ rem.length)) ∧
    (flushLoop script rem sink nc).script.length + (flushLoop script rem sink nc).rem.length ≤ script.length + rem.length ∧
    (rem ≠ [] → (flushLoop script rem sink nc).script.length + (flushLoop script rem sink nc).rem.length
        < script.length + rem.length) ∧
    ((flushLoop script rem sink nc).ok = true → (∀ x ∈ script, x ≠ .zero) → (flushLoop script rem sink nc).rem = []) ∧
    ((∀ x ∈ script, x ≠ .fail) → (flushLoop script rem sink nc).ok = true) ∧
    ((flushLoop script rem sink nc).ok = false → (flushLoop script rem sink nc).rem ≠ []) ∧
    ∃ pre, script = pre ++ (flushLoop script rem sink nc).script := by
  fun_induction flushLoop script rem sink nc with
  | case1 sink nc | case3 r s sink nc => exact ⟨⟨[], by simp⟩, by simp, by simp, by simp, by simp, by simp, [], rfl⟩
  | case2 rem sink nc h =>
    have := List.length_pos_iff.mpr h
    exact ⟨⟨[rem], by simp⟩, by simp, fun _ => by simpa using this, by simp, by simp, by simp, [], rfl⟩
  | case4 s rem sink nc h => exact ⟨⟨[], by simp⟩, by simp, by simp, by simp, by simp, fun _ => h, [.fail], rfl⟩
  | case5 s rem sink nc h => exact ⟨⟨[], by simp⟩, by simp, by simp, by simp, by simp, by simp, [.zero], rfl⟩
  | case6 s rem sink nc h k ih =>
    have hpos : 0 < rem.length := List.length_pos_iff.mpr h
    obtain ⟨⟨extra, h1, h2, h3⟩, h4, h5, h6, h7, h8, pre, h9⟩ := ih
    refine ⟨⟨rem.take (min (k + 1) rem.length) :: extra, by rw [h1]; simp, ?_, ?_⟩, ?_, fun _ => ?_, ?_, ?_, h8,
      .acc k :: pre, by rw [List.cons_append, ← h9]⟩
    · rw [List.flatten_cons, List.append_assoc, h2, List.take_append_drop]
    · intro ch hch
      simp at hch
      rcases hch with rfl | hch
      · simp [List.length_take]; omega
      · have := h3 ch hch; simp at this; omega
    · simp at h4 ⊢; omega
    · simp at h4 ⊢; omega
    · intro hok hz
      exact h6 hok (fun x hx => hz x (by simp [hx]))
    · intro hf
      exact h7 (fun x hx => hf x (by simp [hx]))

/-- one `hawk_tio_flush` call from `o` to `o'` with return value `r`, whatever the handler answers -/
structure Flushed (o o' : OutSt) (r : Option Nat) : Prop where
  all : o'.all = o.all
  slices : ∃ extra, o'.sink = o.sink ++ extra ∧ extra.flatten ++ o'.buf = o.buf ∧ ∀ ch ∈ extra, ch.length ≤ o.buf.length
  work : o.buf ≠ [] → o'.work < o.work
  failed : r = none → o'.buf ≠ []
  count : ∀ c, r = some c → c + o'.buf.length = o.buf.length ∧ ((∀ x ∈ o.script, x ≠ .zero) → o'.buf = [])
  noFail : (∀ x ∈ o.script, x ≠ .fail) → r ≠ none
  script : ∃ pre, o.script = pre ++ o'.script

theorem flush_spec (o : OutSt) : Flushed o (flush o).1 (flush o).2 := by
  obtain ⟨⟨extra, h1, h2, h3⟩, _, h5, h6, h7, h8, h9⟩ := flushLoop_spec o.script o.buf o.sink o.ncalls
  have hlen : extra.flatten.length + (flushLoop o.script o.buf o.sink o.ncalls).rem.length = o.buf.length := by
    have := congrArg List.length h2; simpa using this
  refine ⟨?_, ⟨extra, h1, h2, h3⟩, h5, ?_, ?_, ?_, h9⟩
  · simp only [flush, OutSt.all, h1, List.flatten_append, List.append_assoc, h2]
  · intro hn
    simp only [flush] at hn ⊢
    split at hn
    · simp at hn
    · rename_i hok; exact h8 (by simpa using hok)
  · intro c hc
    simp only [flush] at hc ⊢
    split at hc
    · rename_i hok
      simp at hc
      exact ⟨by omega, fun hz => h6 hok hz⟩
    · simp at hc
  · intro hf hn
    simp only [flush] at hn
    rw [if_pos (h7 hf)] at hn
    simp at hn

theorem flush_work {o o2 : OutSt} {r : Option Nat} (h : flush o = (o2, r)) (hne : o.buf ≠ []) : o2.work < o.work := by
  have := (flush_spec o).work hne
  rwa [h] at this

/-- from `o` to `o'` exactly the bytes `p` were added to "accepted ++ staged", within the capacity -/
structure Grew (cfg : Cfg) (o o' : OutSt) (p : List UInt8) : Prop where
  all : o'.all = o.all ++ p
  sinkOk : SinkOk cfg o → SinkOk cfg o'
  len : o'.buf.length ≤ cfg.capa

theorem Grew.refl (cfg : Cfg) (o : OutSt) (h : o.buf.length ≤ cfg.capa) : Grew cfg o o [] :=
  ⟨by simp, id, h⟩

theorem Grew.trans {cfg : Cfg} {o o' o'' : OutSt} {p q : List UInt8} (h1 : Grew cfg o o' p) (h2 : Grew cfg o' o'' q) :
    Grew cfg o o'' (p ++ q) :=
  ⟨by rw [h2.all, h1.all]; simp, fun h => h2.sinkOk (h1.sinkOk h), h2.len⟩

theorem writeULoop_nil (cfg : Cfg) (o : OutSt) (nl : Bool) : writeULoop cfg [] o nl = (o, nl, none) := by
  rw [writeULoop]; simp

/-- outcome of a call or loop asked to put `text` on the stream, from `o` to `o'`, with result `res` (`none` = success): a
prefix of `text` entered "accepted ++ staged", all of it on success; a failure is an error of the handler or a full buffer,
never a fault; an accepting handler and a buffer below capacity give success and are left so -/
structure Wrote (cfg : Cfg) (text : List UInt8) (o o' : OutSt) (res : Option (Sum Err Fault)) : Prop where
  part : ∃ p, Grew cfg o o' p ∧ p <+: text ∧ (res = none → p = text)
  err : res = none ∨ res = some (.inl .eioerr) ∨ res = some (.inl .ebuffull)
  live : (∀ x ∈ o.script, isAcc x) → o.buf.length < cfg.capa →
    res = none ∧ o'.buf.length < cfg.capa ∧ ∀ x ∈ o'.script, isAcc x

section
variable {cfg : Cfg} {o o1 o2 : OutSt} {t1 t2 bs : List UInt8} {res : Option (Sum Err Fault)}

theorem Wrote.len (h : Wrote cfg t1 o o1 res) : o1.buf.length ≤ cfg.capa :=
  let ⟨_, hg, _⟩ := h.part
  hg.len

theorem Wrote.nil (h : o.buf.length ≤ cfg.capa) : Wrote cfg [] o o none :=
  ⟨⟨[], Grew.refl cfg o h, List.prefix_refl _, fun _ => rfl⟩, Or.inl rfl, fun ha hlt => ⟨rfl, hlt, ha⟩⟩

theorem Wrote.refuse (h : o.buf.length = cfg.capa) : Wrote cfg t1 o o (some (.inl .ebuffull)) :=
  ⟨⟨[], Grew.refl cfg o (Nat.le_of_eq h), List.nil_prefix, nofun⟩, Or.inr (Or.inr rfl), fun _ hlt => by omega⟩

theorem Wrote.stage (h : o.buf.length + bs.length < cfg.capa) : Wrote cfg bs o { o with buf := o.buf ++ bs } none :=
  ⟨⟨bs, ⟨by simp [OutSt.all], id, by simpa using Nat.le_of_lt h⟩, List.prefix_refl _, fun _ => rfl⟩, Or.inl rfl,
    fun ha _ => ⟨rfl, by simpa using h, ha⟩⟩

/-- the bytes are staged or handed out whether or not the handler failed -/
theorem Wrote.stageFlush (h : o.buf.length + bs.length ≤ cfg.capa) {r : Option Nat}
    (hfl : flush { o with buf := o.buf ++ bs } = (o2, r)) :
    Wrote cfg bs o o2 (if r = none then some (.inl .eioerr) else none) := by
  have hf := flush_spec { o with buf := o.buf ++ bs }
  rw [hfl] at hf
  obtain ⟨extra, h2, h3, h4⟩ := hf.slices
  have hlen := congrArg List.length h3
  simp only [List.length_append] at hlen h4
  refine ⟨⟨bs, ⟨by simpa [OutSt.all] using hf.all, fun hs ch hch => ?_, by omega⟩, List.prefix_refl _, fun _ => rfl⟩, ?_, fun ha hlt => ?_⟩
  · rw [h2] at hch
    rcases List.mem_append.mp hch with hch | hch
    · exact hs ch hch
    · exact Nat.le_trans (h4 ch hch) h
  · split
    · exact Or.inr (Or.inl rfl)
    · exact Or.inl rfl
  · have hnf : ∀ x ∈ o.script, x ≠ Reply.fail := fun x hx he => by have := ha x hx; rw [he] at this; exact this
    have hnz : ∀ x ∈ o.script, x ≠ Reply.zero := fun x hx he => by have := ha x hx; rw [he] at this; exact this
    obtain ⟨pre, hp⟩ := hf.script
    cases r with
    | none => exact absurd rfl (hf.noFail hnf)
    | some c => exact ⟨if_neg nofun, by rw [(hf.count c rfl).2 hnz]; exact Nat.zero_lt_of_lt hlt, fun x hx => ha x (by rw [hp]; exact List.mem_append_right _ hx)⟩

theorem Wrote.seq (h1 : Wrote cfg t1 o o1 none) (h2 : Wrote cfg t2 o1 o2 res) : Wrote cfg (t1 ++ t2) o o2 res := by
  obtain ⟨p1, g1, _, c1⟩ := h1.part
  obtain ⟨p2, g2, q2, c2⟩ := h2.part
  obtain rfl := c1 rfl
  refine ⟨⟨p1 ++ p2, g1.trans g2, (List.prefix_append_right_inj p1).mpr q2, fun h => by rw [c2 h]⟩, h2.err, fun ha hlt => ?_⟩
  obtain ⟨_, b, c⟩ := h1.live ha hlt
  exact h2.live c b

theorem Wrote.stop {e : Sum Err Fault} (h : Wrote cfg t1 o o1 (some e)) : Wrote cfg (t1 ++ t2) o o1 (some e) :=
  let ⟨p, g, q, _⟩ := h.part
  ⟨⟨p, g, q.trans (List.prefix_append _ _), nofun⟩, h.err, h.live⟩

/-- the flush that ends a call after a newline: what was written stays written -/
theorem Wrote.closing (h : Wrote cfg t1 o o1 none) {r : Option Nat} (hfl : flush o1 = (o2, r)) :
    Wrote cfg t1 o o2 (if r = none then some (.inl .eioerr) else none) := by
  have h2 := Wrote.stageFlush (cfg := cfg) (o := o1) (bs := []) (by simpa using h.len) (by simpa using hfl)
  simpa using h.seq h2

end

theorem writeULoop_spec {cm : Cmgr} {dom : Nat → Prop} {maxlen : Nat} (hok : CodecOk cm dom maxlen) (cfg : Cfg) (hmgr : cfg.cm = cm) (hc : maxlen ≤ cfg.capa)
    (ws : List Nat) (o : OutSt) (nl : Bool) (hb : Dom dom ws) (hl : o.buf.length ≤ cfg.capa) :
    Wrote cfg (encodeAllC cm ws) o (writeULoop cfg ws o nl).1 (writeULoop cfg ws o nl).2.2 := by
  subst hmgr
  fun_induction writeULoop cfg ws o nl with
  | case1 o nl => exact Wrote.nil hl
  | case2 ws o nl hw k bs o1 o2 hfl hcv =>
    obtain ⟨hsplit, hlen, _⟩ := convUtoB_dom hok ws hb _ _ _ _ hcv
    rw [hsplit]
    exact (Wrote.stageFlush (by omega) hfl).stop
  | case3 ws o nl hw k bs o1 o2 cnt hfl hprog hcv ih =>
    obtain ⟨hsplit, hlen, _⟩ := convUtoB_dom hok ws hb _ _ _ _ hcv
    have hs := Wrote.stageFlush (cfg := cfg) (by omega) hfl
    rw [hsplit]
    exact hs.seq (ih (fun c h => hb c (List.mem_of_mem_drop h)) hs.len)
  | case4 ws o nl hw k bs o1 o2 cnt hfl hprog hcv =>
    -- the loop always makes progress: nothing converted means the buffer was not empty (an empty one holds any character of
    -- the domain), so the flush shortened the work
    obtain ⟨hsplit, hlen, hx⟩ := convUtoB_dom hok ws hb _ _ _ _ hcv
    refine absurd ?_ hprog
    by_cases hk : k = 0
    · subst hk
      obtain ⟨_, c, rest, hd, hlt⟩ := hx.resolve_left (by simp)
      obtain rfl : bs = [] := List.append_left_eq_self.mp hsplit.symm
      have := (hok.enc_len c (hb c (by rw [← List.drop_zero (l := ws), hd]; simp))).2
      have hne : o.buf ≠ [] := by intro h0; simp [h0] at hlt; omega
      exact Or.inr (by simpa [o1, OutSt.work] using flush_work hfl (by simpa [o1] using hne))
    · exact Or.inl hk
  | case5 ws o nl hw n k bs hcv o1 hn2 o2 hfl =>
    obtain ⟨hsplit, hlen, _⟩ := convUtoB_dom hok ws hb _ _ _ _ hcv
    by_cases hfull : o1.buf.length ≥ cfg.capa
    · rw [dif_pos hfull] at hfl
      rw [hsplit]
      exact (Wrote.stageFlush (by omega) hfl).stop
    · rw [dif_neg hfull] at hfl; cases hfl
  | case6 ws o nl hw n k bs hcv | case7 ws o nl hw n k bs hcv | case8 ws o nl hw n k bs hcv =>
    -- a character of the domain is never refused
    obtain ⟨_, _, ⟨rfl, _⟩ | ⟨rfl, _⟩⟩ := convUtoB_dom hok ws hb _ _ _ _ hcv <;> omega
  | case9 ws o nl hw n bs o1 hn2 o2 cnt hfl nl2 hn1 hcv nl3 =>
    obtain ⟨_, _, ⟨_, h0⟩ | ⟨rfl, _⟩⟩ := convUtoB_dom hok ws hb _ _ _ _ hcv
    · exact absurd (List.length_eq_zero_iff.mp h0.symm) hw
    · omega
  | case10 ws o nl hw n k bs hcv o1 hn2 o2 cnt hfl nl2 hn1 nl3 hk ih =>
    obtain ⟨hsplit, hlen, _⟩ := convUtoB_dom hok ws hb _ _ _ _ hcv
    have hs : Wrote cfg bs o o2 none := by
      by_cases hfull : o1.buf.length ≥ cfg.capa
      · rw [dif_pos hfull] at hfl
        exact Wrote.stageFlush (by omega) hfl
      · rw [dif_neg hfull] at hfl; cases hfl
        exact Wrote.stage (by simp [o1] at hfull; omega)
    rw [hsplit]
    exact hs.seq (ih (fun c h => hb c (List.mem_of_mem_drop h)) hs.len)

theorem writeUchars_spec {cm : Cmgr} {dom : Nat → Prop} {maxlen : Nat} (hok : CodecOk cm dom maxlen) (cfg : Cfg) (hmgr : cfg.cm = cm) (hc : maxlen ≤ cfg.capa) (ws : List Nat) (o : OutSt) (hb : Dom dom ws)
    (hl : o.buf.length ≤ cfg.capa) : Wrote cfg (encodeAllC cm ws) o (writeUchars cfg ws o).1 (writeUchars cfg ws o).2 := by
  unfold writeUchars
  by_cases hfull : o.buf.length ≥ cfg.capa
  · rw [if_pos hfull]
    exact Wrote.refuse (by omega)
  · rw [if_neg hfull]
    have h := writeULoop_spec hok cfg hmgr hc ws o false hb hl
    generalize writeULoop cfg ws o false = r at h ⊢
    obtain ⟨o', nl', res⟩ := r
    cases res with
    | some e => exact h
    | none =>
      cases nl' with
      | false => exact h
      | true =>
        simp only [if_true]
        rcases hfl : flush o' with ⟨o2, _ | cnt⟩ <;> exact h.closing hfl

theorem writeBBig_spec (cfg : Cfg) (hc : 1 ≤ cfg.capa) (bs : List UInt8) (o : OutSt) : o.buf.length ≤ cfg.capa →
    ∃ p, p ++ (writeBBig cfg bs o).1 = bs ∧ Wrote cfg p o (writeBBig cfg bs o).2.1 (writeBBig cfg bs o).2.2 ∧
      ((writeBBig cfg bs o).2.2 = none → (writeBBig cfg bs o).2.1.buf.length + (writeBBig cfg bs o).1.length < cfg.capa) := by
  have hfit : ∀ (bs : List UInt8) (o : OutSt), o.buf.length ≤ cfg.capa →
      o.buf.length + (bs.take (cfg.capa - o.buf.length)).length ≤ cfg.capa := by
    intro bs o hl; simp [List.length_take]; omega
  fun_induction writeBBig cfg bs o with
  | case1 bs o hge o2 hfl =>
    intro hl
    exact ⟨_, List.take_append_drop _ _, Wrote.stageFlush (hfit bs o hl) hfl, nofun⟩
  | case2 bs o hge o2 val hfl hprog ih =>
    intro hl
    have hs := Wrote.stageFlush (hfit bs o hl) hfl
    obtain ⟨p, hp, hw, hfin⟩ := ih hs.len
    exact ⟨_ ++ p, by rw [List.append_assoc, hp, List.take_append_drop], hs.seq hw, hfin⟩
  | case3 bs o hge o2 val hfl hprog =>
    -- the loop always makes progress: with no room left the buffer is not empty, so the flush shortens the work
    intro hl
    refine absurd ?_ hprog
    by_cases h0 : cfg.capa - o.buf.length > 0
    · exact Or.inl h0
    · have h00 : cfg.capa - o.buf.length = 0 := by omega
      rw [h00, List.take_zero, List.append_nil] at hfl
      exact Or.inr (flush_work hfl (by intro h; rw [h] at h00; simp at h00; omega))
  | case4 bs o hlt =>
    intro hl
    exact ⟨[], rfl, Wrote.nil hl, fun _ => by show o.buf.length + bs.length < cfg.capa; omega⟩

theorem writeBchars_spec (cfg : Cfg) (bs : List UInt8) (o : OutSt) (hl : o.buf.length ≤ cfg.capa) :
    Wrote cfg bs o (writeBchars cfg bs o).1 (writeBchars cfg bs o).2 := by
  unfold writeBchars
  by_cases hfull : o.buf.length ≥ cfg.capa
  · rw [if_pos hfull]
    exact Wrote.refuse (by omega)
  · rw [if_neg hfull]
    obtain ⟨p, hp, hw, hfin⟩ := writeBBig_spec cfg (by omega) bs o hl
    generalize writeBBig cfg bs o = r at hp hw hfin ⊢
    obtain ⟨rest, o1, res⟩ := r
    subst hp
    cases res with
    | some e => exact hw.stop
    | none =>
      have hfit := hfin rfl
      simp only
      by_cases hnl : (!cfg.noAutoFlush && decide ((0x0A : UInt8) ∈ rest)) = true
      · rw [if_pos hnl]
        rcases hfl : flush { o1 with buf := o1.buf ++ rest } with ⟨o3, _ | cnt⟩ <;>
          exact hw.seq (Wrote.stageFlush (Nat.le_of_lt hfit) hfl)
      · rw [if_neg hnl]
        exact hw.seq (Wrote.stage hfit)

theorem writeBcstrLoop_spec (cfg : Cfg) (hl : cfg.legacy = false) :
    ∀ (bs : List UInt8) (o : OutSt) (nl : Bool), o.buf.length ≤ cfg.capa →
      Wrote cfg bs o (writeBcstrLoop cfg bs o nl).1 (writeBcstrLoop cfg bs o nl).2.2 := by
  intro bs
  induction bs with
  | nil => intro o nl h; exact Wrote.nil h
  | cons b rest ih =>
    intro o nl h
    rw [writeBcstrLoop]
    by_cases hfull : o.buf.length ≥ cfg.capa
    · rw [if_pos hfull, hl]
      exact Wrote.refuse (by omega)
    · rw [if_neg hfull]
      simp only
      by_cases hf1 : (o.buf ++ [b]).length ≥ cfg.capa
      · rw [if_pos hf1]
        rcases hfl : flush { o with buf := o.buf ++ [b] } with ⟨o2, _ | cnt⟩
        · exact (Wrote.stageFlush (cfg := cfg) (bs := [b]) (by simp; omega) hfl).stop
        · have hs := Wrote.stageFlush (cfg := cfg) (bs := [b]) (by simp; omega) hfl
          exact hs.seq (ih o2 false hs.len)
      · rw [if_neg hf1]
        have hs := Wrote.stage (cfg := cfg) (o := o) (bs := [b]) (by simp at hf1 ⊢; omega)
        exact hs.seq (ih _ _ hs.len)

theorem writeBcstr_spec (cfg : Cfg) (hl : cfg.legacy = false) (bs : List UInt8) (o : OutSt) (h : o.buf.length ≤ cfg.capa) :
    Wrote cfg (bs.takeWhile (· ≠ 0)) o (writeBcstr cfg bs o).1 (writeBcstr cfg bs o).2 := by
  unfold writeBcstr
  by_cases hfull : o.buf.length ≥ cfg.capa
  · rw [if_pos hfull]
    exact Wrote.refuse (by omega)
  · rw [if_neg hfull]
    have h := writeBcstrLoop_spec cfg hl (bs.takeWhile (· ≠ 0)) o false h
    generalize writeBcstrLoop cfg (bs.takeWhile (· ≠ 0)) o false = r at h ⊢
    obtain ⟨o', nl', res⟩ := r
    cases res with
    | some e => exact h
    | none =>
      cases nl' with
      | false => exact h
      | true =>
        simp only [if_true]
        rcases hfl : flush o' with ⟨o2, _ | cnt⟩ <;> exact h.closing hfl

inductive WOp
  | u (ws : List Nat)      -- hawk_tio_writeuchars
  | b (bs : List UInt8)    -- hawk_tio_writebchars
  | fl                     -- hawk_tio_flush
deriving Repr, DecidableEq

/-- the bytes a call is asked to put on the stream -/
def WOp.text (cm : Cmgr) : WOp → List UInt8
  | .u ws => encodeAllC cm ws
  | .b bs => bs
  | .fl => []

def WOp.bmp (dom : Nat → Prop) : WOp → Prop
  | .u ws => Dom dom ws
  | _ => True

/-- one call: new state and "the call reported success" (a return value ≥ 0) -/
def runOp (cfg : Cfg) : WOp → OutSt → OutSt × Bool
  | .u ws, o => ((writeUchars cfg ws o).1, (writeUchars cfg ws o).2.isNone)
  | .b bs, o => ((writeBchars cfg bs o).1, (writeBchars cfg bs o).2.isNone)
  | .fl, o => ((flush o).1, (flush o).2.isSome)

/-- a caller that goes on after failures -/
def runOps (cfg : Cfg) : List WOp → OutSt → OutSt × List Bool
  | [], o => (o, [])
  | op :: rest, o => ((runOps cfg rest (runOp cfg op o).1).1, (runOp cfg op o).2 :: (runOps cfg rest (runOp cfg op o).1).2)

/-- `ps` says how much of each call's text entered the stream: all of it when the call reported success, a prefix of it
when the call reported failure -/
def PartsOk (cm : Cmgr) : List WOp → List Bool → List (List UInt8) → Prop
  | [], [], [] => True
  | op :: ops, ok :: oks, p :: ps => p <+: op.text cm ∧ (ok = true → p = op.text cm) ∧ PartsOk cm ops oks ps
  | _, _, _ => False

theorem runOp_spec {cm : Cmgr} {dom : Nat → Prop} {maxlen : Nat} (hok : CodecOk cm dom maxlen) (cfg : Cfg) (hmgr : cfg.cm = cm) (hc : maxlen ≤ cfg.capa) (op : WOp) (o : OutSt) (hb : op.bmp dom)
    (hl : o.buf.length ≤ cfg.capa) :
    ∃ res, (runOp cfg op o).2 = res.isNone ∧ Wrote cfg (op.text cm) o (runOp cfg op o).1 res := by
  cases op with
  | u ws => exact ⟨_, rfl, writeUchars_spec hok cfg hmgr hc ws o hb hl⟩
  | b bs => exact ⟨_, rfl, writeBchars_spec cfg bs o hl⟩
  | fl =>
    refine ⟨_, ?_, (Wrote.nil hl).closing (r := (flush o).2) rfl⟩
    show (flush o).2.isSome = _
    cases (flush o).2 <;> rfl

theorem runOps_spec {cm : Cmgr} {dom : Nat → Prop} {maxlen : Nat} (hok : CodecOk cm dom maxlen) (cfg : Cfg) (hmgr : cfg.cm = cm) (hc : maxlen ≤ cfg.capa) :
    ∀ (ops : List WOp) (o : OutSt), (∀ op ∈ ops, op.bmp dom) → o.buf.length ≤ cfg.capa →
      ∃ ps, PartsOk cm ops (runOps cfg ops o).2 ps ∧ Grew cfg o (runOps cfg ops o).1 ps.flatten ∧
        ((∀ x ∈ o.script, isAcc x) → o.buf.length < cfg.capa → ∀ ok ∈ (runOps cfg ops o).2, ok = true) := by
  intro ops
  induction ops with
  | nil => intro o _ hl; exact ⟨[], trivial, by simpa [runOps] using Grew.refl cfg o hl, fun _ _ ok h => by simp [runOps] at h⟩
  | cons op rest ih =>
    intro o hb hl
    obtain ⟨res, hres, hw⟩ := runOp_spec hok cfg hmgr hc op o (hb op (by simp)) hl
    obtain ⟨p, h1, h2, h3⟩ := hw.part
    obtain ⟨ps, h5, h6, h7⟩ := ih (runOp cfg op o).1 (fun x hx => hb x (by simp [hx])) h1.len
    refine ⟨p :: ps, ⟨h2, fun h => h3 (by simpa [hres] using h), h5⟩, by simpa [runOps] using h1.trans h6, fun ha hlt ok hok => ?_⟩
    obtain ⟨a, b, c⟩ := hw.live ha hlt
    simp only [runOps, List.mem_cons] at hok
    rcases hok with rfl | hok
    · rw [hres, a]; rfl
    · exact h7 c b ok hok

theorem runOps_b (cfg : Cfg) (segs : List (List UInt8)) (o : OutSt) :
    (runOps cfg (segs.map WOp.b) o).1 = segs.foldl (fun o bs => (writeBchars cfg bs o).1) o := by
  induction segs generalizing o with
  | nil => rfl
  | cons bs rest ih => exact ih _

theorem partsOk_all (cm : Cmgr) (ops : List WOp) : ∀ (oks : List Bool) (ps : List (List UInt8)), PartsOk cm ops oks ps →
    (∀ ok ∈ oks, ok = true) → ps.flatten = (ops.map (WOp.text cm)).flatten := by
  intro oks ps h hall
  fun_induction PartsOk cm ops oks ps with
  | case1 => rfl
  | case2 op ops ok oks p ps ih =>
    obtain ⟨_, h2, h3⟩ := h
    simp [h2 (hall ok (by simp)), ih h3 (fun x hx => hall x (by simp [hx]))]
  | case3 => exact h.elim

theorem partsOk_prefix (cm : Cmgr) (ops : List WOp) : ∀ (oks : List Bool) (ps : List (List UInt8)), PartsOk cm ops oks ps →
    ps.length = ops.length ∧ ps.flatten.length ≤ ((ops.map (WOp.text cm)).flatten).length := by
  intro oks ps h
  fun_induction PartsOk cm ops oks ps with
  | case1 => simp
  | case2 op ops ok oks p ps ih =>
    obtain ⟨h1, _, h3⟩ := h
    obtain ⟨a, b⟩ := ih h3
    have := h1.length_le
    simp at b ⊢; omega
  | case3 => exact h.elim

/-- a sequence of `hawk_tio_writeuchars` calls (`fst` = state, `snd` = whether every call succeeded) -/
def writeMany (cfg : Cfg) (segs : List (List Nat)) (o : OutSt) : OutSt × Bool :=
  ((runOps cfg (segs.map WOp.u) o).1, (runOps cfg (segs.map WOp.u) o).2.all id)

theorem encodeAll_flatten (cm : Cmgr) (segs : List (List Nat)) :
    ((segs.map WOp.u).map (WOp.text cm)).flatten = encodeAllC cm segs.flatten := by
  induction segs with
  | nil => simp [encodeAllC_nil]
  | cons ws rest ih => simp only [List.map_cons, List.flatten_cons, ih, encodeAllC_append, WOp.text]

end Hawk.Tio
