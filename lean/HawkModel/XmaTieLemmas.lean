import HawkModel.XmaClass
import HawkModel.CTieLemmas
import HawkModel.Gen.CFunsXma
/-!
  For Props/C20Tie.lean: the translated szlog2 (Gen/CFunsXma.lean) seen as six conditional steps, and each
  step related to the model's `szStep`.  `gen_szlog2_eq` is closed by `rfl`: it holds exactly as long as the generated
  definition has this shape with these masks and shift counts.
-/
namespace Hawk.Xma.Tie
open Hawk.Xma

/-- one `if ((n & (~0 << (BITS-k))) == 0) { x -= k; n <<= k; }` of the translated szlog2 (`m` is the folded mask).
    The pair is rebuilt in the `else` branch as the translation does it: with `else p` the `rfl` below has to
    eta-expand the pair at each of the six levels, which is slow to check. -/
def cstep (k m : Nat) (p : Int × Nat) : Int × Nat :=
  if p.2 &&& m = 0 then (((p.1 - (k : Int)) + 2147483648) % 4294967296 - 2147483648, (p.2 <<< k) % 18446744073709551616)
  else (p.1, p.2)

/-- the last one, `if ((n & (~0 << (BITS-1))) == 0) { x -= 1; }` -/
def clast (m : Nat) (p : Int × Nat) : Int :=
  if p.2 &&& m = 0 then ((p.1 - 1) + 2147483648) % 4294967296 - 2147483648 else p.1

theorem clast_eq (m : Nat) (p : Int × Nat) : clast m p = (cstep 1 m p).1 := by
  unfold clast cstep
  split <;> rfl

theorem gen_szlog2_eq (n : Nat) :
    Hawk.Gen.C.szlog2 n = Int.toNat ((clast 9223372036854775808 (cstep 2 13835058055282163712 (cstep 4 17293822569102704640
      (cstep 8 18374686479671623680 (cstep 16 18446462598732840960 (cstep 32 18446744069414584320 (((63 : Nat) : Int), n))))))) % 18446744073709551616) := rfl

/-- On a state of the model's search (`SzInv` bounds the exponent from below, so the `int` neither wraps nor goes
    negative, and keeps the word below 2^64) the translated step is `szStep`. -/
theorem step_ok {n k m : Nat} {p : Nat × Nat} (h : SzInv n (2 * k) p) (hm : m = (2 ^ k - 1) <<< (64 - k)) :
    cstep k m ((p.1 : Int), p.2) = (((szStep k p).1 : Int), (szStep k p).2) := by
  have hr := h.room
  have hl : p.1 + 1 ≤ 64 := h.le
  have hc := CTie.and_mask64_eq_zero p.2 (64 - k) m (by omega) (by rw [Nat.sub_sub_self (by omega)]; exact hm) h.lt
  have hB : BITS = 64 := rfl
  have hW : WORD = 18446744073709551616 := by decide
  unfold cstep szStep
  simp only [hB, hW, hc, Nat.shiftLeft_eq]
  split
  · congr 1
    omega
  · rfl

end Hawk.Xma.Tie
