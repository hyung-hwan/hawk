import HawkModel.DeparseLemmas
/-!
  `norm` respects the equivalence, keeps `WFparse`, and its image prints stably; `chain_depth`: the parentheses of a printed
  left-leaning operator chain nest as deep as the chain is long (finding `deparse-nesting-depth`).
-/
namespace Hawk.Deparse
open Hawk.Gen.Precedence

def intVal : Ast → Option Int
  | .int v _ => some v
  | _ => none

mutual
theorem canon_norm : (a : Ast) → canon (norm a) = canon a
  | .int v none => by by_cases hv : v < 0 <;> simp [norm, hv, canon]
  | .int _ (some _) | .lit _ _ | .var _ => by simp [norm]
  | .idx _ l | .call _ l | .grp l => by simp [norm, canon, canonL_normL l]
  | .pos e | .incpre _ e | .incpst _ e => by simp [norm, canon, canon_norm e]
  | .bin _ l r | .ass _ l r => by simp [norm, canon, canon_norm l, canon_norm r]
  | .unr op e => by
    have ih := canon_norm e
    simp only [norm, canon]
    rw [← ih]
    cases h : norm e <;> simp [canon]
    all_goals (split <;> simp_all)
  | .cnd c l r => by simp [norm, canon, canon_norm c, canon_norm l, canon_norm r]
theorem canonL_normL : (l : AstL) → canonL (normL l) = canonL l
  | .nil => by simp [normL]
  | .cons a t => by simp [normL, canonL, canon_norm a, canonL_normL t]
end

theorem norm_unr_of_not_int (op : UnrOp) (y : Ast) (h : (norm y).isInt = false) : norm (.unr op y) = .unr op (norm y) := by
  simp only [norm]
  cases hn : norm y <;> simp_all [Ast.isInt]

theorem norm_unr (op : UnrOp) (y : Ast) :
    (∃ v t, norm y = .int v t ∧ norm (.unr op y) = .int (foldUnrInt op v) none) ∨
    ((norm y).isInt = false ∧ norm (.unr op y) = .unr op (norm y)) := by
  simp only [norm]
  cases norm y with
  | int v t => exact .inl ⟨v, t, rfl, rfl⟩
  | _ => exact .inr ⟨rfl, rfl⟩

theorem norm_norm_isInt : (a : Ast) → (norm (norm a)).isInt = (norm a).isInt
  | .int v none => by by_cases hv : v < 0 <;> simp [norm, hv, Ast.isInt]
  | .unr op e => by
    rcases norm_unr op e with ⟨v, t, _, hu⟩ | ⟨h', hu⟩
    · rw [hu]
      by_cases hf : foldUnrInt op v < 0 <;> simp [norm, hf, Ast.isInt]
    · rw [hu, norm_unr_of_not_int op (norm e) (by rw [norm_norm_isInt e]; exact h')]
      simp [Ast.isInt]
  | .int _ (some _) | .lit _ _ | .var _ | .idx _ _ | .call _ _ | .grp _ | .pos _ | .bin _ _ _ | .incpre _ _ | .incpst _ _
  | .cnd _ _ _ | .ass _ _ _ => by simp [norm, Ast.isInt]

theorem norm_norm_isNum (a : Ast) : (norm (norm a)).isNum = (norm a).isNum := by
  simp only [Ast.isNum, norm_norm_isInt, norm_isFlt]

theorem normL_length : (l : AstL) → (normL l).length = l.length
  | .nil => rfl
  | .cons a t => by simp [normL, AstL.length, normL_length t]

theorem normL_ne_nil (l : AstL) (h : l ≠ .nil) : normL l ≠ .nil := by
  cases l with
  | nil => exact absurd rfl h
  | cons a t => simp [normL]

theorem fold_range (op : UnrOp) (v : Int) (h1 : -9223372036854775808 ≤ v) (h2 : v < 9223372036854775808) :
    -9223372036854775808 ≤ foldUnrInt op v ∧ foldUnrInt op v < 9223372036854775808 := by
  cases op
  · simp only [foldUnrInt]; omega
  · simp only [foldUnrInt, wrap64]; omega
  · simp only [foldUnrInt]; split <;> omega
  · simp only [foldUnrInt]; omega

mutual
theorem WFparse_norm : (a : Ast) → WFparse a → WFparse (norm a)
  | .int v none, h => by
    simp only [WFparse] at h
    by_cases hv : v < 0
    · simp only [norm, hv, if_true, WFparse]; exact h
    · simp only [norm, hv, if_false, WFparse]; omega
  | .int v (some t), h | .lit k s, h => by simpa [norm] using h
  | .var n, _ => by simp [norm, WFparse]
  | .idx n ix, h => by
    simp only [WFparse] at h
    simp only [norm, WFparse]; exact ⟨WFparseL_norm ix h.1, normL_ne_nil ix h.2⟩
  | .call n args, h => by
    simp only [WFparse] at h
    simp only [norm, WFparse]; exact WFparseL_norm args h
  | .grp b, h => by
    simp only [WFparse] at h
    simp only [norm, WFparse]; exact ⟨WFparseL_norm b h.1, by rw [normL_length]; exact h.2⟩
  | .pos e, h => by
    simp only [WFparse] at h
    simp only [norm, WFparse]; exact WFparse_norm e h
  | .bin op l r, h => by
    simp only [WFparse] at h
    simp only [norm, WFparse]
    refine ⟨WFparse_norm l h.1, WFparse_norm r h.2.1, ?_, ?_⟩
    · rw [norm_norm_isNum, norm_norm_isNum]; exact h.2.2.1
    · intro e; rw [norm_isVar]; exact h.2.2.2 e
  | .unr op e, h => by
    simp only [WFparse] at h
    have ih := WFparse_norm e h.1
    rcases norm_unr op e with ⟨v, t, hv, hu⟩ | ⟨_, hu⟩
    · rw [hu]
      rw [hv] at ih
      simp only [WFparse]
      cases t with
      | none => simp only [WFparse] at ih; exact fold_range op v ih.1 ih.2
      | some t => simp only [WFparse] at ih; exact fold_range op v (by omega) ih.2
    · rw [hu]
      simp only [WFparse]; exact ⟨ih, by rw [norm_isFlt]; exact h.2⟩
  | .incpre op e, h | .incpst op e, h => by
    simp only [WFparse] at h
    simp only [norm, WFparse]; exact ⟨WFparse_norm e h.1, norm_varpos e h.2⟩
  | .cnd c l r, h => by
    simp only [WFparse] at h
    simp only [norm, WFparse]; exact ⟨WFparse_norm c h.1, WFparse_norm l h.2.1, WFparse_norm r h.2.2⟩
  | .ass op l r, h => by
    simp only [WFparse] at h
    simp only [norm, WFparse]; exact ⟨WFparse_norm l h.1, WFparse_norm r h.2.1, norm_varpos l h.2.2⟩
theorem WFparseL_norm : (l : AstL) → WFparseL l → WFparseL (normL l)
  | .nil, _ => by simp [normL, WFparseL]
  | .cons a t, h => by
    simp only [WFparseL] at h
    simp only [normL, WFparseL]; exact ⟨WFparse_norm a h.1, WFparseL_norm t h.2⟩
end

theorem printP_norm_int (f : Int) : printP (norm (.int f none)) = printP (.int f none) := by
  by_cases hf : f < 0 <;> simp [norm, hf, printP, natTok]

mutual
theorem printP_norm_norm : (a : Ast) → printP (norm (norm a)) = printP (norm a)
  | .int v none => by by_cases hv : v < 0 <;> simp [norm, hv]
  | .int _ (some _) | .lit _ _ | .var _ => by simp [norm]
  | .idx _ l | .call _ l | .grp l => by simp [norm, printP, printL_norm_norm l]
  | .pos e | .incpre _ e | .incpst _ e => by simp [norm, printP, printP_norm_norm e]
  | .bin _ l r | .ass _ l r => by simp [norm, printP, norm_isAss, printP_norm_norm l, printP_norm_norm r]
  | .unr op e => by
    have ih := printP_norm_norm e
    rcases norm_unr op e with ⟨v, t, _, hu⟩ | ⟨h', hu⟩
    · rw [hu]; exact printP_norm_int _
    · rw [hu, norm_unr_of_not_int op (norm e) (by rw [norm_norm_isInt]; exact h')]
      simp [printP, ih]
  | .cnd c l r => by simp [norm, printP, printP_norm_norm c, printP_norm_norm l, printP_norm_norm r]
theorem printL_norm_norm : (l : AstL) → printL (normL (normL l)) = printL (normL l)
  | .nil => by simp [normL]
  | .cons a .nil => by simp [normL, printL, printP_norm_norm a]
  | .cons a (.cons b t) => by
    have := printL_norm_norm (.cons b t)
    simp only [normL] at this ⊢
    simp [printL, printP_norm_norm a, this]
end

/-- (current, maximal) parenthesis depth after reading a token -/
def depthStep (st : Nat × Nat) (t : Tok) : Nat × Nat :=
  if t.k == .LPAREN then (st.1 + 1, max st.2 (st.1 + 1))
  else if t.k == .RPAREN then (st.1 - 1, st.2)
  else st

def parenDepth (ts : List Tok) : Nat := (ts.foldl depthStep (0, 0)).2

/-- `a + a + ... + a` with `n` operators, as parse_binary's loop builds it (left-leaning) -/
def chain : Nat → Ast
  | 0 => .var "a"
  | n + 1 => .bin .PLUS (chain n) (.var "a")

theorem chain_depth (n : Nat) (c m : Nat) (hcm : c ≤ m) :
    (print (chain n)).foldl depthStep (c, m) = (c, max m (c + n)) := by
  induction n generalizing c m with
  | zero =>
    simp only [chain, print_var, List.foldl_cons, List.foldl_nil, depthStep, Nat.add_zero]
    simp only [show ((TK.IDENT == TK.LPAREN) = false) from by decide, show ((TK.IDENT == TK.RPAREN) = false) from by decide,
      Bool.false_eq_true, if_false]
    rw [Prod.mk.injEq]; exact ⟨rfl, by omega⟩
  | succ n ih =>
    have h1 : depthStep (c, m) tLP = (c + 1, max m (c + 1)) := by simp [depthStep, tLP_k]
    have h2 : ∀ st : Nat × Nat, depthStep st (binTok .PLUS) = st := by
      intro st; have : (binTok .PLUS).k = .PLUS := by decide
      simp [depthStep, this]
    have h3 : ∀ st : Nat × Nat, depthStep st { k := TK.IDENT, s := "a" } = st := by intro st; simp [depthStep]
    have h4 : ∀ a b : Nat, depthStep (a + 1, b) tRP = (a, b) := by intro a b; simp [depthStep, tRP_k]
    have hp : print (chain (n + 1)) = tLP :: ((print (chain n) ++ [binTok .PLUS, { k := TK.IDENT, s := "a" }]) ++ [tRP]) := by
      have e1 : opnd (chain n) = print (chain n) := opnd_nonass _ (by cases n <;> rfl)
      have e2 : opnd (.var "a") = print (.var "a") := opnd_nonass _ rfl
      simp only [chain, print_bin, e1, e2, print_var]
    rw [hp, List.foldl_cons, h1, List.foldl_append, List.foldl_append, ih _ _ (by omega)]
    simp only [List.foldl_cons, List.foldl_nil, h2, h3, h4]
    exact congrArg (Prod.mk c) (by omega)

end Hawk.Deparse
