import HawkModel.Xma
/-! `szlog2` is the floor of log2 on non-zero machine words (`SzInv` is the invariant of its binary search); a fixed size
    class holds one aligned size -/
namespace Hawk.Xma

theorem bdec_eq : bdec = 9 := by decide

/-- What szlog2's search knows about its state `p = (x, m)` once the steps down to width `j` are done: `m` is `n` shifted
    left by `BITS - 1 - x` places with no bit lost, and the highest set bit of `m` is among the top `j` bits. -/
structure SzInv (n j : Nat) (p : Nat × Nat) : Prop where
  shift : p.2 = n * 2 ^ (BITS - 1 - p.1)
  room : j ≤ p.1 + 1
  le : p.1 + 1 ≤ BITS
  top : 2 ^ (BITS - j) ≤ p.2
  lt : p.2 < 2 ^ BITS

theorem SzInv.init {n : Nat} (h1 : n < 2 ^ BITS) (h2 : 1 ≤ n) : SzInv n BITS (BITS - 1, n) :=
  ⟨by simp, Nat.le_refl BITS, Nat.le_refl BITS, by simpa using h2, h1⟩

theorem SzInv.step {n k : Nat} {p : Nat × Nat} (h : SzInv n (2 * k) p) : SzInv n k (szStep k p) := by
  have hk : 2 * k ≤ BITS := Nat.le_trans h.room h.le
  unfold szStep
  split
  next hz =>
    have hlt : p.2 < 2 ^ (BITS - k) := (Nat.div_eq_zero_iff_lt (Nat.two_pow_pos _)).mp hz
    have hm : p.2 * 2 ^ k < 2 ^ BITS := by
      have := Nat.mul_lt_mul_of_pos_right hlt (Nat.two_pow_pos k)
      rwa [← Nat.pow_add, Nat.sub_add_cancel (by omega)] at this
    have hr := h.room
    have hl := h.le
    refine ⟨?_, by show k ≤ p.1 - k + 1; omega, by show p.1 - k + 1 ≤ BITS; omega, ?_, ?_⟩
    · show p.2 * 2 ^ k % WORD = n * 2 ^ (BITS - 1 - (p.1 - k))
      rw [WORD, Nat.mod_eq_of_lt hm, h.shift, Nat.mul_assoc, ← Nat.pow_add]
      congr 2
      omega
    · show 2 ^ (BITS - k) ≤ p.2 * 2 ^ k % WORD
      rw [WORD, Nat.mod_eq_of_lt hm]
      have := Nat.mul_le_mul_right (2 ^ k) h.top
      rwa [← Nat.pow_add, show BITS - 2 * k + k = BITS - k by omega] at this
    · exact Nat.mod_lt _ (Nat.two_pow_pos _)
  next hz =>
    have hge : 2 ^ (BITS - k) ≤ p.2 := by
      rcases Nat.lt_or_ge p.2 (2 ^ (BITS - k)) with c | c
      · exact absurd ((Nat.div_eq_zero_iff_lt (Nat.two_pow_pos _)).mpr c) hz
      · exact c
    exact ⟨h.shift, by have := h.room; omega, h.le, hge, h.lt⟩

theorem SzInv.floor_log2 {n : Nat} {p : Nat × Nat} (h : SzInv n 1 p) : 2 ^ p.1 ≤ n ∧ n < 2 ^ (p.1 + 1) := by
  have hs : 0 < 2 ^ (BITS - 1 - p.1) := Nat.two_pow_pos _
  have hl := h.le
  constructor
  · apply Nat.le_of_mul_le_mul_right _ hs
    rw [← Nat.pow_add, show p.1 + (BITS - 1 - p.1) = BITS - 1 by omega, ← h.shift]
    exact h.top
  · apply Nat.lt_of_mul_lt_mul_right (a := 2 ^ (BITS - 1 - p.1))
    rw [← Nat.pow_add, show p.1 + 1 + (BITS - 1 - p.1) = BITS by omega, ← h.shift]
    exact h.lt

theorem szlog2_eq {n : Nat} (h : n < 2 ^ 64) :
    szlog2 n = (szStep 1 (szStep 2 (szStep 4 (szStep 8 (szStep 16 (szStep 32 (63, n))))))).1 := by
  have e : szlog2 n = (szStep 1 (szStep 2 (szStep 4 (szStep 8 (szStep 16 (szStep 32 (63, n % 2 ^ 64))))))).1 := rfl
  rw [e, Nat.mod_eq_of_lt h]

theorem szlog2_spec (n : Nat) (h1 : n < 2^64) (h2 : 1 ≤ n) : 2 ^ szlog2 n ≤ n ∧ n < 2 ^ (szlog2 n + 1) := by
  rw [szlog2_eq h1]
  exact (SzInv.init h1 h2).step (k := 32) |>.step (k := 16) |>.step (k := 8) |>.step (k := 4) |>.step (k := 2)
    |>.step (k := 1) |>.floor_log2

theorem szlog2_ge (n : Nat) (h1 : n < 2^64) (h2 : 512 ≤ n) : 9 ≤ szlog2 n ∧ szlog2 n ≤ 63 := by
  have ⟨lo, hi⟩ := szlog2_spec n h1 (by omega)
  have a : 2 ^ 9 < 2 ^ (szlog2 n + 1) := Nat.lt_of_le_of_lt h2 hi
  have b : 2 ^ szlog2 n < 2 ^ 64 := Nat.lt_of_le_of_lt lo h1
  rw [Nat.pow_lt_pow_iff_right (by decide)] at a b
  omega

theorem getxfi_small {x : Nat} (h2 : ALIGN ≤ x) (h3 : x < WORD) (h4 : getxfi x < FIXED) :
    getxfi x = x / ALIGN - 1 := by
  by_cases c1 : (x / ALIGN + WORD - 1) % WORD ≥ FIXED
  · exfalso
    have hge : getxfi x ≥ FIXED := by
      unfold getxfi
      simp only
      rw [if_pos c1]
      have hx : 512 ≤ x := by simp only [ALIGN, WORD, BITS, FIXED] at *; omega
      have := szlog2_ge x (by simpa [WORD, BITS] using h3) hx
      by_cases c2 : (szlog2 x + WORD - bdec + FIXED) % WORD > XFIMAX
      · rw [if_pos c2]; decide
      · rw [if_neg c2, bdec_eq]; simp only [WORD, BITS, FIXED]; omega
    omega
  · unfold getxfi
    simp only
    rw [if_neg c1]
    by_cases c2 : (x / ALIGN + WORD - 1) % WORD > XFIMAX
    · exfalso; simp only [ALIGN, WORD, BITS, FIXED, XFIMAX, NCLS] at *; omega
    · rw [if_neg c2]; simp only [ALIGN, WORD, BITS] at *; omega

/-- a block filed in the fixed class of an aligned request size holds at least that many bytes (the block itself need not
    be aligned: the last block of a caller-supplied zone of odd size is not) -/
theorem fixed_class_ge {a b : Nat} (ha2 : ALIGN ≤ a)
    (hb1 : b % ALIGN = 0) (hb2 : ALIGN ≤ b) (hb3 : b < WORD) (h : getxfi a = getxfi b) (hf : getxfi b < FIXED) : b ≤ a := by
  rcases Nat.lt_or_ge a WORD with ha3 | ha3
  · have e1 := getxfi_small hb2 hb3 hf
    have e2 := getxfi_small ha2 ha3 (by rw [h]; exact hf)
    rw [e1, e2] at h
    simp only [ALIGN] at *
    omega
  · omega

theorem fixed_class_exact {a b : Nat} (ha1 : a % ALIGN = 0) (ha2 : ALIGN ≤ a) (ha3 : a < WORD)
    (hb1 : b % ALIGN = 0) (hb2 : ALIGN ≤ b) (hb3 : b < WORD) (h : getxfi a = getxfi b) (hf : getxfi b < FIXED) : a = b :=
  Nat.le_antisymm (fixed_class_ge hb2 ha1 ha2 ha3 h.symm (by rw [h]; exact hf)) (fixed_class_ge ha2 hb1 hb2 hb3 h hf)

end Hawk.Xma
