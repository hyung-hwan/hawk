import HawkModel.Utf8Lemmas
/-!
`CodecOk cm dom maxlen` collects what the loops of utl.c and the staging of tio.c need from a `hawk_cmgr_t`: on the characters
of `dom` the encoder produces between 1 and `maxlen` bytes and reports a too small buffer by its return value, the decoder
undoes the encoder whatever follows, and answers "incomplete" (a return value greater than the size) for a proper prefix of
an encoding.  The three built-in managers satisfy it (`codecOk_utf8`, `codecOk_mb8`, `codecOk_utf16`: the repaired utf16).
-/
open Hawk.Gen Hawk.Utf8
namespace Hawk.Utf8

def Dom (dom : Nat → Prop) (cs : List Nat) : Prop := ∀ c ∈ cs, dom c

theorem Dom.of_cons {dom : Nat → Prop} {c : Nat} {cs : List Nat} (h : Dom dom (c :: cs)) : dom c ∧ Dom dom cs :=
  List.forall_mem_cons.mp h

def BMP (cs : List Nat) : Prop := ∀ c ∈ cs, c < 65536

structure CodecOk (cm : Cmgr) (dom : Nat → Prop) (maxlen : Nat) : Prop where
  enc_size : ∀ c, dom c → ∀ size, cm.uctobc c size =
    if (encodeC cm c).length ≤ size then ⟨(encodeC cm c).length, some (encodeC cm c)⟩ else ⟨(encodeC cm c).length, none⟩
  enc_len : ∀ c, dom c → 1 ≤ (encodeC cm c).length ∧ (encodeC cm c).length ≤ maxlen
  dec_enc : ∀ c, dom c → ∀ t, cm.bctouc (encodeC cm c ++ t) = .ok ((encodeC cm c).length, c)
  dec_prefix : ∀ c, dom c → ∀ p q, p ++ q = encodeC cm c → p ≠ [] → q ≠ [] →
    ∃ w, cm.bctouc p = .ok ((encodeC cm c).length, w)

/-- the decoder never faults on a non-empty input -/
def DecTotal (cm : Cmgr) : Prop := ∀ s, s ≠ [] → ∃ r, cm.bctouc s = .ok r

theorem encodeAllC_cons (cm : Cmgr) (c : Nat) (cs : List Nat) : encodeAllC cm (c :: cs) = encodeC cm c ++ encodeAllC cm cs := by
  simp [encodeAllC]

theorem encodeAllC_nil (cm : Cmgr) : encodeAllC cm [] = [] := rfl

theorem encodeAllC_append (cm : Cmgr) (a b : List Nat) : encodeAllC cm (a ++ b) = encodeAllC cm a ++ encodeAllC cm b := by
  simp [encodeAllC]

theorem encC_ne_nil {cm : Cmgr} {dom : Nat → Prop} {maxlen : Nat} (hok : CodecOk cm dom maxlen) (c : Nat) (h : dom c) :
    encodeC cm c ≠ [] :=
  List.ne_nil_of_length_pos (hok.enc_len c h).1

theorem enc_ret {cm : Cmgr} {dom : Nat → Prop} {maxlen : Nat} (hok : CodecOk cm dom maxlen) (c : Nat) (h : dom c) (size : Nat) :
    (cm.uctobc c size).ret = (encodeC cm c).length := by
  rw [hok.enc_size c h size]
  split <;> rfl

theorem encodeAll_eq (tbl : List Utf8Row) (cs : List Nat) : encodeAll tbl cs = encodeAllC (utf8Cmgr tbl) cs := rfl

theorem convUpto_nil (cm : Cmgr) (stopper wcap : Nat) : convUpto cm stopper wcap [] = .ok (0, 0, []) := by
  rw [convUpto]; simp

theorem convUpto_step (cm : Cmgr) (stopper wcap : Nat) (s : List UInt8) (n w : Nat) (hs : s ≠ [])
    (hd : cm.bctouc s = .ok (n, w)) :
    convUpto cm stopper wcap s =
      if n = 0 then .ok (-1, 0, [])
      else if n > s.length then .ok (-3, 0, [])
      else if wcap = 0 then .ok (0, 0, [])
      else if w = stopper then .ok (0, n, [w])
      else
        match convUpto cm stopper (wcap - 1) (s.drop n) with
        | .error f => .error f
        | .ok (x, m, out) => .ok (x, n + m, w :: out) := by
  rw [convUpto, dif_neg hs]
  simp only [hd, dite_eq_ite]
  rfl

/-- `convUpto` on the part `m` of an encoding whose remainder `rest` has not arrived yet (in tio: the staged bytes, and what the
handler will still deliver) -/
theorem convUpto_wf {cm : Cmgr} {dom : Nat → Prop} {maxlen : Nat} (hok : CodecOk cm dom maxlen) (stopper : Nat) : ∀ (cs : List Nat), Dom dom cs → ∀ (m rest : List UInt8) (wcap : Nat),
    m ++ rest = encodeAllC cm cs →
    ∃ x mlen out cs', convUpto cm stopper wcap m = .ok (x, mlen, out) ∧ cs = out ++ cs' ∧ mlen ≤ m.length ∧
      m.drop mlen ++ rest = encodeAllC cm cs' ∧ (x = 0 ∨ x = -3) ∧
      (x = -3 → ∃ c cs'', cs' = c :: cs'' ∧ (m.drop mlen).length < (encodeC cm c).length) ∧
      (x = 0 → out = [] → m = [] ∨ wcap = 0) := by
  intro cs
  induction cs with
  | nil =>
    intro _ m rest wcap h
    simp [encodeAllC_nil] at h
    obtain ⟨rfl, rfl⟩ := h
    exact ⟨0, 0, [], [], convUpto_nil .., by simp [encodeAllC_nil]⟩
  | cons c cs1 ih =>
    intro hb m rest wcap h
    obtain ⟨hc, hb1⟩ := hb.of_cons
    rw [encodeAllC_cons] at h
    by_cases hm : m = []
    · subst hm
      refine ⟨0, 0, [], c :: cs1, convUpto_nil .., ?_⟩
      simp at h; simp [encodeAllC_cons, h]
    · have hel := hok.enc_len c hc
      have hn0 : (encodeC cm c).length ≠ 0 := by omega
      -- either m stops inside the first character, or that character is complete in m
      obtain ⟨q, hq, hqne⟩ | ⟨m1, rfl, hrest⟩ :
          (∃ q, m ++ q = encodeC cm c ∧ q ≠ []) ∨ (∃ m1, m = encodeC cm c ++ m1 ∧ m1 ++ rest = encodeAllC cm cs1) := by
        rcases List.append_eq_append_iff.mp h with ⟨a, h1, h2⟩ | ⟨a, h1, h2⟩
        · by_cases ha : a = []
          · subst ha
            exact Or.inr ⟨[], by simpa using h1.symm, by simpa using h2⟩
          · exact Or.inl ⟨a, h1.symm, ha⟩
        · exact Or.inr ⟨a, h1, h2.symm⟩
      · have hlt : m.length < (encodeC cm c).length := by
          have := List.length_pos_iff.mpr hqne
          rw [← hq, List.length_append]; omega
        obtain ⟨w0, hd⟩ := hok.dec_prefix c hc m q hq hm hqne
        refine ⟨-3, 0, [], c :: cs1, ?_, ?_⟩
        · rw [convUpto_step _ _ _ _ _ _ hm hd, if_neg hn0, if_pos hlt]
        · simp [encodeAllC_cons, h, hm, hlt]
      · have hlt : ¬ (encodeC cm c ++ m1).length < (encodeC cm c).length := by simp
        have hd := hok.dec_enc c hc m1
        have hdropm : (encodeC cm c ++ m1).drop (encodeC cm c).length = m1 := List.drop_left ..
        by_cases hw : wcap = 0
        · refine ⟨0, 0, [], c :: cs1, ?_, ?_⟩
          · rw [convUpto_step _ _ _ _ _ _ hm hd, if_neg hn0, if_neg hlt, if_pos hw]
          · simp [encodeAllC_cons, h, hw]
        · by_cases hst : c = stopper
          · refine ⟨0, (encodeC cm c).length, [c], cs1, ?_, ?_⟩
            · rw [convUpto_step _ _ _ _ _ _ hm hd, if_neg hn0, if_neg hlt, if_neg hw, if_pos hst]
            · refine ⟨rfl, by simp, ?_, Or.inl rfl, by simp, by simp⟩
              rw [hdropm]; exact hrest
          · obtain ⟨x, mlen, out, cs', hconv, hcs, hml, hdrop, hx, hx3, hx0⟩ := ih hb1 m1 rest (wcap - 1) hrest
            have hdrop2 : (encodeC cm c ++ m1).drop ((encodeC cm c).length + mlen) = m1.drop mlen := by
              rw [← List.drop_drop, hdropm]
            refine ⟨x, (encodeC cm c).length + mlen, c :: out, cs', ?_, ?_⟩
            · rw [convUpto_step _ _ _ _ _ _ hm hd, if_neg hn0, if_neg hlt, if_neg hw, if_neg hst, hdropm, hconv]
            · refine ⟨by simp [hcs], ?_, ?_, hx, ?_, by simp⟩
              · simp; omega
              · rw [hdrop2]; exact hdrop
              · intro h3
                obtain ⟨c', cs'', h1, h2⟩ := hx3 h3
                exact ⟨c', cs'', h1, by rw [hdrop2]; exact h2⟩

theorem convUpto_total (cm : Cmgr) (hdec : DecTotal cm) (stopper wcap : Nat) (s : List UInt8) :
      ∃ x mlen out, convUpto cm stopper wcap s = .ok (x, mlen, out) ∧ out.length ≤ wcap ∧ out.length ≤ mlen ∧
        mlen ≤ s.length ∧ (x = 0 ∨ x = -1 ∨ x = -3) ∧ (x ≠ 0 → mlen < s.length) ∧ (out = [] → mlen = 0) := by
  fun_induction convUpto cm stopper wcap s with
  | case1 wcap | case5 s hs n w hd h0 h1 =>
    exact ⟨0, 0, [], rfl, Nat.zero_le _, Nat.le_refl _, Nat.zero_le _, Or.inl rfl, fun h => absurd rfl h, fun _ => rfl⟩
  | case2 wcap s hs f hf =>
    obtain ⟨r, hr⟩ := hdec s hs
    rw [hf] at hr; cases hr
  | case3 wcap s hs w hd | case4 wcap s hs n w hd h0 h1 =>
    have := List.length_pos_iff.mpr hs
    exact ⟨_, 0, [], rfl, Nat.zero_le _, Nat.le_refl _, Nat.zero_le _, by decide, fun _ => this, fun _ => rfl⟩
  | case6 wcap s hs n h0 h1 hw hd =>
    exact ⟨0, n, [stopper], rfl, Nat.pos_of_ne_zero hw, Nat.pos_of_ne_zero h0, Nat.le_of_not_gt h1, Or.inl rfl, fun h => absurd rfl h, by simp⟩
  | case7 wcap s hs n w hd h0 h1 hw hst f hf ih =>
    obtain ⟨x, m, out, hc, _⟩ := ih
    rw [hf] at hc; cases hc
  | case8 wcap s hs n w hd h0 h1 hw hst x m out hc ih =>
    obtain ⟨x', m', out', hc', ho1, ho2, hm, hx, hxn, _⟩ := ih
    rw [hc] at hc'; cases hc'
    refine ⟨x, n + m, w :: out, rfl, by simp; omega, by simp; omega, by simp at hm; omega, hx, ?_, by simp⟩
    intro hne; have := hxn hne; simp at this; omega

theorem convUtoB_dom {cm : Cmgr} {dom : Nat → Prop} {maxlen : Nat} (hok : CodecOk cm dom maxlen) : ∀ (ws : List Nat), Dom dom ws →
    ∀ (rem : Nat) (x : Int) (k : Nat) (bs : List UInt8), convUtoB cm ws rem = (x, k, bs) →
      encodeAllC cm ws = bs ++ encodeAllC cm (ws.drop k) ∧ bs.length ≤ rem ∧
      ((x = 0 ∧ k = ws.length) ∨
       (x = -2 ∧ ∃ c rest, ws.drop k = c :: rest ∧ rem - bs.length < (encodeC cm c).length)) := by
  intro ws
  induction ws with
  | nil => intro _ rem x k bs h; cases h; exact ⟨rfl, Nat.zero_le _, Or.inl ⟨rfl, rfl⟩⟩
  | cons c cs ih =>
    intro hb rem x k bs h
    obtain ⟨hc, hb1⟩ := hb.of_cons
    have hel := hok.enc_len c hc
    rw [convUtoB] at h
    by_cases hr : rem = 0
    · rw [if_pos hr] at h; cases h
      exact ⟨rfl, Nat.zero_le _, Or.inr ⟨rfl, c, cs, rfl, by omega⟩⟩
    · rw [if_neg hr] at h
      simp only [hok.enc_size c hc rem] at h
      by_cases hfit : (encodeC cm c).length ≤ rem
      · simp only [if_pos hfit] at h
        rw [if_neg (by omega), if_neg (by omega)] at h
        rcases hcv : convUtoB cm cs (rem - (encodeC cm c).length) with ⟨x', k', bs'⟩
        rw [hcv] at h; cases h
        obtain ⟨hsplit, hlen, hx⟩ := ih hb1 _ _ _ _ hcv
        refine ⟨by rw [encodeAllC_cons, hsplit]; simp, by simp; omega, ?_⟩
        rcases hx with ⟨rfl, rfl⟩ | ⟨rfl, c2, rest, hd, hlt⟩
        · exact Or.inl ⟨rfl, rfl⟩
        · exact Or.inr ⟨rfl, c2, rest, hd, by simp; omega⟩
      · simp only [if_neg hfit] at h
        rw [if_neg (by omega), if_pos (by omega)] at h; cases h
        exact ⟨rfl, Nat.zero_le _, Or.inr ⟨rfl, c, cs, rfl, by omega⟩⟩

theorem convUtoB_room {cm : Cmgr} {dom : Nat → Prop} {maxlen : Nat} (hok : CodecOk cm dom maxlen) (ws : List Nat) (hb : Dom dom ws)
    (rem : Nat) (hr : (encodeAllC cm ws).length ≤ rem) : convUtoB cm ws rem = (0, ws.length, encodeAllC cm ws) := by
  rcases h : convUtoB cm ws rem with ⟨x, k, bs⟩
  obtain ⟨hsplit, hlen, hx⟩ := convUtoB_dom hok ws hb rem x k bs h
  rcases hx with ⟨rfl, rfl⟩ | ⟨rfl, c, rest, hd, hlt⟩
  · rw [List.drop_length, encodeAllC_nil, List.append_nil] at hsplit
    rw [hsplit]
  · exfalso
    rw [hd, encodeAllC_cons] at hsplit
    have := congrArg List.length hsplit
    simp only [List.length_append] at this
    omega

theorem convBtoU_nil (cm : Cmgr) (all : Bool) (wcap : Nat) : convBtoU cm all wcap [] = .ok (0, 0, []) := by
  rw [convBtoU]; simp

theorem convBtoU_step (cm : Cmgr) (all : Bool) (wcap : Nat) (s : List UInt8) (n w : Nat) (hs : s ≠ []) (hw : wcap ≠ 0)
    (hd : cm.bctouc s = .ok (n, w)) :
    convBtoU cm all wcap s =
      if n = 0 ∨ n > s.length then
        if all then
          match convBtoU cm all (wcap - 1) (s.drop 1) with
          | .error f => .error f
          | .ok (x, m, out) => .ok (x, 1 + m, 0x3F :: out)
        else .ok (if n = 0 then -1 else -3, 0, [])
      else
        match convBtoU cm all (wcap - 1) (s.drop n) with
        | .error f => .error f
        | .ok (x, m, out) => .ok (x, n + m, w :: out) := by
  rw [convBtoU, dif_neg hs, if_neg hw]
  simp only [hd]
  rfl

theorem convBtoU_wf {cm : Cmgr} {dom : Nat → Prop} {maxlen : Nat} (hok : CodecOk cm dom maxlen) (all : Bool) : ∀ (cs : List Nat), Dom dom cs → ∀ (wcap : Nat), cs.length ≤ wcap →
    convBtoU cm all wcap (encodeAllC cm cs) = .ok (0, (encodeAllC cm cs).length, cs) := by
  intro cs
  induction cs with
  | nil => intro _ wcap _; simp [encodeAllC_nil, convBtoU_nil]
  | cons c cs ih =>
    intro hb wcap hw
    obtain ⟨hc, hb1⟩ := hb.of_cons
    have hel := hok.enc_len c hc
    have hw' : cs.length + 1 ≤ wcap := by simpa using hw
    have hne : encodeC cm c ++ encodeAllC cm cs ≠ [] := by simp [encC_ne_nil hok c hc]
    rw [encodeAllC_cons]
    rw [convBtoU_step cm all wcap _ _ _ hne (by omega) (hok.dec_enc c hc _), if_neg (by rw [List.length_append]; omega)]
    simp only [List.drop_left]
    rw [ih hb1 (wcap - 1) (by omega)]
    simp

theorem convBtoUCount_nil (cm : Cmgr) (all : Bool) : convBtoUCount cm all [] = .ok (0, 0, 0) := by
  rw [convBtoUCount]; simp

theorem convBtoUCount_step (cm : Cmgr) (all : Bool) (s : List UInt8) (n w : Nat) (hs : s ≠ [])
    (hd : cm.bctouc s = .ok (n, w)) :
    convBtoUCount cm all s =
      if n = 0 ∨ n > s.length then
        if all then
          match convBtoUCount cm all (s.drop 1) with
          | .error f => .error f
          | .ok (x, m, k) => .ok (x, 1 + m, k + 1)
        else .ok (if n = 0 then -1 else -3, 0, 0)
      else
        match convBtoUCount cm all (s.drop n) with
        | .error f => .error f
        | .ok (x, m, k) => .ok (x, n + m, k + 1) := by
  rw [convBtoUCount, dif_neg hs]
  simp only [hd]
  rfl

theorem convBtoU_two_passes (cm : Cmgr) (hdec : DecTotal cm) (all : Bool) (s : List UInt8) :
      ∃ x m k, convBtoUCount cm all s = .ok (x, m, k) ∧ (x = 0 ∨ x = -1 ∨ x = -3) ∧ m ≤ s.length ∧ k ≤ m ∧
        (all = true → x = 0 ∧ m = s.length) ∧
        (x = 0 → ∃ out, convBtoU cm all k s = .ok (0, m, out) ∧ out.length = k) := by
  fun_induction convBtoUCount cm all s with
  | case1 =>
    exact ⟨0, 0, 0, rfl, Or.inl rfl, Nat.le_refl _, Nat.le_refl _, fun _ => ⟨rfl, rfl⟩, fun _ => ⟨[], convBtoU_nil .., rfl⟩⟩
  | case2 s hs f hf =>
    obtain ⟨r, hr⟩ := hdec s hs
    rw [hf] at hr; cases hr
  | case3 s hs n w hd hbad hall f hf ih | case6 s hs n w hd hgood f hf ih =>
    obtain ⟨x, m, k, hc, _⟩ := ih
    rw [hf] at hc; cases hc
  | case4 s hs n w hd hbad hall x m k hc ih =>
    obtain ⟨x', m', k', hc', hx, hm, hk, hal, hconv⟩ := ih
    rw [hc] at hc'; cases hc'
    have hpos := List.length_pos_iff.mpr hs
    refine ⟨x, 1 + m, k + 1, rfl, hx, by simp at hm; omega, by omega,
      fun _ => ⟨(hal hall).1, by have := (hal hall).2; simp at this; omega⟩, fun hx0 => ?_⟩
    obtain ⟨out, ho, hl⟩ := hconv hx0
    refine ⟨0x3F :: out, ?_, by simp [hl]⟩
    rw [convBtoU_step cm all (k + 1) s n w hs (by omega) hd, if_pos hbad, if_pos hall]
    simp only [Nat.add_sub_cancel, ho]
  | case5 s hs n w hd hbad hall =>
    refine ⟨_, 0, 0, rfl, ?_, Nat.zero_le _, Nat.le_refl _, fun h => absurd h hall, fun hx => ?_⟩
    · by_cases h0 : n = 0 <;> simp [h0]
    · by_cases h0 : n = 0 <;> simp [h0] at hx
  | case7 s hs n w hd hgood x m k hc ih =>
    obtain ⟨x', m', k', hc', hx, hm, hk, hal, hconv⟩ := ih
    rw [hc] at hc'; cases hc'
    refine ⟨x, n + m, k + 1, rfl, hx, by simp at hm; omega, by omega,
      fun ha => ⟨(hal ha).1, by have := (hal ha).2; simp at this; omega⟩, fun hx0 => ?_⟩
    obtain ⟨out, ho, hl⟩ := hconv hx0
    refine ⟨w :: out, ?_, by simp [hl]⟩
    rw [convBtoU_step cm all (k + 1) s n w hs (by omega) hd, if_neg hgood]
    simp only [Nat.add_sub_cancel, ho]

theorem dupBtoU_spec (cm : Cmgr) (hdec : DecTotal cm) (all : Bool) (s : List UInt8) :
    (∃ out, dupBtoU cm all s = .ok (.ok out) ∧ out.length ≤ s.length) ∨ (all = false ∧ dupBtoU cm all s = .ok .eecerr) := by
  obtain ⟨x, m, k, hc, hx, hm, hk, hal, hconv⟩ := convBtoU_two_passes cm hdec all s
  unfold dupBtoU
  rw [hc]
  simp only
  by_cases hx0 : x = 0
  · subst hx0
    obtain ⟨out, ho, hl⟩ := hconv rfl
    left
    refine ⟨out, ?_, by omega⟩
    rw [if_neg (by decide), ho]
    simp [hl]
  · right
    have hall : all = false := by
      cases all with
      | false => rfl
      | true => exact absurd (hal rfl).1 hx0
    refine ⟨hall, ?_⟩
    rcases hx with rfl | rfl | rfl
    · exact absurd rfl hx0
    · rfl
    · rfl

theorem convBtoUCount_wf {cm : Cmgr} {dom : Nat → Prop} {maxlen : Nat} (hok : CodecOk cm dom maxlen) (all : Bool) :
    ∀ (cs : List Nat), Dom dom cs → convBtoUCount cm all (encodeAllC cm cs) = .ok (0, (encodeAllC cm cs).length, cs.length) := by
  intro cs
  induction cs with
  | nil => intro _; simp [encodeAllC_nil, convBtoUCount_nil]
  | cons c cs ih =>
    intro hb
    obtain ⟨hc, hb1⟩ := hb.of_cons
    have hel := hok.enc_len c hc
    have hne : encodeC cm c ++ encodeAllC cm cs ≠ [] := by simp [encC_ne_nil hok c hc]
    have hnb : ¬ ((encodeC cm c).length = 0 ∨ (encodeC cm c).length > (encodeC cm c ++ encodeAllC cm cs).length) := by
      intro h; rcases h with h | h
      · omega
      · simp at h; omega
    rw [encodeAllC_cons, convBtoUCount_step cm all _ _ _ hne (hok.dec_enc c hc _), if_neg hnb]
    simp only [List.drop_left]
    rw [ih hb1]
    simp

theorem dupBtoU_wf {cm : Cmgr} {dom : Nat → Prop} {maxlen : Nat} (hok : CodecOk cm dom maxlen) (all : Bool) (cs : List Nat)
    (hb : Dom dom cs) : dupBtoU cm all (encodeAllC cm cs) = .ok (.ok cs) := by
  unfold dupBtoU
  rw [convBtoUCount_wf hok all cs hb]
  simp only
  rw [if_neg (by decide), convBtoU_wf hok all cs hb cs.length (Nat.le_refl _)]
  simp

theorem convUtoBCount_append {cm : Cmgr} {dom : Nat → Prop} {maxlen : Nat} (hok : CodecOk cm dom maxlen) {rest : List Nat} {x : Int}
    {k n : Nat} (hr : convUtoBCount cm rest = (x, k, n)) : ∀ (pre : List Nat), Dom dom pre →
    convUtoBCount cm (pre ++ rest) = (x, k + pre.length, n + (encodeAllC cm pre).length) := by
  intro pre
  induction pre with
  | nil => intro _; exact hr
  | cons c cs ih =>
    intro hb
    obtain ⟨hc, hb1⟩ := hb.of_cons
    have hel := hok.enc_len c hc
    rw [List.cons_append, convUtoBCount]
    simp only [enc_ret hok c hc]
    rw [if_neg (by omega), ih hb1]
    simp [encodeAllC_cons]; omega

theorem convUtoBCount_dom {cm : Cmgr} {dom : Nat → Prop} {maxlen : Nat} (hok : CodecOk cm dom maxlen) (ws : List Nat) (hb : Dom dom ws) :
    convUtoBCount cm ws = (0, ws.length, (encodeAllC cm ws).length) := by
  simpa using convUtoBCount_append hok (rest := []) rfl ws hb

theorem dupUtoB_dom {cm : Cmgr} {dom : Nat → Prop} {maxlen : Nat} (hok : CodecOk cm dom maxlen) (ws : List Nat) (hb : Dom dom ws) :
    dupUtoB cm ws = .ok (encodeAllC cm ws) := by
  unfold dupUtoB
  rw [convUtoBCount_dom hok ws hb]
  simp only
  rw [if_neg (by decide), convUtoB_room hok ws hb _ (Nat.le_refl _)]
  simp

theorem dupUtoB_refuses {cm : Cmgr} {dom : Nat → Prop} {maxlen : Nat} (hok : CodecOk cm dom maxlen) (pre post : List Nat) (c : Nat)
    (hb : Dom dom pre) (hc : (cm.uctobc c bcsizeMax).ret = 0) : dupUtoB cm (pre ++ c :: post) = .eecerr := by
  have hr : convUtoBCount cm (c :: post) = (-1, 0, 0) := by rw [convUtoBCount, hc, if_pos rfl]
  unfold dupUtoB
  rw [convUtoBCount_append hok hr pre hb]
  rfl

theorem decTotal_utf8 (tbl : List Utf8Row) : DecTotal (utf8Cmgr tbl) := fun s hs =>
  let ⟨n, w, h, _⟩ := utf8ToUc_ok tbl s hs
  ⟨(n, w), h⟩

theorem decTotal_mb8 : DecTotal mb8Cmgr := by
  intro s hs
  have : 0 < s.length := List.length_pos_iff.mpr hs
  exact ⟨(1, s[0].toNat), by show mb8ToUc s = _; simp [mb8ToUc, rd_ok this]⟩

theorem decTotal_utf16 (legacy : Bool) : DecTotal (utf16Cmgr legacy) := by
  intro s _
  show ∃ r, utf16ToUc legacy s = .ok r
  unfold utf16ToUc
  by_cases h : s.length < 2
  · rw [if_pos h]; exact ⟨_, rfl⟩
  · rw [if_neg h, rd_ok (by omega : 0 < s.length), rd_ok (by omega : 1 < s.length)]
    simp only
    split <;> exact ⟨_, rfl⟩

theorem codecOk_utf8 : CodecOk (utf8Cmgr T) (fun c => c < 65536) 3 where
  enc_size := fun c hc size => ucToUtf8_size c hc size
  enc_len := fun c hc => enc_len c hc
  dec_enc := fun c hc t => dec_enc_append c hc t
  dec_prefix := fun c hc p q hpq hp hq => ⟨0, dec_prefix c hc p q hpq hp hq⟩

theorem encodeC_mb8 (c : Nat) (hc : c < 256) : encodeC mb8Cmgr c = [UInt8.ofNat c] := by
  simp [encodeC, ucToMb8, bcsizeMax, show ¬ c > 255 by omega]

theorem codecOk_mb8 : CodecOk mb8Cmgr (fun c => c < 256) 1 where
  enc_size := by
    intro c hc size
    rw [encodeC_mb8 c hc]
    show ucToMb8 c size = _
    unfold ucToMb8
    by_cases h0 : size = 0
    · subst h0; simp
    · simp [h0, show ¬ c > 255 by omega]
  enc_len := by intro c hc; rw [encodeC_mb8 c hc]; simp
  dec_enc := by
    intro c hc t
    rw [encodeC_mb8 c hc]
    show mb8ToUc ([UInt8.ofNat c] ++ t) = _
    simp [mb8ToUc, rd]
    omega
  dec_prefix := by
    intro c hc p q hpq hp hq
    rw [encodeC_mb8 c hc] at hpq
    have := congrArg List.length hpq
    have : 0 < p.length := List.length_pos_iff.mpr hp
    have : 0 < q.length := List.length_pos_iff.mpr hq
    simp at *; omega

/-- the characters the utf16 manager of the 16-bit build carries: every 16-bit value that is not a surrogate code unit -/
def utf16Dom (c : Nat) : Prop := c < 65536 ∧ (c < 0xD800 ∨ c > 0xDFFF)

theorem encodeC_utf16 (c : Nat) (hc : c < 65536) :
    encodeC (utf16Cmgr false) c = [UInt8.ofNat (c % 256), UInt8.ofNat (c / 256)] := by
  simp [encodeC, ucToUtf16, bcsizeMax, show c ≤ 65535 by omega]

theorem utf16ToUc_unit (c : Nat) (hc : c < 65536) (t : List UInt8) :
    utf16ToUc false (UInt8.ofNat (c % 256) :: UInt8.ofNat (c / 256) :: t) =
      if c < 0xD800 ∨ c > 0xDFFF then .ok (2, c) else .ok (0, 0) := by
  have h1 : c % 256 + 256 * (c / 256 % 256) = c := by omega
  rw [utf16ToUc, if_neg (by simp)]
  simp [rd, h1]

theorem codecOk_utf16 : CodecOk (utf16Cmgr false) utf16Dom 2 where
  enc_size := by
    intro c hc size
    rw [encodeC_utf16 c hc.1]
    show ucToUtf16 false c size = _
    simp [ucToUtf16, show c ≤ 65535 by have := hc.1; omega]
  enc_len := by intro c hc; rw [encodeC_utf16 c hc.1]; simp
  dec_enc := by
    intro c hc t
    rw [encodeC_utf16 c hc.1]
    exact (utf16ToUc_unit c hc.1 t).trans (if_pos hc.2)
  dec_prefix := by
    intro c hc p q hpq hp hq
    rw [encodeC_utf16 c hc.1] at hpq ⊢
    have hl := congrArg List.length hpq
    have : 0 < p.length := List.length_pos_iff.mpr hp
    have : 0 < q.length := List.length_pos_iff.mpr hq
    simp at hl
    refine ⟨0, ?_⟩
    show utf16ToUc false p = _
    unfold utf16ToUc
    rw [if_pos (by omega)]
    simp

end Hawk.Utf8
