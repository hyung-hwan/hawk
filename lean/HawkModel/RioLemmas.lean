import HawkModel.Rio
/-!
# Observations on the handler call log (the vocabulary of `Props/C05.lean`) and one contract per function of `Rio.lean`

A function that calls the handler but never for a WRITE has the contract `Run` (`Keeps` from state to state, `Surfaces`
for the result), one write `Wrote`, the writes of one `print` `WrotePieces`, a statement `StmtRun`.  The theorems about
histories and programs are inductions that use the contracts of `step` and `stmt`.
-/
namespace Hawk.Rio

/-- the characters the handler took in this call, if it is a WRITE to key `k` -/
def Ev.slice (k : Key) : Ev → List Char
  | .wr _ k' _ off (.accept n) => if k' = k then off.take (n + 1) else []
  | _ => []

/-- everything the handler accepted for key `k`, oldest first -/
def delivered (k : Key) : List Ev → List Char
  | [] => []
  | e :: older => delivered k older ++ e.slice k

def Ev.isOpen (k : Key) : Ev → Bool
  | .opn _ k' _ true => decide (k' = k)
  | _ => false

/-- a full CLOSE of key `k` after which the runtime forgets the stream: the handler agreed,
or the call came from `hawk_rtx_clearallios` (which frees the node whatever the reply) -/
def Ev.isFullClose (k : Key) : Ev → Bool
  | .cl _ k' .full ok forced => decide (k' = k) && (ok || forced)
  | _ => false

def opens (k : Key) (log : List Ev) : Nat := log.countP (Ev.isOpen k)
def closes (k : Key) (log : List Ev) : Nat := log.countP (Ev.isFullClose k)

def keys (c : List Strm) : List Key := c.map (·.key)
def sids (c : List Strm) : List Nat := c.map (·.sid)

/-- scanning from the newest event: the stream currently registered under key `k` last said
"end of stream" to a WRITE, and neither a successful NEXT has re-armed it nor has it been fully
closed since -/
def eofPending (k : Key) : List Ev → Bool
  | [] => false
  | .wr _ k' _ _ .eof :: older => if k' = k then true else eofPending k older
  | .nx _ k' (.accept _) :: older => if k' = k then false else eofPending k older
  | .cl _ k' .full ok forced :: older => if k' = k ∧ (ok || forced) = true then false else eofPending k older
  | _ :: older => eofPending k older

def NoWriteAfterEof : List Ev → Prop
  | [] => True
  | .wr _ k _ _ _ :: older => eofPending k older = false ∧ NoWriteAfterEof older
  | _ :: older => NoWriteAfterEof older

/-- scanning from the newest event: a FLUSH of `sid` is met before any WRITE to `sid`
(or `sid` was never written to) -/
def flushedSinceWrite (sid : Nat) : List Ev → Bool
  | [] => true
  | .fl sid' _ _ :: older => if sid' = sid then true else flushedSinceWrite sid older
  | .wr sid' _ _ _ _ :: older => if sid' = sid then false else flushedSinceWrite sid older
  | _ :: older => flushedSinceWrite sid older

def AllAccept (ρ : Nat → Reply) : Prop := ∀ i, ∃ k, ρ i = .accept k

def FailedBetween (ρ : Nat → Reply) (s s' : St) : Prop := ∃ i, s.calls ≤ i ∧ i < s'.calls ∧ ρ i = .fail

def FailedIn (ρ : Nat → Reply) (a b : Nat) : Prop := ∃ i, a ≤ i ∧ i < b ∧ ρ i = .fail

theorem failedBetween_iff (ρ : Nat → Reply) (s s' : St) : FailedBetween ρ s s' ↔ FailedIn ρ s.calls s'.calls := Iff.rfl

def EofIn (ρ : Nat → Reply) (a b : Nat) : Prop := ∃ i, a ≤ i ∧ i < b ∧ ρ i = .eof

inductive Pointwise {α β : Type} (R : α → β → Prop) : List α → List β → Prop
  | nil : Pointwise R [] []
  | cons {a : α} {b : β} {as : List α} {bs : List β} : R a b → Pointwise R as bs → Pointwise R (a :: as) (b :: bs)

@[simp] theorem emit_chain (s : St) (e : Ev) : (s.emit e).chain = s.chain := rfl
@[simp] theorem emit_log (s : St) (e : Ev) : (s.emit e).log = e :: s.log := rfl
@[simp] theorem emit_calls (s : St) (e : Ev) : (s.emit e).calls = s.calls + 1 := rfl
@[simp] theorem emit_nopen (s : St) (e : Ev) : (s.emit e).nopen = s.nopen := rfl

@[simp] theorem hasKey_iff (k : Key) (x : Strm) : hasKey k x = true ↔ x.key = k := by simp [hasKey]

theorem findKey_some {c : List Strm} {k : Key} {x : Strm} (h : findKey c k = some x) : x ∈ c ∧ x.key = k := by
  unfold findKey at h
  exact ⟨List.mem_of_find?_eq_some h, by simpa using List.find?_some h⟩

theorem findKey_none {c : List Strm} {k : Key} (h : findKey c k = none) : k ∉ keys c := by
  unfold findKey at h
  simp only [keys, List.mem_map, not_exists, not_and]
  intro x hx hk
  have := List.find?_eq_none.mp h x hx
  simp [hk] at this

@[simp] theorem keys_cons (x : Strm) (c : List Strm) : keys (x :: c) = x.key :: keys c := rfl
@[simp] theorem sids_cons (x : Strm) (c : List Strm) : sids (x :: c) = x.sid :: sids c := rfl
@[simp] theorem keys_nil : keys [] = [] := rfl
@[simp] theorem keys_append (a b : List Strm) : keys (a ++ b) = keys a ++ keys b := by simp [keys]
theorem mem_keys {k : Key} {c : List Strm} : k ∈ keys c ↔ ∃ x ∈ c, x.key = k := by simp [keys]

theorem findKey_of_mem {c : List Strm} (hnd : (keys c).Nodup) {x : Strm} (hx : x ∈ c) : findKey c x.key = some x := by
  induction c with
  | nil => simp at hx
  | cons a as ih =>
    simp only [keys_cons, List.nodup_cons] at hnd
    unfold findKey
    rw [List.find?_cons]
    rcases List.mem_cons.mp hx with rfl | hx
    · simp [hasKey]
    · have : a.key ≠ x.key := fun h => hnd.1 (h ▸ mem_keys.mpr ⟨x, hx, rfl⟩)
      simp only [hasKey, this, decide_false]
      exact ih hnd.2 hx

theorem map_modifyFirst {β : Type} (g : Strm → β) (p : Strm → Bool) (f : Strm → Strm) (hf : ∀ x, g (f x) = g x)
    (c : List Strm) : (modifyFirst p f c).map g = c.map g := by
  induction c with
  | nil => rfl
  | cons x xs ih => unfold modifyFirst; split <;> simp [hf, ih]

theorem keys_modifyFirst (p : Strm → Bool) (f : Strm → Strm) (hf : ∀ x, (f x).key = x.key) (c : List Strm) :
    keys (modifyFirst p f c) = keys c :=
  map_modifyFirst _ p f hf c

theorem sids_modifyFirst (p : Strm → Bool) (f : Strm → Strm) (hf : ∀ x, (f x).sid = x.sid) (c : List Strm) :
    sids (modifyFirst p f c) = sids c :=
  map_modifyFirst _ p f hf c

theorem mem_modifyFirst {p : Strm → Bool} {f : Strm → Strm} {c : List Strm} {y : Strm}
    (h : y ∈ modifyFirst p f c) : y ∈ c ∨ ∃ x ∈ c, p x = true ∧ y = f x := by
  induction c with
  | nil => simp [modifyFirst] at h
  | cons x xs ih =>
    unfold modifyFirst at h
    split at h
    · rcases List.mem_cons.mp h with h | h
      · exact .inr ⟨x, by simp, by assumption, h⟩
      · exact .inl (by simp [h])
    · rcases List.mem_cons.mp h with h | h
      · exact .inl (by simp [h])
      · rcases ih h with h | ⟨x', hx', hp, hy⟩
        · exact .inl (by simp [h])
        · exact .inr ⟨x', by simp [hx'], hp, hy⟩

theorem modifyFirst_hits {p : Strm → Bool} {f : Strm → Strm} {c : List Strm} {x : Strm}
    (hx : x ∈ c) (hp : p x = true) : ∃ x' ∈ c, p x' = true ∧ f x' ∈ modifyFirst p f c := by
  induction c with
  | nil => simp at hx
  | cons a as ih =>
    unfold modifyFirst
    by_cases ha : p a = true
    · exact ⟨a, by simp, ha, by simp [ha]⟩
    · rcases List.mem_cons.mp hx with h | h
      · subst h; exact absurd hp ha
      · obtain ⟨x', hx', hp', hm⟩ := ih h
        exact ⟨x', by simp [hx'], hp', by simp [ha, hm]⟩

@[simp] theorem delivered_cons (k : Key) (e : Ev) (l : List Ev) : delivered k (e :: l) = delivered k l ++ e.slice k := rfl
@[simp] theorem opens_cons (k : Key) (e : Ev) (l : List Ev) :
    opens k (e :: l) = opens k l + (if e.isOpen k then 1 else 0) := by
  simp [opens, List.countP_cons]
@[simp] theorem closes_cons (k : Key) (e : Ev) (l : List Ev) :
    closes k (e :: l) = closes k l + (if e.isFullClose k then 1 else 0) := by
  simp [closes, List.countP_cons]

/-! ## neutral events: calls that neither open, fully close, write nor re-arm a stream -/

def Ev.neutral : Ev → Bool
  | .opn _ _ _ ok => !ok
  | .wr .. => false
  | .rd .. => true
  | .fl .. => true
  | .cl _ _ m ok forced => !(decide (m = .full) && (ok || forced))
  | .nx _ _ r => match r with | .accept _ => false | _ => true

theorem neutral_slice {e : Ev} (h : e.neutral = true) (k : Key) : e.slice k = [] := by
  cases e <;> simp_all [Ev.neutral, Ev.slice]

theorem neutral_isOpen {e : Ev} (h : e.neutral = true) (k : Key) : e.isOpen k = false := by
  cases e with
  | opn sid k' m ok => cases ok <;> simp_all [Ev.neutral, Ev.isOpen]
  | _ => simp [Ev.isOpen]

theorem neutral_isFullClose {e : Ev} (h : e.neutral = true) (k : Key) : e.isFullClose k = false := by
  cases e with
  | cl sid k' m ok forced => cases m <;> simp_all [Ev.neutral, Ev.isFullClose]
  | _ => simp [Ev.isFullClose]

theorem neutral_eofPending {e : Ev} (h : e.neutral = true) (k : Key) (l : List Ev) :
    eofPending k (e :: l) = eofPending k l := by
  cases e with
  | opn => simp [eofPending]
  | wr => simp [Ev.neutral] at h
  | rd => simp [eofPending]
  | fl => simp [eofPending]
  | cl sid k' m ok forced =>
    cases m <;> simp_all [Ev.neutral, eofPending]
  | nx sid k' r => cases r <;> simp_all [Ev.neutral, eofPending]

theorem neutral_nowae {e : Ev} (h : e.neutral = true) (l : List Ev) :
    NoWriteAfterEof (e :: l) ↔ NoWriteAfterEof l := by
  cases e <;> simp_all [Ev.neutral, NoWriteAfterEof]

/-! ## list surgery: where `find?` stops is where `modifyFirst` / `eraseP` act -/

theorem findKey_modifyFirst {c : List Strm} {k : Key} {x : Strm} (f : Strm → Strm) (hf : ∀ y, (f y).key = y.key)
    (h : findKey c k = some x) : findKey (modifyFirst (hasKey k) f c) k = some (f x) := by
  induction c with
  | nil => cases h
  | cons a as ih =>
    unfold findKey at h ih ⊢
    rw [modifyFirst]
    by_cases ha : hasKey k a = true
    · have : hasKey k (f a) = true := by simpa [hf] using ha
      rw [List.find?_cons_of_pos ha] at h
      rw [if_pos ha, List.find?_cons_of_pos this, ← Option.some.inj h]
    · rw [List.find?_cons_of_neg ha] at h
      rw [if_neg ha, List.find?_cons_of_neg ha]
      exact ih h

theorem perm_eraseP_of_find {p : Strm → Bool} {c : List Strm} {x : Strm} (h : c.find? p = some x) :
    c.Perm (x :: c.eraseP p) := by
  obtain ⟨hpx, as, bs, rfl, hall⟩ := List.find?_eq_some_iff_append.mp h
  rw [List.eraseP_append_right _ (by simpa using hall), List.eraseP_cons_of_pos hpx]
  exact List.perm_middle

theorem modifyFirst_split {p : Strm → Bool} (f : Strm → Strm) {as bs : List Strm} {x : Strm}
    (hx : p x = true) (hall : ∀ a ∈ as, p a = false) :
    modifyFirst p f (as ++ x :: bs) = as ++ f x :: bs := by
  induction as with
  | nil => simp [modifyFirst, hx]
  | cons a as ih =>
    have ha : p a = false := hall a (by simp)
    simp only [List.cons_append, modifyFirst, ha]
    rw [ih (fun y hy => hall y (by simp [hy]))]
    simp

/-! ## the invariant of reachable states -/

structure Inv (s : St) : Prop where
  nodup : (keys s.chain).Nodup
  /-- #OPEN − #full CLOSE is 1 for the keys in the chain and 0 for all others -/
  balance : ∀ k, opens k s.log = closes k s.log + (keys s.chain).count k
  /-- `out.eof` is latched while the handler's "end of stream" stands -/
  latched : ∀ x ∈ s.chain, eofPending x.key s.log = true → x.outEof = true
  /-- so that a node opened afresh, with `out.eof` clear, satisfies `latched` -/
  idle : ∀ k, k ∉ keys s.chain → eofPending k s.log = false
  nowae : NoWriteAfterEof s.log

theorem Inv.init : Inv St.init :=
  ⟨by simp [St.init, keys], by simp [St.init, opens, closes, keys], by simp [St.init], by simp [St.init, eofPending],
   by simp [St.init, NoWriteAfterEof]⟩

theorem Inv.balanced {s : St} (h : Inv s) (k : Key) :
    (keys s.chain).Nodup ∧
    (k ∈ keys s.chain → opens k s.log = closes k s.log + 1) ∧
    (k ∉ keys s.chain → opens k s.log = closes k s.log) := by
  refine ⟨h.nodup, fun hk => ?_, fun hk => ?_⟩
  · have h1 := List.nodup_iff_count.mp h.nodup k
    have h2 := List.count_pos_iff.mpr hk
    rw [h.balance k]
    omega
  · rw [h.balance k, List.count_eq_zero_of_not_mem hk]; rfl

theorem Inv.neutral {s s' : St} {e : Ev} (h : Inv s) (hlog : s'.log = e :: s.log) (he : e.neutral = true)
    (hkeys : keys s'.chain = keys s.chain)
    (hmono : ∀ y ∈ s'.chain, ∃ x ∈ s.chain, x.key = y.key ∧ (x.outEof = true → y.outEof = true)) : Inv s' := by
  refine ⟨by rw [hkeys]; exact h.nodup, ?_, ?_, ?_, ?_⟩
  · intro k
    rw [hlog, hkeys, opens_cons, closes_cons, neutral_isOpen he, neutral_isFullClose he]
    simpa using h.balance k
  · intro y hy hp
    obtain ⟨x, hx, hk, hm⟩ := hmono y hy
    rw [hlog, neutral_eofPending he, ← hk] at hp
    exact hm (h.latched x hx hp)
  · intro k hk
    rw [hlog, neutral_eofPending he]
    exact h.idle k (by rwa [hkeys] at hk)
  · rw [hlog, neutral_nowae he]; exact h.nowae

theorem Inv.opened {s s' : St} {x : Strm} {m : Nat} (h : Inv s) (hnew : x.key ∉ keys s.chain)
    (hlog : s'.log = .opn x.sid x.key m true :: s.log) (hchain : s'.chain = x :: s.chain) : Inv s' := by
  refine ⟨?_, ?_, ?_, ?_, ?_⟩
  · rw [hchain]; simpa using ⟨hnew, h.nodup⟩
  · intro k
    rw [hlog, hchain, opens_cons, closes_cons, h.balance k, keys_cons, List.count_cons]
    by_cases hk : x.key = k
    · subst hk; simp [Ev.isOpen, Ev.isFullClose]; omega
    · simp [Ev.isOpen, Ev.isFullClose, hk]
  · intro y hy hp
    rw [hlog] at hp
    simp only [eofPending] at hp
    rw [hchain] at hy
    rcases List.mem_cons.mp hy with rfl | hy
    · rw [h.idle _ hnew] at hp; cases hp
    · exact h.latched y hy hp
  · intro k hk
    rw [hlog]; simp only [eofPending]
    apply h.idle
    rw [hchain] at hk
    simp at hk ⊢
    exact hk.2
  · rw [hlog]; simpa [NoWriteAfterEof] using h.nowae

/-- one turn of `writeLoop`: the WRITE call answered `r` is logged, and on `eof` the node of `k` is marked -/
theorem Inv.wrote {s : St} {x : Strm} {k : Key} (h : Inv s) (hf : findKey s.chain k = some x) (hx : x.outEof = false)
    (sid : Nat) (b : Bool) (off : List Char) (r : Reply) :
    Inv (if r = .eof then { s.emit (.wr sid k b off r) with chain := modifyFirst (hasKey k) (fun y => { y with outEof := true }) s.chain }
         else s.emit (.wr sid k b off r)) := by
  obtain ⟨hxm, hxk⟩ := findKey_some hf
  have hnp : eofPending k s.log = false := by
    cases hp : eofPending k s.log with
    | false => rfl
    | true => rw [← hxk] at hp; rw [h.latched x hxm hp] at hx; cases hx
  by_cases hr : r = .eof
  · subst hr
    simp only [if_true]
    have hkeys : keys (modifyFirst (hasKey k) (fun y => { y with outEof := true }) s.chain) = keys s.chain :=
      keys_modifyFirst (hasKey k) (fun y => { y with outEof := true }) (fun _ => rfl) _
    have hnd : (keys (modifyFirst (hasKey k) (fun y => { y with outEof := true }) s.chain)).Nodup := by
      rw [hkeys]; exact h.nodup
    refine ⟨hnd, ?_, ?_, ?_, ?_⟩
    · intro k'; simp only [emit_log, opens_cons, closes_cons, hkeys]; simpa [Ev.isOpen, Ev.isFullClose] using h.balance k'
    · intro y hy hp
      simp only [emit_log, eofPending] at hp
      simp only at hy
      by_cases hky : k = y.key
      · -- the one node of key `k` is the node that was updated
        have h1 := findKey_of_mem hnd hy
        rw [← hky, findKey_modifyFirst (fun y => { y with outEof := true }) (fun _ => rfl) hf] at h1
        rw [← Option.some.inj h1]
      · simp only [hky, if_false] at hp
        rcases mem_modifyFirst hy with hy | ⟨x', -, hpx', rfl⟩
        · exact h.latched y hy hp
        · exact absurd ((hasKey_iff k x').mp hpx').symm hky
    · intro k' hk'
      simp only [emit_log, eofPending]
      rw [hkeys] at hk'
      have : ¬ k = k' := by
        intro hkk; subst hkk; exact hk' (mem_keys.mpr ⟨x, hxm, hxk⟩)
      simp only [this, if_false]
      exact h.idle k' hk'
    · simp only [emit_log, NoWriteAfterEof]; exact ⟨hnp, h.nowae⟩
  · simp only [hr, if_false]
    have hpe : ∀ k', eofPending k' ((Ev.wr sid k b off r) :: s.log) = eofPending k' s.log := by
      intro k'; cases r <;> simp_all [eofPending]
    refine ⟨h.nodup, ?_, ?_, ?_, ?_⟩
    · intro k'; simp [Ev.isOpen, Ev.isFullClose, h.balance k']
    · intro y hy hp
      simp only [emit_log, hpe] at hp
      exact h.latched y hy hp
    · intro k' hk'
      simp only [emit_log, hpe]; exact h.idle k' hk'
    · simp only [emit_log, NoWriteAfterEof]; exact ⟨hnp, h.nowae⟩

theorem Inv.closed {s : St} {p : Strm → Bool} {x : Strm} (h : Inv s) (hf : s.chain.find? p = some x)
    (ok forced : Bool) (hof : (ok || forced) = true) :
    Inv { s.emit (.cl x.sid x.key .full ok forced) with chain := s.chain.eraseP p } := by
  -- the chain is the closed node and what stays, in some order
  have hperm : (keys s.chain).Perm (x.key :: keys (s.chain.eraseP p)) := (perm_eraseP_of_find hf).map _
  obtain ⟨hxe, hnd⟩ := List.nodup_cons.mp (hperm.nodup_iff.mp h.nodup)
  refine ⟨hnd, ?_, ?_, ?_, ?_⟩
  · intro k
    show opens k (_ :: s.log) = closes k (_ :: s.log) + (keys (s.chain.eraseP p)).count k
    rw [opens_cons, closes_cons, h.balance k, hperm.count_eq k, List.count_cons]
    by_cases hk : x.key = k <;> simp [Ev.isOpen, Ev.isFullClose, hk, hof] <;> omega
  · intro y hy hp
    simp only [emit_log, eofPending] at hp
    by_cases hk : x.key = y.key
    · simp [hk, hof] at hp
    · simp only [hk, false_and, if_false] at hp
      exact h.latched y (List.mem_of_mem_eraseP hy) hp
  · intro k hk
    simp only [emit_log, eofPending]
    split
    · rfl
    · next hne =>
      refine h.idle k fun hkc => ?_
      rcases List.mem_cons.mp (hperm.mem_iff.mp hkc) with rfl | hkc
      · exact hne ⟨rfl, hof⟩
      · exact hk hkc
  · simpa [NoWriteAfterEof] using h.nowae

def NoFlags (s : St) : Prop := ∀ x ∈ s.chain, x.outEof = false ∧ x.outEos = false

theorem NoFlags.modify {s : St} (h : NoFlags s) (p : Strm → Bool) (f : Strm → Strm)
    (hf : ∀ x, x.outEof = false ∧ x.outEos = false → (f x).outEof = false ∧ (f x).outEos = false)
    {s' : St} (hc : s'.chain = modifyFirst p f s.chain) : NoFlags s' := by
  intro y hy
  rw [hc] at hy
  rcases mem_modifyFirst hy with hy | ⟨x, hx, -, rfl⟩
  · exact h y hy
  · exact hf x (h x hx)

theorem NoFlags.same {s s' : St} (h : NoFlags s) (hc : s'.chain = s.chain) : NoFlags s' := by
  intro y hy; rw [hc] at hy; exact h y hy

theorem noFlags_init : NoFlags St.init := by intro x hx; simp [St.init] at hx

/-- `s'` is reached from `s` by handler calls other than WRITE: the invariant goes through, no key receives anything,
and a handler that always accepts sets no "end of stream" flag -/
structure Keeps (ρ : Nat → Reply) (s s' : St) : Prop where
  inv : Inv s → Inv s'
  quiet : ∀ k, delivered k s'.log = delivered k s.log
  noFlags : AllAccept ρ → NoFlags s → NoFlags s'

namespace Keeps
variable {ρ : Nat → Reply}

theorem refl (s : St) : Keeps ρ s s := ⟨id, fun _ => rfl, fun _ hn => hn⟩

theorem trans {s s' s'' : St} (h : Keeps ρ s s') (h' : Keeps ρ s' s'') : Keeps ρ s s'' :=
  ⟨fun hi => h'.inv (h.inv hi), fun k => (h'.quiet k).trans (h.quiet k), fun hρ hn => h'.noFlags hρ (h.noFlags hρ hn)⟩

theorem emit {s : St} {e : Ev} (he : e.neutral = true) : Keeps ρ s (s.emit e) :=
  ⟨fun h => h.neutral (s' := s.emit e) rfl he rfl (fun y hy => ⟨y, hy, rfl, id⟩), fun k => by simp [neutral_slice he],
   fun _ hn => hn.same rfl⟩

theorem emit_modify {s : St} {e : Ev} (he : e.neutral = true)
    (p : Strm → Bool) (f : Strm → Strm) (hk : ∀ x, (f x).key = x.key) (ho : ∀ x, x.outEof = true → (f x).outEof = true)
    (hn : AllAccept ρ → ∀ x, x.outEof = false ∧ x.outEos = false → (f x).outEof = false ∧ (f x).outEos = false) :
    Keeps ρ s { s.emit e with chain := modifyFirst p f (s.emit e).chain } := by
  refine ⟨fun h => h.neutral (e := e) rfl he (keys_modifyFirst p f hk _) ?_, fun k => by simp [neutral_slice he],
    fun hρ h => h.modify p f (hn hρ) rfl⟩
  intro y hy
  rcases mem_modifyFirst hy with hy | ⟨x, hx, -, rfl⟩
  · exact ⟨y, hy, rfl, id⟩
  · exact ⟨x, hx, (hk x).symm, ho x⟩

/-- a successful NEXT for key `k` ends a pending "end of stream" of `k`; the node the search stopped at is updated by
`f`, which may clear `out.eof` only on a node of key `k` (the write side does, the read side touches `in.eof`) -/
theorem next_ok {s : St} {k : Key} (sid j : Nat) (p : Strm → Bool) (f : Strm → Strm)
    (hk : ∀ x, (f x).key = x.key) (ho : ∀ x, p x = true → x.key ≠ k → x.outEof = true → (f x).outEof = true)
    (hn : ∀ x, x.outEof = false ∧ x.outEos = false → (f x).outEof = false ∧ (f x).outEos = false) :
    Keeps ρ s { s.emit (.nx sid k (.accept j)) with chain := modifyFirst p f s.chain } := by
  refine ⟨fun h => ?_, fun k' => by simp [Ev.slice], fun _ h => h.modify p f hn rfl⟩
  have hkeys : keys (modifyFirst p f s.chain) = keys s.chain := keys_modifyFirst p f hk _
  refine ⟨by simpa [hkeys] using h.nodup, ?_, ?_, ?_, ?_⟩
  · intro k'; simp [Ev.isOpen, Ev.isFullClose, hkeys, h.balance k']
  · intro y hy hp
    simp only [emit_log, eofPending] at hp
    simp only at hy
    by_cases hky : k = y.key
    · simp [hky] at hp
    · simp only [hky, if_false] at hp
      rcases mem_modifyFirst hy with hy | ⟨x, hx, hpx, rfl⟩
      · exact h.latched y hy hp
      · rw [hk x] at hp hky
        exact ho x hpx (Ne.symm hky) (h.latched x hx hp)
  · intro k' hk'
    simp only [emit_log, eofPending]
    split
    · rfl
    · exact h.idle k' (by rwa [hkeys] at hk')
  · simpa [NoWriteAfterEof] using h.nowae

theorem closed {s : St} {p : Strm → Bool} {x : Strm} (hf : s.chain.find? p = some x) (ok forced : Bool)
    (hof : (ok || forced) = true) :
    Keeps ρ s { s.emit (.cl x.sid x.key .full ok forced) with chain := s.chain.eraseP p } :=
  ⟨fun h => h.closed hf ok forced hof, fun k => by simp [Ev.slice], fun _ hn y hy => hn y (List.mem_of_mem_eraseP hy)⟩

theorem opened {s s' : St} {x : Strm} {m : Nat} (hnew : x.key ∉ keys s.chain) (hx : x.outEof = false ∧ x.outEos = false)
    (hlog : s'.log = .opn x.sid x.key m true :: s.log) (hchain : s'.chain = x :: s.chain) : Keeps ρ s s' := by
  refine ⟨fun h => h.opened hnew hlog hchain, fun k => by simp [hlog, Ev.slice], fun _ hn y hy => ?_⟩
  rw [hchain] at hy
  rcases List.mem_cons.mp hy with rfl | hy
  · exact hx
  · exact hn y hy

end Keeps

/-- `r` is the outcome of a computation started in `s`: it has only added handler calls, and if one of them was answered
`fail` the result satisfies `bad` -/
structure Surfaces (ρ : Nat → Reply) {α : Type} (bad : α → Prop) (s : St) (r : St × α) : Prop where
  le : s.calls ≤ r.1.calls
  surfaces : FailedIn ρ s.calls r.1.calls → bad r.2

namespace Surfaces
variable {ρ : Nat → Reply} {α : Type} {bad : α → Prop} {s : St}

theorem none {x : α} : Surfaces ρ bad s (s, x) :=
  ⟨Nat.le_refl _, fun ⟨_, h1, h2, _⟩ => absurd h2 (Nat.not_lt.mpr h1)⟩

theorem of_bad {s' : St} {x : α} (hle : s.calls ≤ s'.calls) (h : bad x) : Surfaces ρ bad s (s', x) := ⟨hle, fun _ => h⟩

theorem call {s1 : St} {r : St × α} (hs : s1.calls = s.calls + 1) (hne : ρ s.calls ≠ .fail) (h : Surfaces ρ bad s1 r) :
    Surfaces ρ bad s r := by
  refine ⟨by have := h.le; omega, fun ⟨i, h1, h2, h3⟩ => h.surfaces ⟨i, ?_, h2, h3⟩⟩
  have : i ≠ s.calls := by rintro rfl; exact hne h3
  omega

theorem seq {β : Type} {bad₁ : β → Prop} {r₁ : St × β} {r : St × α} (h₁ : Surfaces ρ bad₁ s r₁)
    (h : Surfaces ρ bad r₁.1 r) (himp : bad₁ r₁.2 → bad r.2) : Surfaces ρ bad s r := by
  refine ⟨Nat.le_trans h₁.le h.le, fun ⟨i, h1, h2, h3⟩ => ?_⟩
  by_cases hi : i < r₁.1.calls
  · exact himp (h₁.surfaces ⟨i, h1, hi, h3⟩)
  · exact h.surfaces ⟨i, by omega, h2, h3⟩

end Surfaces

/-- The contract of a function of the model that calls the handler but never for a WRITE: the state it ends in is
`Keeps`-related to the one it started in, and a call answered `fail` on the way makes its result `bad`.  The rules
below are the ways a branch of the C goes; a function's lemma has one rule per branch. -/
structure Run (ρ : Nat → Reply) {α : Type} (bad : α → Prop) (s : St) (r : St × α) : Prop where
  keeps : Keeps ρ s r.1
  fail : Surfaces ρ bad s r

namespace Run
variable {ρ : Nat → Reply} {α : Type} {bad : α → Prop} {s : St}

theorem ret {x : α} : Run ρ bad s (s, x) := ⟨.refl s, .none⟩

/-- one call, whatever the reply, and a `bad` result -/
theorem stop {s' : St} {x : α} (k : Keeps ρ s s') (hs : s'.calls = s.calls + 1) (h : bad x) : Run ρ bad s (s', x) :=
  ⟨k, .of_bad (by omega) h⟩

/-- one call that did not fail, then `r`.  (The continuation comes first: it fixes the state `s1` before the `Keeps`
rule for the call is elaborated.) -/
theorem call {s1 : St} {r : St × α} (h : Run ρ bad s1 r) (k : Keeps ρ s s1) (hs : s1.calls = s.calls + 1)
    (hne : ρ s.calls ≠ .fail) : Run ρ bad s r :=
  ⟨k.trans h.keeps, .call hs hne h.fail⟩

theorem last {s' : St} {x : α} (k : Keeps ρ s s') (hs : s'.calls = s.calls + 1) (hne : ρ s.calls ≠ .fail) :
    Run ρ bad s (s', x) :=
  call ret k hs hne

theorem seq {β : Type} {bad₁ : β → Prop} {r₁ : St × β} {r : St × α} (h₁ : Run ρ bad₁ s r₁) (h : Run ρ bad r₁.1 r)
    (himp : bad₁ r₁.2 → bad r.2) : Run ρ bad s r :=
  ⟨h₁.keeps.trans h.keeps, h₁.fail.seq h.fail himp⟩

end Run

/-! ## the functions that do not write: one `Run` each, `Keeps` for the two loops that return no result -/

theorem prepareWrite_run (ρ : Nat → Reply) (s : St) (ok : OutKind) (name : String) :
    Run ρ (· = Prep.err) s (prepareWrite ρ s ok name) := by
  fun_cases prepareWrite ρ s ok name with
  | case1 => exact .ret
  | case2 => exact .stop (.emit rfl) rfl rfl
  | case3 _ hnone x hne => exact .last (.opened (x := x) (findKey_none hnone) ⟨rfl, rfl⟩ rfl rfl) rfl hne

theorem flushLoop_run (ρ : Nat → Reply) (ok : OutKind) (name : Option String) (l : List Strm) (s : St) (found : Bool) :
    Run ρ (· = FlushRes.herr) s (flushLoop ρ ok name l s found) := by
  fun_induction flushLoop ρ ok name l s found with
  | case1 => exact .ret
  | case2 => exact .stop (.emit rfl) rfl rfl
  | case3 x xs s found hm hρ ih => exact .call ih (.emit rfl) rfl hρ
  | case4 x xs s found hm ih => exact ih

theorem flushio_run (ρ : Nat → Reply) (s : St) (ok : OutKind) (name : Option String) :
    Run ρ (· = FlushRes.herr) s (flushio ρ s ok name) :=
  flushLoop_run ρ ok name _ s false

theorem flushLoop_chain (ρ : Nat → Reply) (ok : OutKind) (name : Option String) (l : List Strm) (s : St) (found : Bool) :
    (flushLoop ρ ok name l s found).1.chain = s.chain := by
  fun_induction flushLoop ρ ok name l s found with
  | case1 => rfl
  | case2 => rfl
  | case3 x xs s found hm hρ ih => exact ih
  | case4 x xs s found hm ih => exact ih

theorem nextReq_run (ρ : Nat → Reply) (s : St) (x : Strm) : Run ρ (· = -1) s (nextReq ρ s x) := by
  unfold nextReq
  split
  · exact .stop (.emit rfl) rfl rfl
  · next hρ =>
    refine .last (.emit_modify (e := .nx x.sid x.key .eof) rfl _ _ (fun _ => rfl) (fun _ h => h) (fun ha => ?_)) rfl
      (by rw [hρ]; simp)
    obtain ⟨k, hk⟩ := ha s.calls
    rw [hk] at hρ
    cases hρ
  · next k hρ =>
    exact .last (.next_ok x.sid k _ _ (fun _ => rfl) (fun y hp hne => absurd ((hasKey_iff _ _).mp hp) hne)
      (fun _ h => ⟨rfl, h.2⟩)) rfl (by rw [hρ]; simp)

theorem nextioWrite_run (ρ : Nat → Reply) (s : St) (ok : OutKind) (name : String) :
    Run ρ (· = -1) s (nextioWrite ρ s ok name) := by
  fun_cases nextioWrite ρ s ok name with
  | case1 => exact .ret
  | case2 => exact .ret
  | case3 => exact .stop (.emit rfl) rfl rfl
  | case4 x _ _ hne => exact .call (nextReq_run ρ _ x) (.emit rfl) rfl hne

theorem preFlush_run (ρ : Nat → Reply) (s : St) (x : Strm) : Run ρ (· = true) s (preFlush ρ s x) := by
  unfold preFlush
  split
  · cases hρ : ρ s.calls with
    | fail => exact .stop (.emit rfl) rfl rfl
    | _ => exact .last (.emit rfl) rfl (by rw [hρ]; simp)
  · exact .ret

theorem preFlush_chain (ρ : Nat → Reply) (s : St) (x : Strm) : (preFlush ρ s x).1.chain = s.chain := by
  unfold preFlush
  split <;> rfl

theorem closeMode_half {opt : Option Bool} {x : Strm} {m : Rwc} (h : closeMode opt x = some m) (hne : m ≠ .full) :
    x.key.mask = .rw ∧ x.rwcstate = .full := by
  unfold closeMode at h
  cases opt with
  | none => simp at h; exact absurd h.symm hne
  | some o =>
    cases o <;> cases hs : x.rwcstate <;> cases hm : x.key.mask <;> simp_all

theorem closeReq_run (ρ : Nat → Reply) {s : St} (name : String) (opt : Option Bool) (x : Strm) (ffail : Bool)
    (hx : s.chain.find? (closeHit name opt) = some x) :
    Run ρ (· = -1) s (closeReq ρ s name opt x ffail) ∧ (ffail = true → (closeReq ρ s name opt x ffail).2 = -1) := by
  unfold closeReq
  simp only
  split
  · exact ⟨.stop (.emit (by simp [Ev.neutral])) rfl rfl, fun _ => rfl⟩
  · next hne =>
    split
    · next hc =>
      refine ⟨.last (.emit_modify (e := .cl x.sid x.key ((closeMode opt x).getD .full) true false) ?_ _ _ (fun _ => rfl)
        (fun _ h => h) (fun _ _ h => h)) rfl hne, fun h => by simp [h]⟩
      simp [Ev.neutral, hc.2.2]
    · next hc =>
      refine ⟨.last ?_ rfl hne, fun h => by simp [h]⟩
      by_cases hm : (closeMode opt x).getD .full = .full
      · rw [hm]
        exact .closed hx true false rfl
      · -- a half close that removes the node does not occur
        exfalso
        apply hc
        cases hcm : closeMode opt x with
        | none => simp [hcm] at hm
        | some m =>
          simp only [hcm, Option.getD_some] at hm ⊢
          exact ⟨(closeMode_half hcm hm).1, (closeMode_half hcm hm).2, hm⟩

theorem closeio_run (ρ : Nat → Reply) (s : St) (name : String) (opt : Option Bool) :
    Run ρ (· = -1) s (closeio ρ s name opt) := by
  unfold closeio
  split
  · exact .ret
  · next x hx =>
    have hc := closeReq_run ρ name opt x (preFlush ρ s x).2 (by rw [preFlush_chain ρ s x]; exact hx)
    exact (preFlush_run ρ s x).seq hc.1 hc.2

theorem closeio_miss (ρ : Nat → Reply) (s : St) (name : String) (opt : Option Bool)
    (h : ∀ y ∈ s.chain, closeHit name opt y = false) : closeio ρ s name opt = (s, -1) := by
  rw [closeio, List.find?_eq_none.mpr fun y hy => ne_true_of_eq_false (h y hy)]

theorem readLoop_run (ρ : Nat → Reply) (con : Bool) (sid : Nat) (key : Key) (fuel : Nat) (eof : Bool) (s : St) :
    Run ρ (· = -1) s (readLoop ρ con sid key fuel eof s) := by
  fun_induction readLoop ρ con sid key fuel eof s with
  | case1 => exact .ret
  | case2 => exact .ret
  | case3 => exact .stop (.emit rfl) rfl rfl
  | case4 fuel s hc hρ =>
    exact .last (.emit_modify (e := .nx sid key .eof) rfl _ _ (fun _ => rfl) (fun _ h => h) (fun _ _ h => h)) rfl
      (by rw [hρ]; simp)
  | case5 fuel s hc j hρ s1 ih =>
    exact .call ih (.next_ok sid j _ _ (fun _ => rfl) (fun _ _ _ h => h) (fun _ h => h)) rfl (by rw [hρ]; simp)
  | case6 => exact .stop (.emit rfl) rfl rfl
  | case7 fuel s hρ s1 ih =>
    exact .call ih (.emit_modify (e := .rd sid key .eof) rfl _ _ (fun _ => rfl) (fun _ h => h) (fun _ _ h => h)) rfl
      (by rw [hρ]; simp)
  | case8 fuel s j hρ => exact .last (.emit rfl) rfl (by rw [hρ]; simp)

theorem readRec_run (ρ : Nat → Reply) (fuel : Nat) (con : Bool) (s : St) (x : Strm) :
    Run ρ (· = -1) s (readRec ρ fuel con s x) := by
  unfold readRec
  split
  · exact .ret
  · exact readLoop_run ρ con x.sid x.key fuel x.inEof s

theorem readio_run (ρ : Nat → Reply) (fuel : Nat) (s : St) (ik : InKind) (name : String) :
    Run ρ (· = -1) s (readio ρ fuel s ik name) := by
  fun_cases readio ρ fuel s ik name with
  | case1 _ x => exact readRec_run ρ fuel _ s x
  | case2 => exact .stop (.emit rfl) rfl rfl
  | case3 _ hnone x hne =>
    exact .call (readRec_run ρ fuel _ _ _) (.opened (x := x) (findKey_none hnone) ⟨rfl, rfl⟩ rfl rfl) rfl hne

theorem readLoop_fuel_mono (ρ : Nat → Reply) (con : Bool) (sid : Nat) (key : Key) (fuel : Nat) (eof : Bool) (s : St)
    (h : (readLoop ρ con sid key fuel eof s).2 ≠ -2) :
    readLoop ρ con sid key (fuel + 1) eof s = readLoop ρ con sid key fuel eof s := by
  fun_induction readLoop ρ con sid key fuel eof s with
  | case1 => exact absurd rfl h
  | case2 fuel s hc => rw [readLoop, if_pos hc]
  | case3 fuel s hc hρ => rw [readLoop, if_neg hc, hρ]
  | case4 fuel s hc hρ => rw [readLoop, if_neg hc, hρ]
  | case5 fuel s hc j hρ s1 ih => rw [readLoop, if_neg hc, hρ]; exact ih h
  | case6 fuel s hρ => rw [readLoop, hρ]
  | case7 fuel s hρ s1 ih => rw [readLoop, hρ]; exact ih h
  | case8 fuel s j hρ => rw [readLoop, hρ]

theorem readLoop_hang_calls (ρ : Nat → Reply) (con : Bool) (sid : Nat) (key : Key) (fuel : Nat) (eof : Bool) (s : St)
    (h : (readLoop ρ con sid key fuel eof s).2 = -2) :
    (readLoop ρ con sid key fuel eof s).1.calls = s.calls + fuel ∧ (2 ≤ fuel → con = true) ∧
      ¬ FailedIn ρ s.calls (readLoop ρ con sid key fuel eof s).1.calls := by
  refine and_assoc.mp ⟨?_, fun hf => absurd ((readLoop_run ρ con sid key fuel eof s).fail.surfaces hf) (by rw [h]; decide)⟩
  fun_induction readLoop ρ con sid key fuel eof s with
  | case1 => exact ⟨rfl, fun h => absurd h (by decide)⟩
  | case2 => cases h
  | case3 => cases h
  | case4 => cases h
  | case5 fuel s hc j hρ s1 ih => exact ⟨by rw [(ih h).1]; simp [s1]; omega, fun _ => by simpa using hc⟩
  | case6 => cases h
  | case7 fuel s hρ s1 ih =>
    refine ⟨by rw [(ih h).1]; simp [s1]; omega, fun h2 => ?_⟩
    -- the recursive call starts at EOF: with fuel ≥ 1 left it returns 0 at once unless the input is the console
    cases fuel with
    | zero => omega
    | succ f =>
      unfold readLoop at h
      split at h
      · cases h
      · next hc => simpa using hc
  | case8 => cases h

theorem readio_fuel_mono (ρ : Nat → Reply) (fuel : Nat) (s : St) (ik : InKind) (name : String)
    (h : (readio ρ fuel s ik name).2 ≠ -2) : readio ρ (fuel + 1) s ik name = readio ρ fuel s ik name := by
  unfold readio at h ⊢
  simp only at h ⊢
  split
  · next x hx =>
    simp only [hx] at h
    unfold readRec at h ⊢
    split
    · rfl
    · next hne => simp only [hne] at h; exact readLoop_fuel_mono _ _ _ _ _ _ _ h
  · next hnone =>
    simp only [hnone] at h
    split
    · rfl
    · next hne =>
      unfold readRec at h ⊢
      simp only [Bool.false_eq_true, if_false] at h ⊢
      exact readLoop_fuel_mono _ _ _ _ _ _ _ h

theorem readio_fuel_add (ρ : Nat → Reply) (fuel extra : Nat) (s : St) (ik : InKind) (name : String)
    (h : (readio ρ fuel s ik name).2 ≠ -2) : readio ρ (fuel + extra) s ik name = readio ρ fuel s ik name := by
  induction extra with
  | zero => rfl
  | succ e ih =>
    rw [← Nat.add_assoc, readio_fuel_mono ρ (fuel + e) s ik name (by rw [ih]; exact h), ih]

theorem fflushFold_run (ρ : Nat → Reply) (name : Option String) (ks : List OutKind) (s : St) (n : Int) :
    Run ρ (· = -1) s (fflushFold ρ name ks s n) ∧ (n = -1 → (fflushFold ρ name ks s n).2 = -1) := by
  induction ks generalizing s n with
  | nil => exact ⟨.ret, fun h => h⟩
  | cons k ks ih =>
    unfold fflushFold
    simp only
    refine ⟨(flushio_run ρ s k name).seq (ih _ _).1 (fun h => (ih _ _).2 (by rw [h])), fun h => (ih _ _).2 ?_⟩
    subst h
    cases (flushio ρ s k name).2 <;> simp

theorem flushallLoop_spec (ρ : Nat → Reply) (l : List Strm) (s : St) :
    Keeps ρ s (flushallLoop ρ l s) ∧ (flushallLoop ρ l s).chain = s.chain ∧
      (flushallLoop ρ l s).calls = s.calls + l.length := by
  induction l generalizing s with
  | nil => exact ⟨.refl s, rfl, rfl⟩
  | cons x xs ih =>
    obtain ⟨h1, h2, h3⟩ := ih (s.emit (.fl x.sid x.key (!(ρ s.calls).isFail)))
    exact ⟨(Keeps.emit rfl).trans h1, h2, by rw [flushallLoop, h3]; simp; omega⟩

theorem flushall_keeps (ρ : Nat → Reply) (s : St) : Keeps ρ s (flushall ρ s) := (flushallLoop_spec ρ _ s).1

/-- the invariant of the loop: a stream that is flushed stays so, and every node passed becomes so -/
theorem flushallLoop_flushes (ρ : Nat → Reply) (l : List Strm) (s : St) (sid : Nat)
    (h : flushedSinceWrite sid s.log = true ∨ sid ∈ sids l) : flushedSinceWrite sid (flushallLoop ρ l s).log = true := by
  induction l generalizing s with
  | nil => exact h.resolve_right (by simp [sids])
  | cons x xs ih =>
    refine ih _ ?_
    simp only [emit_log, flushedSinceWrite]
    by_cases hx : x.sid = sid
    · exact .inl (if_pos hx)
    · rw [if_neg hx]
      exact h.imp_right fun hm => (List.mem_cons.mp hm).resolve_left (Ne.symm hx)

/-- the FLUSH to the `i`-th node of `l` is handler call `c + i` -/
theorem flushallFails_eq_any (ρ : Nat → Reply) (l : List Strm) (c : Nat) :
    flushallFails ρ l c = (l.zipIdx c).any fun p => (ρ p.2).isFail && p.1.hasWriteSide := by
  induction l generalizing c with
  | nil => rfl
  | cons x xs ih => simp [flushallFails, List.zipIdx_cons, ih]

theorem flushallFails_allAccept {ρ : Nat → Reply} (hρ : AllAccept ρ) (l : List Strm) (c : Nat) :
    flushallFails ρ l c = false := by
  rw [flushallFails_eq_any, List.any_eq_false]
  intro p _
  obtain ⟨k, hk⟩ := hρ p.2
  simp [hk, Reply.isFail]

theorem flushallFails_of {ρ : Nat → Reply} {l : List Strm} {c i : Nat} {x : Strm} (hx : l[i]? = some x)
    (hw : x.hasWriteSide = true) (hf : ρ (c + i) = .fail) : flushallFails ρ l c = true := by
  rw [flushallFails_eq_any, List.any_eq_true]
  exact ⟨(x, c + i), List.mem_zipIdx_iff_le_and_getElem?_sub.mpr ⟨by simp, by simpa using hx⟩,
    by simp [hf, hw, Reply.isFail]⟩

theorem clearLoop_keeps (ρ : Nat → Reply) (l : List Strm) (s : St) (hl : s.chain = l) :
    Keeps ρ s (clearLoop ρ l s) ∧ (clearLoop ρ l s).chain = [] := by
  induction l generalizing s with
  | nil =>
    unfold clearLoop
    have : ({ s with chain := [] } : St) = s := by cases s; simp_all
    rw [this]; exact ⟨.refl s, hl⟩
  | cons x xs ih =>
    unfold clearLoop
    have hf : s.chain.find? (fun _ => true) = some x := by rw [hl]; rfl
    have hk := Keeps.closed (ρ := ρ) hf (!(ρ s.calls).isFail) true (by simp)
    rw [show s.chain.eraseP (fun _ => true) = xs by rw [hl]; rfl] at hk
    exact ⟨hk.trans (ih _ rfl).1, (ih _ rfl).2⟩

theorem clearall_keeps (ρ : Nat → Reply) (s : St) : Keeps ρ s (clearall ρ s) ∧ (clearall ρ s).chain = [] :=
  clearLoop_keeps ρ _ s rfl

theorem clearall_balanced (ρ : Nat → Reply) {s : St} (h : Inv s) (k : Key) :
    (clearall ρ s).chain = [] ∧ opens k (clearall ρ s).log = closes k (clearall ρ s).log := by
  have hc := clearall_keeps ρ s
  refine ⟨hc.2, ?_⟩
  rw [(hc.1.inv h).balance k, hc.2]; rfl

theorem writeio_skip (ρ : Nat → Reply) (s : St) (ok : OutKind) (name : String) (b : Bool) (d : List Char) {x : Strm}
    (hf : findKey s.chain (ok.key name) = some x) (hflag : x.outEof = true ∨ x.outEos = true) :
    writeio ρ s ok name b d = (s, 0) := by
  have : (x.outEos || x.outEof) = true := by rcases hflag with h | h <;> simp [h]
  simp [writeio, prepareWrite, hf, this]

/-- The contract of a write, what `hawk_rtx_writeio*` promises its callers: `r` is the outcome of offering `data` to
the stream registered under `key`, started in `s`. -/
structure Wrote (ρ : Nat → Reply) (key : Key) (data : List Char) (s : St) (r : St × Int) : Prop where
  inv : Inv s → Inv r.1
  delivers : ∃ d, d <+: data ∧ (∀ k, delivered k r.1.log = delivered k s.log ++ (if key = k then d else [])) ∧
    (r.2 = 1 → d = data) ∧ (r.2 = 1 ∨ r.2 = 0 ∨ r.2 = -1)
  fail : Surfaces ρ (· = -1) s r
  accept : AllAccept ρ → NoFlags s → r.2 = 1 ∧ NoFlags r.1
  /-- 0 means the stream is at its end, and the node the next write will find is marked so -/
  zero : r.2 = 0 → ∃ y, findKey r.1.chain key = some y ∧ (y.outEof = true ∨ y.outEos = true)

/-- `x` is the node `prepare_for_write_io_data` found or made -/
theorem writeLoop_spec (ρ : Nat → Reply) (sid : Nat) (key : Key) (b : Bool) (rem : List Char) (s : St) {x : Strm}
    (hf : findKey s.chain key = some x) (hx : x.outEof = false) :
    Wrote ρ key rem s (writeLoop ρ sid key b rem s) := by
  fun_induction writeLoop ρ sid key b rem s with
  | case1 s =>
    exact ⟨id, ⟨[], List.prefix_rfl, by simp, fun _ => rfl, .inl rfl⟩, .none, fun _ hn => ⟨rfl, hn⟩, by simp⟩
  | case2 s c cs hρ =>
    refine ⟨fun h => by simpa using h.wrote hf hx sid b (c :: cs) .fail,
      ⟨[], List.nil_prefix, by simp [Ev.slice], by simp, .inr (.inr rfl)⟩, .of_bad (by simp) rfl, fun ha _ => ?_, by simp⟩
    obtain ⟨k, hk⟩ := ha s.calls
    rw [hk] at hρ
    cases hρ
  | case3 s c cs hρ s1 =>
    refine ⟨fun h => by have := h.wrote hf hx sid b (c :: cs) .eof; simp only [if_true] at this; exact this,
      ⟨[], List.nil_prefix, by simp [s1, Ev.slice], by simp, .inr (.inl rfl)⟩, .call rfl (by rw [hρ]; simp) .none, fun ha _ => ?_,
      fun _ => ⟨_, findKey_modifyFirst (fun y => { y with outEof := true }) (fun _ => rfl) hf, .inl rfl⟩⟩
    obtain ⟨k, hk⟩ := ha s.calls
    rw [hk] at hρ
    cases hρ
  | case4 s c cs k hρ ih =>
    have ih := ih (by simpa using hf)
    obtain ⟨d, hd, hdel, hfull, hres⟩ := ih.delivers
    refine ⟨fun h => ih.inv (by simpa using h.wrote hf hx sid b (c :: cs) (.accept k)),
      ⟨(c :: cs).take (k + 1) ++ d, ?_, fun k' => ?_, fun h1 => ?_, hres⟩, .call rfl (by rw [hρ]; simp) ih.fail,
      fun ha hn => ih.accept ha (hn.same rfl), ih.zero⟩
    · obtain ⟨t, ht⟩ := hd
      exact ⟨t, by simp only [List.take_succ_cons, List.cons_append, List.append_assoc, ht, List.take_append_drop]⟩
    · rw [hdel k']
      by_cases hk : key = k' <;> simp [Ev.slice, hk]
    · rw [hfull h1, show cs.drop k = (c :: cs).drop (k + 1) from rfl, List.take_append_drop]

/-- for the OPEN of `prepare_for_write_io_data` in front of the re-offer loop -/
theorem Wrote.after {ρ : Nat → Reply} {key : Key} {data : List Char} {s : St} {r : St × Int} {β : Type} {bad : β → Prop}
    {p : St × β} (hp : Run ρ bad s p) (hw : Wrote ρ key data p.1 r) (himp : bad p.2 → r.2 = -1) : Wrote ρ key data s r := by
  obtain ⟨d, hd, hdel, hrest⟩ := hw.delivers
  exact ⟨fun h => hw.inv (hp.keeps.inv h), ⟨d, hd, fun k => by rw [hdel k, hp.keeps.quiet k], hrest⟩,
    hp.fail.seq hw.fail himp, fun ha hn => hw.accept ha (hp.keeps.noFlags ha hn), hw.zero⟩

theorem writeio_spec (ρ : Nat → Reply) (s : St) (ok : OutKind) (name : String) (b : Bool) (data : List Char) :
    Wrote ρ (ok.key name) data s (writeio ρ s ok name b data) := by
  have hp := prepareWrite_run ρ s ok name
  cases hfk : findKey s.chain (ok.key name) with
  | some y =>
    by_cases hflag : y.outEof = true ∨ y.outEos = true
    · rw [writeio_skip ρ s ok name b data hfk hflag]
      refine ⟨id, ⟨[], List.nil_prefix, by simp, by simp, by simp⟩, .none, fun _ hn => ?_, fun _ => ⟨y, hfk, hflag⟩⟩
      have := hn y (findKey_some hfk).1
      simp [this.1, this.2] at hflag
    · simp only [not_or, Bool.not_eq_true] at hflag
      simp only [writeio, prepareWrite, hfk, hflag, Bool.or_self, Bool.false_eq_true, if_false, (findKey_some hfk).2]
      exact writeLoop_spec ρ y.sid (ok.key name) b data s hfk hflag.1
  | none =>
    cases hρ : ρ s.calls with
    | fail =>
      simp only [writeio, prepareWrite, hfk, hρ] at hp ⊢
      refine ⟨hp.keeps.inv, ⟨[], List.nil_prefix, by simpa using hp.keeps.quiet, by simp, by simp⟩, .of_bad hp.fail.le rfl,
        fun ha _ => ?_, by simp⟩
      obtain ⟨k, hk⟩ := ha s.calls
      rw [hk] at hρ
      cases hρ
    | _ =>
      simp only [writeio, prepareWrite, hfk, hρ] at hp ⊢
      exact (writeLoop_spec ρ _ (ok.key name) b data _ (x := { key := ok.key name, mode := ok.mode, sid := s.nopen + 1 })
        (by simp [findKey, hasKey]) rfl).after hp nofun

theorem writeLoop_eof (ρ : Nat → Reply) (sid : Nat) (key : Key) (b : Bool) (rem : List Char) (s : St)
    (h : EofIn ρ s.calls (writeLoop ρ sid key b rem s).1.calls) : (writeLoop ρ sid key b rem s).2 = 0 := by
  fun_induction writeLoop ρ sid key b rem s with
  | case1 s => obtain ⟨i, h1, h2, -⟩ := h; simp only at h2; omega
  | case2 s c cs hρ =>
    obtain ⟨i, h1, h2, h3⟩ := h
    simp at h2
    have : i = s.calls := by omega
    subst this; rw [hρ] at h3; cases h3
  | case3 s c cs hρ s1 => rfl
  | case4 s c cs k hρ ih =>
    apply ih
    obtain ⟨i, h1, h2, h3⟩ := h
    have : i ≠ s.calls := by rintro rfl; rw [hρ] at h3; cases h3
    exact ⟨i, by simp; omega, h2, h3⟩

def piecesData (ps : List (Bool × List Char)) : List Char := (ps.map (·.2)).flatten

/-- the text a statement prints to key `k`: the items separated by OFS and terminated by ORS for
`print`, the (%-free) format for `printf` -/
def stmtPayload (cfg : Cfg) (k : Key) : Stmt → List Char
  | .print ok name _ none => if ok.key name = k then cfg.ors else []
  | .print ok name _ (some items) => if ok.key name = k then (items.intersperse cfg.ofs).flatten ++ cfg.ors else []
  | .printf ok name _ d => if ok.key name = k then d else []
  | _ => []

def progPayload (cfg : Cfg) (k : Key) (prog : List Stmt) : List Char := (prog.map (stmtPayload cfg k)).flatten

theorem piecesData_go (cfg : Cfg) (b : Bool) (items : List (List Char)) :
    piecesData (printPieces.go cfg b items false) = (items.map (fun i => cfg.ofs ++ i)).flatten := by
  induction items with
  | nil => simp [printPieces.go, piecesData]
  | cons i is ih =>
    simp only [piecesData] at ih
    simp [printPieces.go, piecesData, ih]

theorem flatten_intersperse (sep : List Char) (i : List Char) (is : List (List Char)) :
    ((i :: is).intersperse sep).flatten = i ++ (is.map (fun j => sep ++ j)).flatten := by
  induction is generalizing i with
  | nil => simp
  | cons j js ih => simp [List.intersperse, ih j]

theorem piecesData_printPieces (cfg : Cfg) (b : Bool) (items : Option (List (List Char))) :
    piecesData (printPieces cfg b items) =
      match items with
      | none => cfg.ors
      | some l => (l.intersperse cfg.ofs).flatten ++ cfg.ors := by
  cases items with
  | none => simp [printPieces, piecesData]
  | some l =>
    cases l with
    | nil => simp [printPieces, printPieces.go, piecesData]
    | cons i is =>
      have h := piecesData_go cfg b is
      simp only [piecesData] at h
      simp only [printPieces, printPieces.go, piecesData, flatten_intersperse]
      simp [h]

theorem writePieces_skip (ρ : Nat → Reply) (tol : Bool) (ok : OutKind) (name : String) (ps : List (Bool × List Char))
    (s : St) (failed : Bool) {x : Strm} (hf : findKey s.chain (ok.key name) = some x)
    (hflag : x.outEof = true ∨ x.outEos = true) : writePieces ρ tol ok name ps s failed = (s, some failed) := by
  induction ps with
  | nil => rfl
  | cons p ps ih => rw [writePieces, writeio_skip ρ s ok name p.1 p.2 hf hflag]; exact ih

/-- The contract of `run_print`'s chain of writes to `key`, started in `s` with the failure flag `failed`.  It is not
`Wrote` on the concatenated pieces: in tolerant mode the pieces after a failed one are still written, so what arrives
need not be a prefix. -/
structure WrotePieces (ρ : Nat → Reply) (tol : Bool) (key : Key) (ps : List (Bool × List Char)) (failed : Bool) (s : St)
    (r : St × Option Bool) : Prop where
  inv : Inv s → Inv r.1
  fail : Surfaces ρ (fun x => x = none ∨ x = some true) s r
  sticky : failed = true → r.2 = none ∨ r.2 = some true
  /-- non-tolerant runs never report a failure they have survived -/
  strict : tol = false → failed = false → r.2 ≠ some true
  accept : AllAccept ρ → NoFlags s → r.2 = some failed ∧ NoFlags r.1
  full : r.2 = some false → (∀ y ∈ r.1.chain, y.key = key → y.outEof = false ∧ y.outEos = false) →
    ∀ k, delivered k r.1.log = delivered k s.log ++ (if key = k then piecesData ps else [])

theorem writePieces_spec (ρ : Nat → Reply) (tol : Bool) (ok : OutKind) (name : String) (ps : List (Bool × List Char))
    (s : St) (failed : Bool) :
    WrotePieces ρ tol (ok.key name) ps failed s (writePieces ρ tol ok name ps s failed) := by
  fun_induction writePieces ρ tol ok name ps s failed with
  | case1 s failed =>
    exact ⟨id, .none, fun h => .inr (by simp [h]), fun _ h => by simp [h], fun _ hn => ⟨rfl, hn⟩,
      fun _ _ k => by simp [piecesData]⟩
  | case2 b d ps s failed r hr ht ih =>
    -- a failure in tolerant mode: `failed` is set and stays set
    have W := writeio_spec ρ s ok name b d
    have hbad := ih.sticky rfl
    refine ⟨fun h => ih.inv (W.inv h), .of_bad (Nat.le_trans W.fail.le ih.fail.le) hbad, fun _ => hbad,
      fun h => by simp [h] at ht, fun ha hn => absurd ((W.accept ha hn).1 ▸ hr) (by decide), fun h => ?_⟩
    rw [h] at hbad
    simp at hbad
  | case3 b d ps s failed r hr ht =>
    have W := writeio_spec ρ s ok name b d
    exact ⟨W.inv, .of_bad W.fail.le (.inl rfl), fun _ => .inl rfl, fun _ _ => by simp,
      fun ha hn => absurd ((W.accept ha hn).1 ▸ hr) (by decide), fun h => by cases h⟩
  | case4 b d ps s failed r hr ih =>
    have W := writeio_spec ρ s ok name b d
    refine ⟨fun h => ih.inv (W.inv h), W.fail.seq ih.fail (fun h => ?_), ih.sticky, ih.strict,
      fun ha hn => ih.accept ha (W.accept ha hn).2, fun hres hclear k => ?_⟩
    · rw [show r.2 = -1 from h] at hr
      exact absurd (by decide) hr
    · obtain ⟨d', -, hdel, hfull, h1 | h0 | hm⟩ := W.delivers
      · rw [ih.full hres hclear k, hdel k, hfull h1]
        by_cases hk : ok.key name = k <;> simp [hk, piecesData]
      · -- the stream is at "end of stream": everything after is skipped, so the flag is still set at the end
        exfalso
        obtain ⟨y, hy, hyf⟩ := W.zero h0
        rw [writePieces_skip ρ tol ok name ps r.1 failed hy hyf] at hclear
        have := hclear y (findKey_some hy).1 (findKey_some hy).2
        simp [this.1, this.2] at hyf
      · exact absurd (show r.2 ≤ -1 by rw [show r.2 = -1 from hm]; decide) hr

def Stmt.out : Stmt → Option Key
  | .print ok name _ _ => some (ok.key name)
  | .printf ok name _ _ => some (ok.key name)
  | _ => none

/-- The contract of a statement: `r` is the outcome of `st` started in `s`. -/
structure StmtRun (ρ : Nat → Reply) (cfg : Cfg) (st : Stmt) (s : St) (r : St × SRes) : Prop where
  inv : Inv s → Inv r.1
  fail : Surfaces ρ (fun x => x = .runerr ∨ x = .val (-1)) s r
  accept : AllAccept ρ → NoFlags s →
    NoFlags r.1 ∧ ∀ k, delivered k r.1.log = delivered k s.log ++ stmtPayload cfg k st
  /-- never success with characters missing, unless the stream is at its end -/
  full : (∀ key, st.out = some key →
      (r.2 = .unit ∨ r.2 = .val 0) ∧ ∀ y ∈ r.1.chain, y.key = key → y.outEof = false ∧ y.outEos = false) →
    ∀ k, delivered k r.1.log = delivered k s.log ++ stmtPayload cfg k st

theorem StmtRun.of_run {ρ : Nat → Reply} {cfg : Cfg} {st : Stmt} {s : St} {β : Type} {bad : β → Prop} {p : St × β}
    (h : Run ρ bad s p) {x : SRes} (hbad : bad p.2 → x = .runerr ∨ x = .val (-1)) (hpay : ∀ k, stmtPayload cfg k st = []) :
    StmtRun ρ cfg st s (p.1, x) :=
  have q : ∀ k, delivered k p.1.log = delivered k s.log ++ stmtPayload cfg k st := fun k => by
    rw [h.keeps.quiet, hpay, List.append_nil]
  ⟨h.keeps.inv, ⟨h.fail.le, fun hf => hbad (h.fail.surfaces hf)⟩, fun ha hn => ⟨h.keeps.noFlags ha hn, q⟩, fun _ => q⟩

/-- `print` and `printf` alike: the pieces are written (outcome `(s1, res)`), then calls that do not write and leave the
chain alone are made (`printf`'s FLUSH, outcome `(s2, y)`), and the result `x` reports a failure of either and reports
success only if no piece failed -/
theorem StmtRun.pieces {ρ : Nat → Reply} {cfg : Cfg} {st : Stmt} {s s1 s2 : St} {key : Key} {ps : List (Bool × List Char)}
    {tol : Bool} {res : Option Bool} (W : WrotePieces ρ tol key ps false s (s1, res)) (hout : st.out = some key)
    (hpay : ∀ k, stmtPayload cfg k st = if key = k then piecesData ps else [])
    {β : Type} {bad : β → Prop} {y : β} (F : Run ρ bad s1 (s2, y)) (hc : s2.chain = s1.chain) {x : SRes}
    (hb : res = none ∨ res = some true ∨ bad y → x = .runerr ∨ x = .val (-1))
    (hg : x = .unit ∨ x = .val 0 → res = some false) : StmtRun ρ cfg st s (s2, x) := by
  have full : res = some false → (∀ y ∈ s1.chain, y.key = key → y.outEof = false ∧ y.outEos = false) →
      ∀ k, delivered k s2.log = delivered k s.log ++ stmtPayload cfg k st := fun h0 hclear k => by
    rw [F.keeps.quiet, W.full h0 hclear k, hpay]
  refine ⟨fun h => F.keeps.inv (W.inv h), ?_, fun ha hn => ?_, fun h => ?_⟩
  · have := W.fail.seq (bad := fun z => res = none ∨ res = some true ∨ bad z) ⟨F.fail.le, fun h => .inr (.inr (F.fail.surfaces h))⟩
      (fun h => h.elim .inl (fun h => .inr (.inl h)))
    exact ⟨this.le, fun h => hb (this.surfaces h)⟩
  · have hacc := W.accept ha hn
    exact ⟨F.keeps.noFlags ha hacc.2, full hacc.1 (fun y hy _ => hacc.2 y hy)⟩
  · have := h key hout
    exact full (hg this.1) (by rw [← hc]; exact this.2)

theorem stmt_print_spec (ρ : Nat → Reply) (cfg : Cfg) (s : St) (ok : OutKind) (name : String) (bytes : Bool)
    (items : Option (List (List Char))) :
    StmtRun ρ cfg (.print ok name bytes items) s (stmt ρ cfg s (.print ok name bytes items)) := by
  have W := writePieces_spec ρ cfg.tolerant ok name (printPieces cfg bytes items) s false
  have hpay : ∀ k, stmtPayload cfg k (.print ok name bytes items) =
      if ok.key name = k then piecesData (printPieces cfg bytes items) else [] := fun k => by
    rw [piecesData_printPieces]; cases items <;> rfl
  have E {s1 : St} : Run ρ (fun _ : Unit => False) s1 (s1, ()) := .ret
  rw [stmt]
  generalize writePieces ρ cfg.tolerant ok name (printPieces cfg bytes items) s false = r at W
  rcases r with ⟨s1, _ | f⟩
  · exact .pieces W rfl hpay E rfl (fun _ => .inl rfl) (by decide)
  · -- `some true` only arises in tolerant mode
    cases ht : cfg.tolerant with
    | true => exact .pieces W rfl hpay E rfl (by simp) (by cases f <;> simp)
    | false =>
      have := W.strict ht rfl
      exact .pieces W rfl hpay E rfl (by simpa using this) (fun _ => by simpa using this)

theorem stmt_printf_spec (ρ : Nat → Reply) (cfg : Cfg) (s : St) (ok : OutKind) (name : String) (bytes : Bool)
    (data : List Char) :
    StmtRun ρ cfg (.printf ok name bytes data) s (stmt ρ cfg s (.printf ok name bytes data)) := by
  have W := writePieces_spec ρ cfg.tolerant ok name [(bytes, data)] s false
  have hpay : ∀ k, stmtPayload cfg k (.printf ok name bytes data) =
      if ok.key name = k then piecesData [(bytes, data)] else [] := fun k => by simp [stmtPayload, piecesData]
  have E {s1 : St} : Run ρ (fun _ : Unit => False) s1 (s1, ()) := .ret
  simp only [writePieces] at W
  rw [stmt]
  generalize writeio ρ s ok name bytes data = r at W
  rcases r with ⟨s1, v⟩
  have F := flushio_run ρ s1 ok (some name)
  have hc : (flushio ρ s1 ok (some name)).1.chain = s1.chain := flushLoop_chain ρ ok (some name) _ s1 false
  generalize flushio ρ s1 ok (some name) = f at F hc
  rcases f with ⟨s2, fr⟩
  generalize cfg.tolerant = tol at W ⊢
  dsimp only at W ⊢
  by_cases h1 : v ≤ -1
  · rw [if_pos h1] at W
    cases tol
    · -- not tolerant: the failed write aborts the program, no FLUSH
      rw [if_pos ⟨h1, rfl⟩]
      exact .pieces W rfl hpay E rfl (fun _ => .inl rfl) (by decide)
    · rw [if_neg (by simp), if_neg (by simp), if_pos rfl, if_pos (.inl h1)]
      exact .pieces W rfl hpay F hc (fun _ => .inr rfl) (by decide)
  · rw [if_neg h1] at W
    rw [if_neg (fun h => h1 h.1)]
    by_cases h2 : fr = .ok
    · subst h2
      cases tol
      · rw [if_neg (fun h => h.1 rfl), if_neg Bool.false_ne_true]
        exact .pieces W rfl hpay F hc (by decide) (fun _ => rfl)
      · rw [if_neg (fun h => h.1 rfl), if_pos rfl, if_neg (by simp [h1])]
        exact .pieces W rfl hpay F hc (by decide) (fun _ => rfl)
    · cases tol
      · -- not tolerant: a FLUSH that is not `ok` aborts the program
        rw [if_pos ⟨h2, rfl⟩]
        exact .pieces W rfl hpay F hc (fun _ => .inl rfl) (by decide)
      · rw [if_neg (by simp), if_pos rfl, if_pos (.inr h2)]
        exact .pieces W rfl hpay F hc (fun _ => .inr rfl) (by decide)

theorem stmt_spec (ρ : Nat → Reply) (cfg : Cfg) (s : St) (st : Stmt) : StmtRun ρ cfg st s (stmt ρ cfg s st) := by
  cases st with
  | print ok name bytes items => exact stmt_print_spec ρ cfg s ok name bytes items
  | printf ok name bytes data => exact stmt_printf_spec ρ cfg s ok name bytes data
  | close name opt => exact .of_run (closeio_run ρ s name opt) (fun h => .inr (by simp [h])) (fun _ => rfl)
  | fflush0 =>
    exact .of_run (flushio_run ρ s .console (some "")) (fun h => .inr (by simp [h, FlushRes.code])) (fun _ => rfl)
  | fflush name =>
    exact .of_run (fflushFold_run ρ name [.file, .apfile, .pipe, .rwpipe] s 1).1 (fun h => .inr (by simp [h]))
      (fun _ => rfl)
  | getline ik name => exact .of_run (readio_run ρ cfg.readFuel s ik name) (fun h => .inr (by simp [h])) (fun _ => rfl)
  | nextofile => exact .of_run (nextioWrite_run ρ s .console "") (fun h => .inl (by simp [h])) (fun _ => rfl)

def Op.payload (k : Key) : Op → List Char
  | .write ok name _ d => if ok.key name = k then d else []
  | _ => []

theorem step_keeps (ρ : Nat → Reply) (s : St) (o : Op) :
    (∃ ok name b d, o = .write ok name b d) ∨ ((∀ k, o.payload k = []) ∧ Keeps ρ s (step ρ s o).1) := by
  cases o with
  | write ok name b d => exact .inl ⟨ok, name, b, d, rfl⟩
  | flush ok name => exact .inr ⟨fun _ => rfl, (flushio_run ρ s ok name).keeps⟩
  | next ok name => exact .inr ⟨fun _ => rfl, (nextioWrite_run ρ s ok name).keeps⟩
  | close name opt => exact .inr ⟨fun _ => rfl, (closeio_run ρ s name opt).keeps⟩
  | read ik name fuel => exact .inr ⟨fun _ => rfl, (readio_run ρ fuel s ik name).keeps⟩
  | flushall => exact .inr ⟨fun _ => rfl, flushall_keeps ρ s⟩

theorem step_inv (ρ : Nat → Reply) {s : St} (o : Op) (h : Inv s) : Inv (step ρ s o).1 := by
  rcases step_keeps ρ s o with ⟨ok, name, b, d, rfl⟩ | ⟨-, hk⟩
  · exact (writeio_spec ρ s ok name b d).inv h
  · exact hk.inv h

theorem exec_inv (ρ : Nat → Reply) (ops : List Op) {s : St} (h : Inv s) : Inv (exec ρ s ops).1 := by
  induction ops generalizing s with
  | nil => exact h
  | cons o os ih => exact ih (step_inv ρ o h)

theorem step_allAccept {ρ : Nat → Reply} (hρ : AllAccept ρ) {s : St} (hn : NoFlags s) (o : Op) :
    NoFlags (step ρ s o).1 ∧ ∀ k, delivered k (step ρ s o).1.log = delivered k s.log ++ o.payload k := by
  rcases step_keeps ρ s o with ⟨ok, name, b, d, rfl⟩ | ⟨hp, hk⟩
  · have W := writeio_spec ρ s ok name b d
    obtain ⟨d', -, hdel, hfull, -⟩ := W.delivers
    exact ⟨(W.accept hρ hn).2, fun k => (hdel k).trans (by rw [hfull (W.accept hρ hn).1]; rfl)⟩
  · exact ⟨hk.noFlags hρ hn, fun k => by rw [hk.quiet, hp, List.append_nil]⟩

theorem step_delivers (ρ : Nat → Reply) (s : St) (o : Op) (k : Key) :
    ∃ d, d <+: o.payload k ∧ ((step ρ s o).2 = 1 → d = o.payload k) ∧
      delivered k (step ρ s o).1.log = delivered k s.log ++ d := by
  rcases step_keeps ρ s o with ⟨ok, name, b, data, rfl⟩ | ⟨hp, hk⟩
  · obtain ⟨d, hpre, hdel, hfull, -⟩ := (writeio_spec ρ s ok name b data).delivers
    by_cases hk : ok.key name = k
    · exact ⟨d, by simpa [Op.payload, hk] using hpre, by simpa [Op.payload, hk, step] using hfull,
        by simp [step, hdel k, hk]⟩
    · exact ⟨[], by simp, by simp [Op.payload, hk], by simp [step, hdel k, hk]⟩
  · exact ⟨[], by rw [hp]; exact List.prefix_rfl, fun _ => (hp k).symm, by rw [hk.quiet, List.append_nil]⟩

theorem runStmts_inv (ρ : Nat → Reply) (cfg : Cfg) (prog : List Stmt) {s : St} (h : Inv s) :
    Inv (runStmts ρ cfg prog s).1 := by
  induction prog generalizing s with
  | nil => exact h
  | cons st rest ih =>
    unfold runStmts
    simp only
    split
    · exact (stmt_spec ρ cfg s st).inv h
    · exact ih ((stmt_spec ρ cfg s st).inv h)

theorem runStmts_allAccept {ρ : Nat → Reply} (hρ : AllAccept ρ) (cfg : Cfg) (prog : List Stmt) (s : St) (hn : NoFlags s) :
    ∃ n, n ≤ prog.length ∧ ((runStmts ρ cfg prog s).2 = false → n = prog.length) ∧
      ∀ k, delivered k (runStmts ρ cfg prog s).1.log = delivered k s.log ++ progPayload cfg k (prog.take n) := by
  induction prog generalizing s with
  | nil => exact ⟨0, Nat.le_refl _, fun _ => rfl, fun k => by simp [runStmts, progPayload]⟩
  | cons st rest ih =>
    have hs := (stmt_spec ρ cfg s st).accept hρ hn
    unfold runStmts
    simp only
    split
    · refine ⟨1, by simp, by simp, fun k => ?_⟩
      rw [hs.2 k]; simp [progPayload]
    · obtain ⟨n, hn1, hn2, hn3⟩ := ih (stmt ρ cfg s st).1 hs.1
      refine ⟨n + 1, by simp; omega, fun h => by simp [hn2 h], fun k => ?_⟩
      rw [hn3 k, hs.2 k]
      simp [progPayload, List.append_assoc]

end Hawk.Rio
